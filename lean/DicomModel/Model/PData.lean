/-
Model of `ul/src/association/pdata.rs`:

* `setup_pdata_header`, `PDataWriter::{new, write, flush, dispatch_pdu, finish_impl, finish, Drop}`
  driven by `std::io::Write::write_all` (one call per chunk);
* `AsyncPDataWriter::{new, poll_write, finish_impl, finish, Drop}` with its `WriteState`, against a
  scripted transport (`Ev`: `Ready n` partial write | `Pending` | `Err`), driven by tokio's
  `write_all`;
* `PDataReader::read` over a chunked source and the shared `read_buffer`, with the P-DATA branch
  of `read_pdu` (`ul/src/pdu/reader.rs`).

Bytes are `Nat`s, `u32` arithmetic is written with explicit `% 2^32`, Rust panics are explicit
results (`none` / `Res.panic`). Constants come from `Gen/UlConsts.lean` (regenerated from the source).
An independent parser of P-DATA-TF byte streams (`parseFrags`, `specOk`) is the property's oracle.
-/
import DicomModel.Model.Bytes
import DicomModel.Gen.UlConsts
namespace Dicom.PData
open Dicom.Gen.Ul

/-- 2^32 -/
def u32 : Nat := 4294967296

/-- outcome classes of an I/O operation of the writers -/
inductive Res
  | ok
  | writeZero    -- `ErrorKind::WriteZero`
  | brokenPipe   -- `finish` while a PDU write is in flight
  | io           -- error of the transport
  | panic
deriving DecidableEq, Repr

/-! ## header set-up -/

/-- the buffer made by `PDataWriter::new` / `AsyncPDataWriter::new` -/
def initBuf (ctx : Nat) : Bytes := [4, 0, 255, 255, 255, 255, 255, 255, 255, 255, ctx, 255]

/-- `setup_pdata_header(buffer, is_last)`: bytes 2..5 := PDU length, 6..9 := PDV length,
11 := message control header; `none` = panic (buffer shorter than the two headers). -/
def setupHeader (buf : Bytes) (isLast : Bool) : Option Bytes :=
  if buf.length < pduPdvHeaderSize ∨ buf.length < 12 then none
  else
    let dataLen := (buf.length - pduPdvHeaderSize) % u32
    let pduLen := (dataLen + 4 + 2) % u32
    let pdvLen := (dataLen + 2) % u32
    some (buf.take 2 ++ be32 pduLen ++ be32 pdvLen ++ (buf.drop 10).take 1
          ++ [if isLast then 2 else 0] ++ buf.drop 12)

/-! ## synchronous writer -/

/-- `PDataWriter`: its buffer, and everything handed to the stream so far -/
structure SW where
  buf : Bytes
  out : Bytes
deriving DecidableEq, Repr

/-- `dispatch_pdu` (the stream takes everything: `write_all` on an accepting transport) -/
def dispatch (s : SW) : Option SW :=
  match setupHeader s.buf false with
  | none => none
  | some b => some ⟨b.take pduPdvHeaderSize, s.out ++ b⟩

/-- `total_len` of `write` / `poll_write`: `(max_pdu_length + PDU_HEADER_SIZE) as usize`, u32 sum -/
def totalLen (max : Nat) : Nat := (max + pduHeaderSize) % u32

/-- `refill_after_dispatch(buffer, total_len, taken, buf)`: called when a full PDU has been sent and
the buffer is back to its headers. If no byte of the caller's `buf` went into that PDU (the buffer
was already full), the next PDU is started with bytes of `buf`. Gives the new buffer and the
number of bytes the write call reports as consumed. -/
def refill (max : Nat) (hdr : Bytes) (taken : Nat) (chunk : Bytes) : Bytes × Nat :=
  if taken > 0 then (hdr, taken)
  else
    let k := min chunk.length (totalLen max - hdr.length)
    (hdr ++ chunk.take k, k)

/-- `<PDataWriter as Write>::write`: new state and number of bytes taken; `none` = panic
(`total_len - self.buffer.len()` underflows when `max_pdu_length` is below the PDV header size). -/
def write (max : Nat) (s : SW) (chunk : Bytes) : Option (SW × Nat) :=
  if s.buf.length + chunk.length ≤ totalLen max then
    some (⟨s.buf ++ chunk, s.out⟩, chunk.length)
  else if totalLen max < s.buf.length then none
  else
    let n := totalLen max - s.buf.length
    match dispatch ⟨s.buf ++ chunk.take n, s.out⟩ with
    | none => none
    | some s' => some (⟨(refill max s'.buf n chunk).1, s'.out⟩, (refill max s'.buf n chunk).2)

/-- `finish_impl` (also what `Drop` runs) -/
def finishImpl (s : SW) : Option SW :=
  if s.buf.isEmpty then some s
  else match setupHeader s.buf true with
    | none => none
    | some b => some ⟨[], s.out ++ b⟩

/-- `std::io::Write::write_all(chunk)` over `write`: `Ok(0)` is `WriteZero` -/
def writeAll (max : Nat) (s : SW) (chunk : Bytes) : SW × Res :=
  if h : chunk = [] then (s, .ok)
  else match write max s chunk with
    | none => (s, .panic)
    | some (s', 0) => (s', .writeZero)
    | some (s', n + 1) => writeAll max s' (chunk.drop (n + 1))
termination_by chunk.length
decreasing_by
  have : 0 < chunk.length := List.length_pos_iff.mpr h
  simp only [List.length_drop]; omega

/-- one `write_all` per chunk, stopping at the first failure -/
def writeChunks (max : Nat) (s : SW) : List Bytes → SW × Res
  | [] => (s, .ok)
  | c :: cs =>
    match writeAll max s c with
    | (s', .ok) => writeChunks max s' cs
    | r => r

/-- A later non-empty chunk starts when the buffer holds exactly one full PDU (`d` = data bytes per
PDU, `p` = bytes written before): the situation in which the unrepaired `write` answered `Ok(0)`
(finding C26-write-zero-after-full-buffer). Used to classify cases. -/
def stalls (d : Nat) : Nat → List Bytes → Bool
  | _, [] => false
  | p, c :: cs =>
    if c.isEmpty then stalls d p cs
    else (decide (p > 0) && p % d == 0) || stalls d (p + c.length) cs

/-- A whole session: `new`, `write_all` per chunk, then `finish()` (after a failure the writer is
dropped instead, which runs the same `finish_impl`). Result: all bytes given to the stream, status. -/
def runSync (max ctx : Nat) (chunks : List Bytes) : Bytes × Res :=
  match writeChunks max ⟨initBuf ctx, []⟩ chunks with
  | (s, r) =>
    match finishImpl s with
    | some s' => (s'.out, r)
    | none => (s.out, .panic)

/-! ## asynchronous writer against a scripted transport -/

/-- one answer of the transport's `poll_write` -/
inductive Ev
  | ready (n : Nat)   -- accepts `min n len` bytes
  | pending
  | err
deriving DecidableEq, Repr

/-- result of the inner `loop { stream.poll_write(cx, &buffer[pos..]) }` of `poll_write` -/
inductive Drain
  | done (out : Bytes) (rest : List Ev)
  | susp (pos : Nat) (out : Bytes) (rest : List Ev)
  | fail (r : Res) (out : Bytes) (rest : List Ev)

/-- The inner loop: send `buf[pos..]`; an exhausted script is a transport that takes everything. -/
def drain (buf : Bytes) : Nat → Bytes → List Ev → Drain
  | pos, out, [] => .done (out ++ buf.drop pos) []
  | pos, out, .ready n :: s =>
    let k := min n (buf.length - pos)
    if k = 0 then .fail .writeZero out s
    else if pos + k = buf.length then .done (out ++ (buf.drop pos).take k) s
    else drain buf (pos + k) (out ++ (buf.drop pos).take k) s
  | pos, out, .pending :: s => .susp pos out s
  | _, out, .err :: s => .fail .io out s

/-- `AsyncPDataWriter`: buffer, `WriteState` (`none` = `Ready`, `some (pos, consumed)` =
`Writing(pos, consumed)`), bytes accepted by the transport so far -/
structure AW where
  buf : Bytes
  st : Option (Nat × Nat)
  out : Bytes
deriving DecidableEq, Repr

inductive Poll
  | ready (n : Nat)
  | pending
  | fail (r : Res)
deriving DecidableEq, Repr

/-- the sending loop shared by both states of `poll_write`: continue with `b[pos..]`; `keep` is the
`WriteState` left behind when the transport fails; `chunk` is the caller's buffer of this poll -/
def pollSend (max : Nat) (b : Bytes) (pos consumed : Nat) (keep : Option (Nat × Nat)) (out : Bytes)
    (chunk : Bytes) (s : List Ev) : AW × Poll × List Ev :=
  match drain b pos out s with
  | .done out s' =>
    (⟨(refill max (b.take pduPdvHeaderSize) consumed chunk).1, none, out⟩,
     .ready (refill max (b.take pduPdvHeaderSize) consumed chunk).2, s')
  | .susp pos' out s' => (⟨b, some (pos', consumed), out⟩, .pending, s')
  | .fail r out s' => (⟨b, keep, out⟩, .fail r, s')

/-- `<AsyncPDataWriter as AsyncWrite>::poll_write(cx, chunk)` — one poll. -/
def pollWrite (max : Nat) (w : AW) (chunk : Bytes) (s : List Ev) : AW × Poll × List Ev :=
  match w.st with
  | none =>
    if w.buf.length + chunk.length ≤ totalLen max then
      (⟨w.buf ++ chunk, none, w.out⟩, .ready chunk.length, s)
    else if totalLen max < w.buf.length then (w, .fail .panic, s)
    else
      match setupHeader (w.buf ++ chunk.take (totalLen max - w.buf.length)) false with
      | none => (w, .fail .panic, s)
      | some b => pollSend max b 0 (totalLen max - w.buf.length) none w.out chunk s
  | some (pos, consumed) => pollSend max w.buf pos consumed (some (pos, consumed)) w.out chunk s

/-- number of script entries a drain leaves is at most what it got -/
def Drain.rest : Drain → List Ev
  | .done _ r => r
  | .susp _ _ r => r
  | .fail _ _ r => r

theorem drain_rest (buf : Bytes) (pos : Nat) (out : Bytes) (s : List Ev) :
    (drain buf pos out s).rest.length ≤ s.length ∧
    ∀ p o r, drain buf pos out s = .susp p o r → r.length < s.length := by
  induction s generalizing pos out with
  | nil => exact ⟨Nat.le_refl _, nofun⟩
  | cons e s ih =>
    cases e with
    | ready n =>
      simp only [drain]
      split
      · exact ⟨Nat.le_succ _, nofun⟩
      · split
        · exact ⟨Nat.le_succ _, nofun⟩
        · exact ⟨Nat.le_succ_of_le (ih _ _).1, fun p o r h => Nat.lt_succ_of_lt ((ih _ _).2 p o r h)⟩
    | pending => exact ⟨Nat.le_succ _, fun p o r h => by cases h; exact Nat.lt_succ_self _⟩
    | err => exact ⟨Nat.le_succ _, nofun⟩

theorem pollSend_rest (max : Nat) (b : Bytes) (pos consumed : Nat) (keep : Option (Nat × Nat))
    (out chunk : Bytes) (s : List Ev) :
    (pollSend max b pos consumed keep out chunk s).2.2.length ≤ s.length ∧
    ∀ w' s', pollSend max b pos consumed keep out chunk s = (w', .pending, s') →
      s'.length < s.length := by
  have hd := drain_rest b pos out s
  unfold pollSend
  split <;> rename_i h <;> rw [h] at hd
  · exact ⟨hd.1, nofun⟩
  · exact ⟨hd.1, fun w' s' e => by cases e; exact hd.2 _ _ _ rfl⟩
  · exact ⟨hd.1, nofun⟩

theorem pollWrite_rest_le (max : Nat) (w : AW) (chunk : Bytes) (s : List Ev) :
    (pollWrite max w chunk s).2.2.length ≤ s.length := by
  unfold pollWrite
  split
  · split
    · simp
    · split
      · simp
      · split
        · simp
        · exact (pollSend_rest ..).1
  · exact (pollSend_rest ..).1

theorem pollWrite_pending_lt {max : Nat} {w : AW} {chunk : Bytes} {s : List Ev} {w' s'} :
    pollWrite max w chunk s = (w', .pending, s') → s'.length < s.length := by
  unfold pollWrite
  split
  · split
    · simp
    · split
      · simp
      · split
        · simp
        · exact (pollSend_rest ..).2 _ _
  · exact (pollSend_rest ..).2 _ _

/-- tokio's `write_all(chunk)` future polled to completion: every `Pending` is followed by another
poll with the same chunk; `Ready(Ok(0))` is `WriteZero`. -/
def writeAllA (max : Nat) (w : AW) (chunk : Bytes) (s : List Ev) : AW × Res × List Ev :=
  if h : chunk = [] then (w, .ok, s)
  else match hp : pollWrite max w chunk s with
    | (w', .fail r, s') => (w', r, s')
    | (w', .ready 0, s') => (w', .writeZero, s')
    | (w', .ready (n + 1), s') => writeAllA max w' (chunk.drop (n + 1)) s'
    | (w', .pending, s') => writeAllA max w' chunk s'
termination_by s.length + chunk.length
decreasing_by
  · have h1 : 0 < chunk.length := List.length_pos_iff.mpr h
    have h2 := pollWrite_rest_le max w chunk s
    rw [hp] at h2
    simp only [List.length_drop]; simp only at h2; omega
  · have := pollWrite_pending_lt hp
    omega

/-- tokio's `write_all` on the transport itself (used by `finish_impl`): `Pending` → polled again -/
def sendAll (buf : Bytes) : Nat → Bytes → List Ev → Bytes × Res × List Ev
  | pos, out, [] => (out ++ buf.drop pos, .ok, [])
  | pos, out, .ready n :: s =>
    let k := min n (buf.length - pos)
    if k = 0 then (out, .writeZero, s)
    else if pos + k = buf.length then (out ++ (buf.drop pos).take k, .ok, s)
    else sendAll buf (pos + k) (out ++ (buf.drop pos).take k) s
  | pos, out, .pending :: s => sendAll buf pos out s
  | _, out, .err :: s => (out, .io, s)

/-- `AsyncPDataWriter::finish_impl` -/
def finishA (w : AW) (s : List Ev) : AW × Res × List Ev :=
  match w.st with
  | some _ => (w, .brokenPipe, s)
  | none =>
    if w.buf.isEmpty then (w, .ok, s)
    else match setupHeader w.buf true with
      | none => (w, .panic, s)
      | some b =>
        match sendAll b 0 w.out s with
        | (out, .ok, s') => (⟨[], none, out⟩, .ok, s')
        | (out, r, s') => (⟨b, none, out⟩, r, s')

def writeChunksA (max : Nat) (w : AW) : List Bytes → List Ev → AW × Res × List Ev
  | [], s => (w, .ok, s)
  | c :: cs, s =>
    match writeAllA max w c s with
    | (w', .ok, s') => writeChunksA max w' cs s'
    | r => r

/-- status of a session whose writer was dropped after result `r`, the drop's `finish_impl` giving
`rDrop`: errors of the drop are swallowed, a panic is not -/
def dropStatus (r rDrop : Res) : Res := if rDrop = .panic then .panic else r

/-- A whole asynchronous session: `new`, `write_all(chunk).await` per chunk, `finish().await`, drop.
After a failed `write_all` the writer is dropped, which runs `finish_impl`; after a failed `finish`
the drop runs `finish_impl` once more. Result: bytes accepted by the transport, status of the
session, script left. -/
def runAsync (max ctx : Nat) (chunks : List Bytes) (s : List Ev) : Bytes × Res × List Ev :=
  match writeChunksA max ⟨initBuf ctx, none, []⟩ chunks s with
  | (w, .ok, s1) =>
    match finishA w s1 with
    | (w2, .ok, s2) => (w2.out, .ok, s2)
    | (w2, r, s2) =>
      match finishA w2 s2 with
      | (w3, r3, s3) => (w3.out, dropStatus r r3, s3)
  | (w, r, s1) =>
    match finishA w s1 with
    | (w2, r2, s2) => (w2.out, dropStatus r r2, s2)

/-! ## the P-DATA branch of `read_pdu`, and the reader -/

/-- one presentation data value: context id, message control header, data -/
structure Pdv where
  ctx : Nat
  ctrl : Nat
  data : Bytes
deriving DecidableEq, Repr

/-- `is_last = (header & 0x02) > 0` -/
def Pdv.isLast (v : Pdv) : Bool := v.ctrl / 2 % 2 == 1

/-- the `while bytes.has_remaining()` loop of the `0x04` arm of `read_pdu`; `none` = an error -/
def parsePdvs (bs : Bytes) : Option (List Pdv) :=
  match bs with
  | [] => some []
  | a :: b :: c :: d :: ctx :: ctrl :: r =>
    let il := 16777216 * a + 65536 * b + 256 * c + d
    if il < 2 then none
    else if r.length < il - 2 then none
    else match parsePdvs (r.drop (il - 2)) with
      | some vs => some (⟨ctx, ctrl, r.take (il - 2)⟩ :: vs)
      | none => none
  | _ => none
termination_by bs.length
decreasing_by simp only [List.length_drop, List.length_cons]; omega

inductive PduRes
  | incomplete                        -- `Ok(None)`
  | err                               -- any `Err`, or a PDU that is not P-DATA-TF
  | pdata (vs : List Pdv) (used : Nat)
deriving DecidableEq, Repr

/-- `read_pdu(buf, max_pdu_length, strict = false)` as the P-DATA reader uses it: the max-length
range check, the 6-byte header, "not all there yet", then the P-DATA arm. Every other PDU type ends
in an error of `PDataReader::read` either way (`read_pdu` fails or "Unexpected PDU type"). -/
def readPdu (max : Nat) (bs : Bytes) : PduRes :=
  if max < minimumPduSize ∨ maximumPduSize < max then .err
  else match bs with
    | ty :: _ :: a :: b :: c :: d :: r =>
      let len := 16777216 * a + 65536 * b + 256 * c + d
      if r.length < len then .incomplete
      else if ty = 4 then
        match parsePdvs (r.take len) with
        | some vs => .pdata vs (6 + len)
        | none => .err
      else .err
    | _ => .incomplete

/-- `PDataReader`: `buffer` (bytes decoded, not yet handed out), `last_pdu`, the shared
`read_buffer`, and the segments the source will deliver (one per `fill_buf`; none left = EOF) -/
structure RS where
  q : Bytes
  last : Bool
  rb : Bytes
  src : List Bytes
deriving DecidableEq, Repr

inductive Fetch
  | ok (vs : List Pdv) (rb : Bytes) (src : List Bytes)
  | err (rb : Bytes) (src : List Bytes)
deriving DecidableEq, Repr

/-- the `let msg = loop { … }` of `read`: try to parse from `read_buffer`, otherwise append the
next segment of the source; an empty read is "Connection closed by peer" -/
def fetch (max : Nat) : Bytes → List Bytes → Fetch
  | rb, [] =>
    match readPdu max rb with
    | .pdata vs n => .ok vs (rb.drop n) []
    | .err => .err rb []
    | .incomplete => .err rb []
  | rb, seg :: rest =>
    match readPdu max rb with
    | .pdata vs n => .ok vs (rb.drop n) (seg :: rest)
    | .err => .err rb (seg :: rest)
    | .incomplete => if seg.isEmpty then .err rb rest else fetch max (rb ++ seg) rest

inductive ReadOut
  | data (bs : Bytes)
  | err
deriving DecidableEq, Repr

/-- `<PDataReader as Read>::read(buf)` with `buf.len() = k` -/
def read (max : Nat) (rs : RS) (k : Nat) : RS × ReadOut :=
  if !rs.q.isEmpty then (⟨rs.q.drop k, rs.last, rs.rb, rs.src⟩, .data (rs.q.take k))
  else if rs.last then (rs, .data [])
  else match fetch max rs.rb rs.src with
    | .ok vs rb src =>
      let q := vs.flatMap (·.data)
      let last := match vs.getLast? with
        | some v => v.isLast
        | none => rs.last
      (⟨q.drop k, last, rb, src⟩, .data (q.take k))
    | .err rb src => (⟨[], rs.last, rb, src⟩, .err)

inductive Status
  | eof    -- a read returned 0 bytes
  | more   -- the schedule of reads ended first
  | err
deriving DecidableEq, Repr

/-- a caller issuing reads with buffer sizes `ks` until one returns 0 bytes or fails
(`read_to_end` is such a caller) -/
def readLoop (max : Nat) : RS → List Nat → Bytes → RS × Bytes × Status
  | rs, [], acc => (rs, acc, .more)
  | rs, k :: ks, acc =>
    match read max rs k with
    | (rs', .err) => (rs', acc, .err)
    | (rs', .data []) => (rs', acc, .eof)
    | (rs', .data (b :: bs)) => readLoop max rs' ks (acc ++ b :: bs)

/-! ## independent parser of an emitted byte stream (the oracle) -/

/-- one P-DATA-TF PDU that carries exactly one presentation data value -/
structure Frag where
  pduLen : Nat
  ctx : Nat
  ctrl : Nat
  data : Bytes
deriving DecidableEq, Repr

/-- Parse one PDU of type 04H whose PDU length covers exactly one PDV item; gives the fragment and
the number of bytes of the whole PDU. -/
def parseFrag : Bytes → Option (Frag × Nat)
  | ty :: _ :: a :: b :: c :: d :: e :: f :: g :: h :: ctx :: ctrl :: r =>
    let pl := 16777216 * a + 65536 * b + 256 * c + d
    let il := 16777216 * e + 65536 * f + 256 * g + h
    if ty = 4 ∧ il + 4 = pl ∧ 2 ≤ il ∧ il - 2 ≤ r.length then
      some (⟨pl, ctx, ctrl, r.take (il - 2)⟩, pl + 6)
    else none
  | _ => none

/-- the whole stream as a sequence of such PDUs (nothing left over) -/
def parseFrags (bs : Bytes) : Option (List Frag) :=
  if bs.isEmpty then some []
  else match parseFrag bs with
    | none => none
    | some (f, n) =>
      match parseFrags (bs.drop (n - 1 + 1)) with
      | some fs => some (f :: fs)
      | none => none
termination_by bs.length
decreasing_by
  have : bs ≠ [] := by intro h; simp_all
  have : 0 < bs.length := List.length_pos_iff.mpr this
  simp only [List.length_drop]; omega

/-- The property's clauses on a parsed stream: at least one PDU, every PDU length ≤ max, every
value in the given presentation context, message control header 0 (data, not last) on all but the
final PDU and 2 (data, last) on the final one, payloads concatenate to the input. -/
def specOk (max ctx : Nat) (payload : Bytes) (fs : List Frag) : Bool :=
  !fs.isEmpty
  && fs.all (fun f => decide (f.pduLen ≤ max) && f.ctx == ctx)
  && fs.dropLast.all (fun f => f.ctrl == 0)
  && (fs.getLast?.map (·.ctrl)) == some 2
  && fs.flatMap (·.data) == payload

/-- A message in a byte stream as the reader's property sees it: PDUs with one value each, message
control 0 and non-empty data up to the first PDU marked last; gives the fragments and what follows. -/
def splitMessage (bs : Bytes) : Option (List Frag × Bytes) :=
  match hp : parseFrag bs with
  | none => none
  | some (f, n) =>
    if f.ctrl / 2 % 2 = 1 then some ([f], bs.drop n)
    else if f.data.isEmpty then none
    else match splitMessage (bs.drop (n - 1 + 1)) with
      | some (fs, rest) => some (f :: fs, rest)
      | none => none
termination_by bs.length
decreasing_by
  have : bs ≠ [] := by intro h; subst h; simp [parseFrag] at hp
  have : 0 < bs.length := List.length_pos_iff.mpr this
  simp only [List.length_drop]; omega

end Dicom.PData
