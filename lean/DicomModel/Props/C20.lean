import DicomModel.Lemmas.Rle
/-
C20 — RLE Lossless decoding reproduces the encoded samples.

Model: `DicomModel/Model/Rle.lean`. The hypothesis of the round trips is `ValidFrame`: the fragment is
the reference encoding of the frame for *some* valid run list per byte plane. One fragment is
decoded by an invariant over the placed columns (`Inv`); whole objects follow by locality
(`rle_whole_concat`, for every input).
-/
namespace Dicom.Rle

theorem unpack_run {r : Run} (hr : r.Valid) (rest : Bytes) :
    unpack (r.bytes ++ rest) = (unpack rest).map (r.expand ++ ·) := by
  cases r with
  | noop =>
    rw [Run.bytes, List.singleton_append, unpack_noop]
    cases unpack rest <;> rfl
  | rep n b =>
    have hn : 2 ≤ n ∧ n ≤ 128 := hr
    rw [Run.bytes, List.cons_append, List.singleton_append, unpack_rep (by omega),
      show 257 - (257 - n) = n by omega]
    rfl
  | lit bs =>
    have hn : 1 ≤ bs.length ∧ bs.length ≤ 128 := hr
    rw [Run.bytes, List.cons_append, unpack_lit (by omega), Nat.sub_add_cancel hn.1,
      List.drop_left, List.take_left]
    rfl

theorem unpack_serialise_append (runs : List Run) (hv : ∀ r ∈ runs, r.Valid) (rest : Bytes) :
    unpack (serialise runs ++ rest) = (unpack rest).map (expand runs ++ ·) := by
  induction runs with
  | nil =>
    rw [serialise, List.flatMap_nil, List.nil_append]
    cases unpack rest <;> rfl
  | cons r rs ih =>
    rw [serialise, List.flatMap_cons, List.append_assoc, unpack_run (hv r List.mem_cons_self),
      ← serialise, ih (fun x hx => hv x (List.mem_cons_of_mem _ hx)), expand_cons]
    cases unpack rest with
    | none => rfl
    | some out => exact congrArg some (List.append_assoc _ _ _).symm

/-- **packbits_decode_expand**: for every list of valid runs (any split of the data into literal
runs of 1..128 bytes, replicate runs of 2..128 copies and no-op bytes, in any order), the
decoder's PackBits reader returns exactly the expansion of the runs. -/
theorem packbits_decode_expand (runs : List Run) (hv : ∀ r ∈ runs, r.Valid) :
    unpack (serialise runs) = some (expand runs) := by
  have := unpack_serialise_append runs hv []
  rwa [List.append_nil, unpack_nil, Option.map_some, List.append_nil] at this

/-- a padded serialised segment still decodes to the expansion of its runs -/
theorem unpack_padEven (pad : Bool) (runs : List Run) (hv : ∀ r ∈ runs, r.Valid) :
    unpack (padEven pad (serialise runs)) = some (expand runs) := by
  unfold padEven
  split
  · -- the pad byte is a literal header with nothing behind it
    rw [unpack_serialise_append runs hv [0], unpack_lit (by decide), List.drop_nil, unpack_nil]
    exact congrArg some (List.append_nil _)
  · exact packbits_decode_expand runs hv

/-! ### The encoded frame: header and segments -/

theorem flatMap_le32_length (l : List Nat) : (l.flatMap le32).length = 4 * l.length := by
  induction l with
  | nil => rfl
  | cons a r ih => rw [List.flatMap_cons, List.length_append, ih, le32_length, List.length_cons]; omega

theorem readRleHeader_le32s (offs : List Nat) (rest : Bytes) (hn : offs.length + 1 < 4294967296)
    (ho : ∀ o ∈ offs, o < 4294967296) :
    readRleHeader (le32 offs.length ++ (offs.flatMap le32 ++ rest)) = .ok offs := by
  unfold readRleHeader
  rw [rdLe32_le32 _ (by omega)]
  simp only []  -- reduces the `match` whose scrutinee has just become a constructor (here and below)
  rw [Nat.mod_eq_of_lt hn, if_neg, List.drop_left' (le32_length _), rdLe32s_flatMap offs rest ho]
  rw [List.length_append, List.length_append, flatMap_le32_length, le32_length]
  omega

/-- the 64-byte header written by the reference encoder -/
def header (segs : List Bytes) : Bytes :=
  le32 segs.length ++ (segOffsets 64 segs ++ List.replicate (15 - segs.length) 0).flatMap le32

theorem encodeFrame_eq (segs : List Bytes) : encodeFrame segs = header segs ++ segs.flatten := by
  simp [encodeFrame, header]

theorem header_length (segs : List Bytes) (h : segs.length ≤ 15) : (header segs).length = 64 := by
  rw [header, List.length_append, flatMap_le32_length, List.length_append, segOffsets_length,
    List.length_replicate, le32_length]; omega

theorem encodeFrame_length (segs : List Bytes) (h : segs.length ≤ 15) :
    (encodeFrame segs).length = 64 + segs.flatten.length := by
  rw [encodeFrame_eq, List.length_append, header_length segs h]

/-- `read_rle_header` returns the offsets the encoder wrote -/
theorem readRleHeader_encodeFrame (segs : List Bytes) (h15 : segs.length ≤ 15)
    (hsz : (encodeFrame segs).length < 4294967296) :
    readRleHeader (encodeFrame segs) = .ok (segOffsets 64 segs) := by
  have hlen := encodeFrame_length segs h15
  have h := readRleHeader_le32s (segOffsets 64 segs)
    ((List.replicate (15 - segs.length) 0).flatMap le32 ++ segs.flatten)
    (by rw [segOffsets_length]; omega)
    (fun o ho => by have := segOffsets_le segs 64 o ho; omega)
  rw [segOffsets_length] at h
  rw [encodeFrame, List.flatMap_append, List.append_assoc, List.append_assoc]
  exact h

/-! ### Placement of the segments of a valid frame -/

theorem frameSize_eq (P : Params) : P.frameSize = P.rows * P.cols * P.step := by
  simp only [Params.frameSize, Params.step]; ac_rfl

/-- what "`frame` was encoded as RLE Lossless per Annex G with some split into runs" means:
`runs[ii]` is any valid run list that expands to byte plane `ii` of the frame. -/
structure ValidFrame (P : Params) (frame : List Nat) (pad : Bool) (runs : List (List Run)) : Prop where
  bps_pos : 0 < P.bps
  spp_pos : 0 < P.spp
  len : frame.length = P.rows * P.cols * P.spp
  nruns : runs.length = P.spp * P.bps
  n15 : P.spp * P.bps ≤ 15
  valid : ∀ rs ∈ runs, ∀ r ∈ rs, r.Valid
  exp : ∀ ii (h : ii < runs.length), expand runs[ii] = plane P.spp P.bps frame ii
  size : (encodeFrameRuns pad runs).length < 4294967296

theorem ValidFrame.segs {P : Params} {frame : List Nat} {pad : Bool} {runs : List (List Run)}
    (V : ValidFrame P frame pad runs) :
    ∃ segs, encodeFrameRuns pad runs = encodeFrame segs ∧ segs.length = P.spp * P.bps ∧
      ∀ ii (h : ii < segs.length), unpack segs[ii] = some (plane P.spp P.bps frame ii) :=
  ⟨runs.map fun r => padEven pad (serialise r), rfl, by rw [List.length_map, V.nruns], fun ii h => by
    rw [List.length_map] at h
    rw [List.getElem_map, unpack_padEven pad _ (V.valid _ (List.getElem_mem h)), V.exp ii h]⟩

/-- the columns in `S` already hold what the little-endian, pixel-interleaved output has there -/
def Inv (P : Params) (frame : List Nat) (S : Nat → Prop) (dst : Bytes) : Prop :=
  ∀ c, S c → c < P.step ∧ ∀ q, dst[q * P.step + c]? = (leInterleaved P.bps frame)[q * P.step + c]?

section placement
/-! A fragment laid out as `pre ++ segs.flatten`, read with the offsets `offsAll pre.length segs`,
whose segment `ii` PackBits-decodes to byte plane `ii` of `frame`. -/
variable {P : Params} {frame : List Nat} {segs : List Bytes} (pre : Bytes)
  (hlen : frame.length = P.rows * P.cols * P.spp) (hsegs : segs.length = P.spp * P.bps)
  (hun : ∀ ii (h : ii < segs.length), unpack segs[ii] = some (plane P.spp P.bps frame ii))
include hlen hsegs hun

theorem place_step (S : Nat → Prop) (dst : Bytes) (hd : dst.length = P.rows * P.cols * P.step)
    (hI : Inv P frame S dst) (sn bo : Nat) (hsn : sn < P.spp) (hbo : bo < P.bps) :
    ∃ dst', placeSegment P (pre ++ segs.flatten) (offsAll pre.length segs) 0 dst sn bo = .ok dst'
      ∧ dst'.length = P.rows * P.cols * P.step
      ∧ Inv P frame (fun c => c = col P.bps sn bo ∨ S c) dst' := by
  have hii : sn * P.bps + bo < segs.length := hsegs ▸ idx_lt hsn hbo
  have hcol : col P.bps sn bo < P.step := col_lt hsn hbo
  have hpl : (plane P.spp P.bps frame (sn * P.bps + bo)).length = P.rows * P.cols := by
    rw [plane_length, hlen, Nat.mul_div_cancel _ (Nat.zero_lt_of_lt hsn)]
  obtain ⟨a, b, ha, hb, hab, hbl, hslice⟩ := slice_seg segs pre _ hii
  obtain ⟨dst', h1, h2, h3⟩ := scatter_spec hcol _ 0 dst ((Nat.zero_add _).trans hpl) hd
  refine ⟨dst', ?_, h2, fun c hc => ?_⟩
  · -- the segment is sliced out and decoded; it has one byte per pixel, so all of it is scattered
    unfold placeSegment
    simp only [ha, hb]
    rw [if_neg (by omega), hslice, hun _ hii]
    simp only []
    rw [List.take_of_length_le (Nat.le_of_eq hpl), frameSize_eq, Nat.zero_add, Nat.zero_add]
    rw [Nat.zero_mul, Nat.zero_add] at h1
    exact h1
  · by_cases hcc : c = col P.bps sn bo
    · refine ⟨hcc ▸ hcol, fun q => ?_⟩
      rw [h3 q c (hcc ▸ hcol), if_pos ⟨hcc, Nat.zero_le q⟩, Nat.sub_zero, hcc]
      exact plane_eq_leInterleaved hlen hsn hbo q
    · have hS := hI c (hc.resolve_left hcc)
      refine ⟨hS.1, fun q => ?_⟩
      rw [h3 q c hS.1, if_neg (fun h => hcc h.1)]
      exact hS.2 q

theorem placeAll_spec : ∀ (todo : List (Nat × Nat)) (S : Nat → Prop) (dst : Bytes),
    (∀ p ∈ todo, p.1 < P.spp ∧ p.2 < P.bps) →
    dst.length = P.rows * P.cols * P.step → Inv P frame S dst →
    ∃ dst', placeAll P (pre ++ segs.flatten) (offsAll pre.length segs) 0 todo dst = .ok dst'
      ∧ dst'.length = P.rows * P.cols * P.step
      ∧ Inv P frame (fun c => (∃ p ∈ todo, c = col P.bps p.1 p.2) ∨ S c) dst' := by
  intro todo
  induction todo with
  | nil =>
    intro S dst _ hd hI
    exact ⟨dst, rfl, hd, fun c hc => hI c (hc.resolve_left (fun ⟨_, hp, _⟩ => nomatch hp))⟩
  | cons p rest ih =>
    intro S dst hb hd hI
    have hp := hb p List.mem_cons_self
    obtain ⟨d1, h1, h2, h3⟩ := place_step pre hlen hsegs hun S dst hd hI p.1 p.2 hp.1 hp.2
    obtain ⟨d2, g1, g2, g3⟩ := ih _ d1 (fun x hx => hb x (List.mem_cons_of_mem _ hx)) h2 h3
    refine ⟨d2, by simp only [placeAll, h1]; exact g1, g2, fun c hc => g3 c ?_⟩
    rcases hc with ⟨x, hx, hcx⟩ | hc
    · rcases List.mem_cons.mp hx with rfl | hx
      · exact Or.inr (Or.inl hcx)
      · exact Or.inl ⟨x, hx, hcx⟩
    · exact Or.inr (Or.inr hc)

end placement

theorem mem_segOrder (P : Params) (sn bo : Nat) : (sn, bo) ∈ segOrder P ↔ sn < P.spp ∧ bo < P.bps := by
  simp [segOrder]

/-- One fragment of the reference encoder, decoded into a zeroed frame buffer, gives the frame's
samples as little-endian, pixel-interleaved bytes. -/
theorem decodeFragment_valid {P : Params} {frame : List Nat} {pad : Bool} {runs : List (List Run)}
    (V : ValidFrame P frame pad runs) :
    decodeFragmentInto P (encodeFrameRuns pad runs) 0 (List.replicate P.frameSize 0)
      = .ok (leInterleaved P.bps frame) := by
  obtain ⟨segs, hfr, hsegs, hun⟩ := V.segs
  have h15 : segs.length ≤ 15 := hsegs ▸ V.n15
  have hsz : (encodeFrame segs).length < 4294967296 := hfr ▸ V.size
  obtain ⟨dst', h1, h2, h3⟩ := placeAll_spec (header segs) V.len hsegs hun (segOrder P)
    (fun _ => False) (List.replicate P.frameSize 0) (fun p hp => (mem_segOrder P p.1 p.2).mp hp)
    (by rw [List.length_replicate, frameSize_eq]) (fun c hc => hc.elim)
  unfold decodeFragmentInto
  rw [hfr, readRleHeader_encodeFrame segs h15 hsz]
  simp only []
  -- the decoder's offsets (those of the header, then the fragment length) are `offsAll`
  rw [Nat.mod_eq_of_lt hsz, encodeFrame_length segs h15, ← header_length segs h15, encodeFrame_eq]
  refine h1.trans (congrArg _ ?_)
  -- every index is row `j / step`, column `j % step`, and that column belongs to a segment
  apply List.ext_getElem?
  intro j
  have hc : j % P.step < P.bps * P.spp := Nat.mod_lt _ (Nat.mul_pos V.bps_pos V.spp_pos)
  have hseg : (j % P.step / P.bps, P.bps - 1 - j % P.step % P.bps) ∈ segOrder P :=
    (mem_segOrder P _ _).mpr
      ⟨(Nat.div_lt_iff_lt_mul V.bps_pos).mpr (Nat.mul_comm _ _ ▸ hc), by have := V.bps_pos; omega⟩
  have := (h3 (j % P.step) (Or.inl ⟨_, hseg, (col_surj _ V.bps_pos).symm⟩)).2 (j / P.step)
  rwa [Nat.div_add_mod' j P.step] at this

/-! ### Locality: a frame is decoded inside its own window of the output buffer, whose length it keeps -/

theorem placeSegment_local (P : Params) (frag : Bytes) (offs : List Nat) (pre mid post : Bytes)
    (sn bo : Nat) (hm : P.frameSize ≤ mid.length) :
    placeSegment P frag offs pre.length (pre ++ mid ++ post) sn bo
      = (placeSegment P frag offs 0 mid sn bo).map (fun m => pre ++ m ++ post) ∧
    ∀ m, placeSegment P frag offs 0 mid sn bo = .ok m → m.length = mid.length := by
  simp only [placeSegment]
  split
  · split
    · exact ⟨rfl, nofun⟩
    · split
      · exact ⟨rfl, nofun⟩
      · simp only [Nat.zero_add]
        exact scatter_local pre post _ _ mid hm
  · exact ⟨rfl, nofun⟩

theorem placeAll_local (P : Params) (frag : Bytes) (offs : List Nat) (pre post : Bytes) :
    ∀ (todo : List (Nat × Nat)) (mid : Bytes), P.frameSize ≤ mid.length →
    placeAll P frag offs pre.length todo (pre ++ mid ++ post)
      = (placeAll P frag offs 0 todo mid).map (fun m => pre ++ m ++ post) ∧
    ∀ m, placeAll P frag offs 0 todo mid = .ok m → m.length = mid.length := by
  intro todo
  induction todo with
  | nil => intro mid _; exact ⟨rfl, fun m h => by cases h; rfl⟩
  | cons p rest ih =>
    intro mid hm
    obtain ⟨sn, bo⟩ := p
    obtain ⟨h1, h2⟩ := placeSegment_local P frag offs pre mid post sn bo hm
    simp only [placeAll]
    rw [h1]
    cases hps : placeSegment P frag offs 0 mid sn bo with
    | ok m' =>
      -- the window still has its length, so the later segments are placed in it too
      obtain ⟨i1, i2⟩ := ih m' (by rw [h2 m' hps]; exact hm)
      exact ⟨i1, fun m h => by rw [i2 m h, h2 m' hps]⟩
    | err => exact ⟨rfl, nofun⟩
    | panic => exact ⟨rfl, nofun⟩

theorem decodeFragmentInto_local (P : Params) (frag : Bytes) (pre mid post : Bytes)
    (hm : P.frameSize ≤ mid.length) :
    decodeFragmentInto P frag pre.length (pre ++ mid ++ post)
      = (decodeFragmentInto P frag 0 mid).map (fun m => pre ++ m ++ post) ∧
    ∀ m, decodeFragmentInto P frag 0 mid = .ok m → m.length = mid.length := by
  unfold decodeFragmentInto
  cases readRleHeader frag with
  | ok offs => exact placeAll_local P frag _ pre post _ mid hm
  | err => exact ⟨rfl, nofun⟩
  | panic => exact ⟨rfl, nofun⟩

/-- what one fragment decodes to on its own (empty destination) -/
def frameResult (P : Params) (frag : Bytes) : Outcome Bytes :=
  decodeFragmentInto P frag 0 (List.replicate P.frameSize 0)

theorem decodeFrame_eq (P : Params) (frags : List Bytes) (f : Nat) (dst0 : Bytes)
    (hb : P.bits = 8 ∨ P.bits = 16) (frag : Bytes) (hf : frags[f]? = some frag) :
    decodeFrame P frags f dst0 = (frameResult P frag).map (dst0 ++ ·) := by
  unfold decodeFrame frameResult
  rw [if_neg (by omega), hf]
  simp only []
  simpa only [List.append_nil] using
    (decodeFragmentInto_local P frag dst0 (List.replicate P.frameSize 0) [] (by simp)).1

/-- sequential results of all frames: the first failure wins -/
def seqFrames : List (Outcome Bytes) → Outcome (List Bytes)
  | [] => .ok []
  | .ok b :: rest =>
    match seqFrames rest with
    | .ok bs => .ok (b :: bs)
    | .err => .err
    | .panic => .panic
  | .err :: _ => .err
  | .panic :: _ => .panic

theorem decodeFrames_eq (P : Params) (base0 : Nat) : ∀ (frags : List Bytes) (i : Nat) (pre : Bytes),
    pre.length = base0 + i * P.frameSize →
    decodeFrames P base0 i frags (pre ++ List.replicate (P.frameSize * frags.length) 0)
      = (seqFrames (frags.map (frameResult P))).map (fun ds => pre ++ ds.flatten) := by
  intro frags
  induction frags with
  | nil => intro i pre _; simp [decodeFrames, seqFrames, Outcome.map]
  | cons frag rest ih =>
    intro i pre hpre
    -- the zeros for this frame are the window, those for the later frames stay behind it
    rw [List.length_cons, Nat.mul_succ, Nat.add_comm, ← List.replicate_append_replicate,
      ← List.append_assoc]
    simp only [decodeFrames, List.map_cons]
    obtain ⟨hwin, hwlen⟩ := decodeFragmentInto_local P frag pre (List.replicate P.frameSize 0)
      (List.replicate (P.frameSize * rest.length) 0) (by simp)
    rw [← hpre, hwin]
    rw [show decodeFragmentInto P frag 0 (List.replicate P.frameSize 0) = frameResult P frag from rfl]
    cases hfr : frameResult P frag with
    | ok m =>
      have hm : m.length = P.frameSize := by rw [hwlen m hfr, List.length_replicate]
      simp only [Outcome.map, seqFrames]
      rw [ih (i + 1) (pre ++ m) (by rw [List.length_append, hm, hpre, Nat.succ_mul, Nat.add_assoc])]
      cases seqFrames (rest.map (frameResult P)) <;> simp [Outcome.map]
    | err => rfl
    | panic => rfl

/-- **rle_whole_concat** (every input, well-formed or not): decoding the whole object gives the
concatenation of what `decode_frame` gives for frame 0, 1, … (appended to the previous contents
of the output vector), and fails exactly when one of the frames fails. -/
theorem rle_whole_concat (P : Params) (frags : List Bytes) (dst0 : Bytes) (hb : P.bits = 8 ∨ P.bits = 16) :
    decodeAll P frags dst0
      = (seqFrames ((List.range frags.length).map fun f => decodeFrame P frags f [])).map
          (fun ds => dst0 ++ ds.flatten) := by
  unfold decodeAll
  rw [if_neg (by omega), decodeFrames_eq P dst0.length frags 0 dst0 (by simp),
    map_range_eq_map frags _ (frameResult P)]
  intro f hf
  rw [decodeFrame_eq P frags f [] hb frags[f] (List.getElem?_eq_getElem hf)]
  cases frameResult P frags[f] <;> rfl

/-- **rle_frame_rt**: a frame with 8 or 16 bits allocated and any number of samples per pixel that
fits the 15-segment header (in particular 1 and 3), encoded per PS3.5 Annex G with *any* valid
run lists whose expansions are the byte planes of the frame (`ValidFrame`), decodes — as frame `f`
of any object that carries this fragment at position `f` — to the frame's samples as little-endian,
pixel-interleaved bytes appended to the destination. -/
theorem rle_frame_rt {P : Params} (hb : P.bits = 8 ∨ P.bits = 16)
    {frame : List Nat} {pad : Bool} {runs : List (List Run)} (V : ValidFrame P frame pad runs)
    (frags : List Bytes) (f : Nat) (hf : frags[f]? = some (encodeFrameRuns pad runs)) (dst0 : Bytes) :
    decodeFrame P frags f dst0 = .ok (dst0 ++ leInterleaved P.bps frame) := by
  rw [decodeFrame_eq P frags f dst0 hb _ hf, frameResult, decodeFragment_valid V]; rfl

theorem seqFrames_ok {α : Type} (g : α → Bytes) : ∀ (l : List α),
    seqFrames (l.map fun e => Outcome.ok (g e)) = .ok (l.map g) := by
  intro l
  induction l with
  | nil => rfl
  | cons a r ih => simp only [List.map_cons, seqFrames, ih]

theorem decodeAll_map {P : Params} (hb : P.bits = 8 ∨ P.bits = 16) {α : Type} (l : List α)
    (enc out : α → Bytes) (h : ∀ e ∈ l, frameResult P (enc e) = .ok (out e)) (dst0 : Bytes) :
    decodeAll P (l.map enc) dst0 = .ok (dst0 ++ (l.map out).flatten) := by
  unfold decodeAll
  rw [if_neg (by omega), decodeFrames_eq P dst0.length (l.map enc) 0 dst0 (by simp), List.map_map,
    List.map_congr_left (f := frameResult P ∘ enc) (g := fun e => Outcome.ok (out e)) h, seqFrames_ok]
  rfl

/-- **rle_whole_rt**: whole-object decoding of any number of frames, each encoded with its own
arbitrary valid run lists, yields all samples, little-endian and pixel-interleaved, frame after
frame. -/
theorem rle_whole_rt {P : Params} (hb : P.bits = 8 ∨ P.bits = 16) (pad : Bool)
    (encs : List (List Nat × List (List Run))) (hV : ∀ e ∈ encs, ValidFrame P e.1 pad e.2)
    (dst0 : Bytes) :
    decodeAll P (encs.map fun e => encodeFrameRuns pad e.2) dst0
      = .ok (dst0 ++ (encs.map fun e => leInterleaved P.bps e.1).flatten) :=
  decodeAll_map hb encs _ _ (fun e he => decodeFragment_valid (hV e he)) dst0

/-! ### The pipeline's encoder (`rleEncode` with a choice stream) is an instance -/

theorem bps_of_bits {P : Params} (hb : P.bits = 8 ∨ P.bits = 16) : P.bps = 1 ∨ P.bps = 2 := by
  rcases hb with h | h <;> simp [Params.bps, h]

/-- the runs picked by the choice stream form a valid Annex G encoding of the frame -/
theorem frameRuns_valid {P : Params} (hb : P.bits = 8 ∨ P.bits = 16) (hs : P.spp = 1 ∨ P.spp = 3)
    (frame : List Nat) (hlen : frame.length = P.rows * P.cols * P.spp) (pad : Bool) (choices : List Nat)
    (hsz : (encodeFrameRuns pad (frameRuns P.spp P.bps frame choices)).length < 4294967296) :
    ValidFrame P frame pad (frameRuns P.spp P.bps frame choices) where
  bps_pos := by rcases bps_of_bits hb with h | h <;> omega
  spp_pos := by omega
  len := hlen
  nruns := by simp [frameRuns]
  n15 := by rcases bps_of_bits hb with h | h <;> rcases hs with h' | h' <;> simp [h, h']
  valid := by
    intro rs hrs r hr
    simp only [frameRuns, List.mem_map] at hrs
    obtain ⟨ii, _, rfl⟩ := hrs
    exact (chooseRuns_spec _ _).1 r hr
  exp := by
    intro ii h
    simp only [frameRuns, List.length_map, List.length_range] at h
    simp only [frameRuns, List.getElem_map, List.getElem_range]
    exact (chooseRuns_spec _ _).2
  size := hsz

theorem rleEncode_valid {P : Params} (hb : P.bits = 8 ∨ P.bits = 16) (hs : P.spp = 1 ∨ P.spp = 3)
    (frames : List (List Nat)) (hlen : ∀ fr ∈ frames, fr.length = P.rows * P.cols * P.spp)
    (pad : Bool) (choices : List Nat)
    (hsz : ∀ frag ∈ rleEncode P.spp P.bps pad frames choices, frag.length < 4294967296)
    (f : Nat) (hf : f < frames.length) :
    ValidFrame P (frames.getD f []) pad
      (frameRuns P.spp P.bps (frames.getD f []) ((splitChoices frames.length choices).getD f [])) := by
  have hmem : frames.getD f [] ∈ frames := List.getElem_eq_getD [] ▸ List.getElem_mem hf
  exact frameRuns_valid hb hs _ (hlen _ hmem) pad _
    (hsz _ (List.mem_map.mpr ⟨f, List.mem_range.mpr hf, rfl⟩))

/-- **rle_frame_rt_pipeline**: for the inputs the correspondence run feeds to the real decoder
(`rleEncode` of random frames with a random choice stream), every frame decodes to its
little-endian interleaved samples. -/
theorem rle_frame_rt_pipeline {P : Params} (hb : P.bits = 8 ∨ P.bits = 16) (hs : P.spp = 1 ∨ P.spp = 3)
    (frames : List (List Nat)) (hlen : ∀ fr ∈ frames, fr.length = P.rows * P.cols * P.spp)
    (pad : Bool) (choices : List Nat)
    (hsz : ∀ frag ∈ rleEncode P.spp P.bps pad frames choices, frag.length < 4294967296)
    (f : Nat) (hf : f < frames.length) (dst0 : Bytes) :
    decodeFrame P (rleEncode P.spp P.bps pad frames choices) f dst0
      = .ok (dst0 ++ leInterleaved P.bps frames[f]) := by
  have hV := rleEncode_valid hb hs frames hlen pad choices hsz f hf
  rw [← List.getElem_eq_getD (h := hf) []] at hV
  exact rle_frame_rt hb hV _ f (by simp [rleEncode, hf]) dst0

/-- **rle_whole_rt_pipeline**: whole-object decoding of the pipeline's encoding is the concatenation
of all frames' little-endian interleaved samples. -/
theorem rle_whole_rt_pipeline {P : Params} (hb : P.bits = 8 ∨ P.bits = 16) (hs : P.spp = 1 ∨ P.spp = 3)
    (frames : List (List Nat)) (hlen : ∀ fr ∈ frames, fr.length = P.rows * P.cols * P.spp)
    (pad : Bool) (choices : List Nat)
    (hsz : ∀ frag ∈ rleEncode P.spp P.bps pad frames choices, frag.length < 4294967296) (dst0 : Bytes) :
    decodeAll P (rleEncode P.spp P.bps pad frames choices) dst0
      = .ok (dst0 ++ (frames.map (leInterleaved P.bps)).flatten) := by
  rw [← map_range_eq_map frames (fun f => leInterleaved P.bps (frames.getD f [])) _
    (fun f hf => by rw [List.getElem_eq_getD []])]
  exact decodeAll_map hb (List.range frames.length) _ _
    (fun f hf => decodeFragment_valid
      (rleEncode_valid hb hs frames hlen pad choices hsz f (List.mem_range.mp hf))) dst0

/-- the hypotheses are satisfiable: the 2x2 8-bit monochrome frame `[10,20,30,30]` split into a no-op,
a literal and a replicate run is a `ValidFrame` … -/
theorem validFrame_witness_mono8 :
    ValidFrame ⟨2, 2, 1, 8⟩ [10, 20, 30, 30] true [[.noop, .lit [10, 20], .rep 2 30]] where
  bps_pos := by decide
  spp_pos := by decide
  len := by decide
  nruns := by decide
  n15 := by decide
  valid := by decide
  exp := by decide
  size := by decide

/-- … and so decodes to itself (with the repaired start offset, see `Model/Rle.lean`). -/
example : decodeFrame ⟨2, 2, 1, 8⟩ [encodeFrameRuns true [[.noop, .lit [10, 20], .rep 2 30]]] 0 []
    = .ok [10, 20, 30, 30] :=
  rle_frame_rt (Or.inl rfl) validFrame_witness_mono8 _ 0 rfl []

/-- 16-bit RGB, one pixel, samples 0x0102 0x0304 0x0506: the output is little-endian (defect #11) -/
theorem validFrame_witness_rgb16 :
    ValidFrame ⟨1, 1, 3, 16⟩ [0x0102, 0x0304, 0x0506] true
      [[.lit [1]], [.lit [2]], [.lit [3]], [.lit [4]], [.lit [5]], [.lit [6]]] where
  bps_pos := by decide
  spp_pos := by decide
  len := by decide
  nruns := by decide
  n15 := by decide
  valid := by decide
  exp := by decide
  size := by decide

example : decodeFrame ⟨1, 1, 3, 16⟩ [encodeFrameRuns true
      [[.lit [1]], [.lit [2]], [.lit [3]], [.lit [4]], [.lit [5]], [.lit [6]]]] 0 [9]
    = .ok [9, 2, 1, 4, 3, 6, 5] :=
  rle_frame_rt (Or.inr rfl) validFrame_witness_rgb16 _ 0 rfl [9]

end Dicom.Rle
