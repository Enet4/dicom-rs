import DicomModel.Model.Assoc
/-
C28 — the association acceptor negotiates presentation contexts by the rules.

All theorems are about `processRq` / `negotiateOne`, the transcription of
`ServerAssociationOptions::process_a_association_rq` and its helpers, for *every* request
(any number of contexts, any strings), every configuration, every registry contents and every
user-supplied access-control / negotiation policy.

The one clause the code as found did not satisfy — a protocol-version mismatch was answered with
service-user / no-reason-given instead of service-provider(ACSE) / protocol-version-not-supported
(repaired in /repo by "fix: reject an unsupported protocol version with the matching
A-ASSOCIATE-RJ reason") — is isolated in `Variant`: `reject_protocol_version` is proved for the
repaired variant (= the code now) and `shipped_protocol_version_reason_not_matching` proves the
negation for the code as originally shipped.
-/
namespace Dicom.Assoc

variable (v : Variant) (cfg : Config) (reg : List Str) (pol : Policy) (impl : Impl)

/-! ### transfer syntax choice = first eligible -/

theorem tsPred_eq (h : cfg.transferSyntaxes ≠ []) (ts : Str) :
    tsPred cfg reg ts = decide (Eligible cfg reg ts) := by
  simp [tsPred, Eligible, h]

/-- `choose_ts` picks the first proposed transfer syntax that is eligible (the inner
`is_empty` test of the closure is dead code). -/
theorem chooseTs_eq_find (tss : List Str) :
    chooseTs cfg reg tss = tss.find? (fun ts => decide (Eligible cfg reg ts)) := by
  unfold chooseTs
  split
  · next h => simp [chooseSupported, Eligible, List.isEmpty_iff.mp h]
  · next h =>
    congr 1
    funext ts
    exact tsPred_eq cfg reg (mt List.isEmpty_iff.mpr h) ts

theorem abstract_test_eq (a : Str) :
    (!cfg.abstractSyntaxes.contains (trimUid a) && !cfg.promiscuous) = !decide (AbstractOk cfg a) := by
  rw [Bool.eq_iff_iff, Bool.not_eq_true', decide_eq_false_iff_not]
  simp [AbstractOk]

/-! ### per presentation context -/

theorem negotiateOne_cases (pc : Proposed) :
    ∃ r ts, negotiateOne cfg reg pc = ⟨pc.id, r, ts, trimUid pc.abstractSyntax⟩ ∧
      ((¬ AbstractOk cfg pc.abstractSyntax ∧ r = .abstractSyntaxNotSupported ∧ ts = IMPLICIT_VR_LE) ∨
       (AbstractOk cfg pc.abstractSyntax ∧ (∀ t ∈ pc.transferSyntaxes, ¬ Eligible cfg reg t) ∧
          r = .transferSyntaxesNotSupported ∧ ts = IMPLICIT_VR_LE) ∨
       (AbstractOk cfg pc.abstractSyntax ∧ r = .acceptance ∧ Eligible cfg reg ts ∧
          ∃ pre post, pc.transferSyntaxes = pre ++ ts :: post ∧ ∀ t ∈ pre, ¬ Eligible cfg reg t)) := by
  unfold negotiateOne
  simp only [abstract_test_eq, chooseTs_eq_find]
  by_cases ha : AbstractOk cfg pc.abstractSyntax
  · cases hf : pc.transferSyntaxes.find? (fun ts => decide (Eligible cfg reg ts)) with
    | none => exact ⟨_, _, by simp [ha], .inr (.inl ⟨ha, by simpa using hf, rfl, rfl⟩)⟩
    | some ts =>
      obtain ⟨hts, pre, post, hsplit, hpre⟩ := List.find?_eq_some_iff_append.mp hf
      exact ⟨_, ts, by simp [ha],
        .inr (.inr ⟨ha, rfl, by simpa using hts, pre, post, hsplit, by simpa using hpre⟩)⟩
  · exact ⟨_, _, by simp [ha], .inl ⟨ha, rfl, rfl⟩⟩

/-- the result of one context carries the proposed identifier and the trimmed abstract syntax -/
theorem negotiateOne_id (pc : Proposed) :
    (negotiateOne cfg reg pc).id = pc.id ∧
    (negotiateOne cfg reg pc).abstractSyntax = trimUid pc.abstractSyntax := by
  obtain ⟨_, _, e, _⟩ := negotiateOne_cases cfg reg pc
  rw [e]
  exact ⟨rfl, rfl⟩

/-- A context is accepted exactly when its abstract syntax is configured (or the
acceptor is promiscuous) and some proposed transfer syntax is configured (any when none is
configured) and supported by the registry. -/
theorem accept_iff (pc : Proposed) :
    (negotiateOne cfg reg pc).reason = .acceptance ↔
      AbstractOk cfg pc.abstractSyntax ∧ ∃ ts ∈ pc.transferSyntaxes, Eligible cfg reg ts := by
  obtain ⟨_, ts, e, h⟩ := negotiateOne_cases cfg reg pc
  rw [e]
  rcases h with ⟨ha, rfl, _⟩ | ⟨ha, hno, rfl, _⟩ | ⟨ha, rfl, hts, _, _, hs, _⟩
  · simp [ha]
  · simpa [ha] using hno
  · simp only [ha, true_and, true_iff]
    exact ⟨ts, by simp [hs], hts⟩

/-- The accepted transfer syntax is the first eligible proposed one — it is
eligible, it occurs in the proposal, and nothing before it is eligible. It is returned exactly
as proposed (padding included). -/
theorem chosen_is_first (pc : Proposed)
    (h : (negotiateOne cfg reg pc).reason = .acceptance) :
    ∃ pre post, pc.transferSyntaxes = pre ++ (negotiateOne cfg reg pc).transferSyntax :: post ∧
      (∀ t ∈ pre, ¬ Eligible cfg reg t) ∧
      Eligible cfg reg (negotiateOne cfg reg pc).transferSyntax := by
  obtain ⟨_, ts, e, hc⟩ := negotiateOne_cases cfg reg pc
  rw [e] at h ⊢
  rcases hc with ⟨_, rfl, _⟩ | ⟨_, _, rfl, _⟩ | ⟨_, _, hts, pre, post, hs, hpre⟩
  · cases h
  · cases h
  · exact ⟨pre, post, hs, hpre, hts⟩

/-- A context that is not accepted names the failing condition —
"abstract syntax not supported" exactly when the abstract syntax is neither configured nor
waved through by promiscuous mode, "transfer syntaxes not supported" exactly when the abstract
syntax passed and no proposed transfer syntax is eligible; no other reason is ever given. -/
theorem reason_names_failure (pc : Proposed) :
    ((negotiateOne cfg reg pc).reason = .abstractSyntaxNotSupported ↔
        ¬ AbstractOk cfg pc.abstractSyntax) ∧
    ((negotiateOne cfg reg pc).reason = .transferSyntaxesNotSupported ↔
        AbstractOk cfg pc.abstractSyntax ∧ ¬ ∃ ts ∈ pc.transferSyntaxes, Eligible cfg reg ts) ∧
    ((negotiateOne cfg reg pc).reason = .acceptance ∨
     (negotiateOne cfg reg pc).reason = .abstractSyntaxNotSupported ∨
     (negotiateOne cfg reg pc).reason = .transferSyntaxesNotSupported) := by
  obtain ⟨_, ts, e, h⟩ := negotiateOne_cases cfg reg pc
  rw [e]
  rcases h with ⟨ha, rfl, _⟩ | ⟨ha, hno, rfl, _⟩ | ⟨ha, rfl, hts, _, _, hs, _⟩
  · simp [ha]
  · simpa [ha] using hno
  · have hex : ∃ t ∈ pc.transferSyntaxes, Eligible cfg reg t := ⟨ts, by simp [hs], hts⟩
    simp [ha, hex]

/-- a refused context carries the default transfer syntax in its (insignificant) TS field -/
theorem refused_ts_is_default (pc : Proposed)
    (h : (negotiateOne cfg reg pc).reason ≠ .acceptance) :
    (negotiateOne cfg reg pc).transferSyntax = IMPLICIT_VR_LE := by
  obtain ⟨_, _, e, hc⟩ := negotiateOne_cases cfg reg pc
  rcases hc with ⟨_, _, hts⟩ | ⟨_, _, _, hts⟩ | ⟨_, rfl, _⟩
  · rw [e, hts]
  · rw [e, hts]
  · rw [e] at h
    exact absurd rfl h

/-! ### whole request -/

theorem processRq_version (rq : Request) (h : rq.protocolVersion ≠ cfg.protocolVersion) :
    processRq v cfg reg pol impl (.assocRQ rq) = reject (pvRejectSource v) := by
  simp [processRq, h]

/-- the request is answered with A-ASSOCIATE-AC exactly when protocol version and application
context name match and access control gives clearance; the answer and the acceptor's state are
then determined by the per-context negotiation. -/
theorem accepted_iff (rq : Request) :
    (∃ view, (processRq v cfg reg pol impl (.assocRQ rq)).result = .ok view) ↔
      rq.protocolVersion = cfg.protocolVersion ∧ rq.appContext = cfg.appContext ∧
      pol.access cfg.aeTitle rq.calling rq.called (processUserVars pol rq.userVars).identity = none := by
  unfold processRq
  by_cases h1 : rq.protocolVersion = cfg.protocolVersion
  · by_cases h2 : rq.appContext = cfg.appContext
    · simp only [h1, h2, ne_eq, not_true_eq_false, ↓reduceIte, true_and]
      cases pol.access cfg.aeTitle rq.calling rq.called (processUserVars pol rq.userVars).identity with
      | none => simp
      | some r => simp [reject]
    · simp [h1, h2, reject]
  · simp [h1, reject]

theorem accepted_shape (rq : Request) (view : ServerView)
    (h : (processRq v cfg reg pol impl (.assocRQ rq)).result = .ok view) :
    view = ⟨(processUserVars pol rq.userVars).requestorMax, cfg.maxPdu,
            [UserVar.maxLength cfg.maxPdu, .implClassUid impl.classUid,
              .implVersion impl.versionName] ++ (processUserVars pol rq.userVars).extra,
            rq.contexts.map (negotiateOne cfg reg), rq.calling, rq.called⟩ ∧
    (processRq v cfg reg pol impl (.assocRQ rq)).reply =
        .assocAC ⟨cfg.protocolVersion, rq.calling, rq.called, rq.appContext,
                  view.contexts.map Negotiated.toResult, view.userVars⟩ := by
  obtain ⟨h1, h2, h3⟩ := (accepted_iff v cfg reg pol impl rq).mp ⟨view, h⟩
  simp only [processRq, h1, h2, h3, ne_eq, not_true_eq_false, ↓reduceIte] at h ⊢
  cases h
  exact ⟨rfl, rfl⟩

/-- The A-ASSOCIATE-AC carries one result per proposed presentation
context, with the same identifiers in the same order; so does the acceptor's own list, and the
two agree entry by entry. -/
theorem one_result_per_context (rq : Request) (view : ServerView)
    (h : (processRq v cfg reg pol impl (.assocRQ rq)).result = .ok view) :
    ∃ ac, (processRq v cfg reg pol impl (.assocRQ rq)).reply = .assocAC ac ∧
      ac.contexts.length = rq.contexts.length ∧
      ac.contexts.map (·.id) = rq.contexts.map (·.id) ∧
      view.contexts.map (·.id) = rq.contexts.map (·.id) ∧
      ac.contexts = view.contexts.map Negotiated.toResult := by
  obtain ⟨rfl, hr⟩ := accepted_shape v cfg reg pol impl rq view h
  have hid : (rq.contexts.map (negotiateOne cfg reg)).map (·.id) = rq.contexts.map (·.id) := by
    rw [List.map_map]
    exact List.map_congr_left fun pc _ => (negotiateOne_id cfg reg pc).1
  refine ⟨_, hr, by simp, ?_, hid, rfl⟩
  rw [← hid, List.map_map]
  rfl

/-- the `i`-th result of the answer is the negotiation of the `i`-th proposed context, so
`accept_iff`, `chosen_is_first` and `reason_names_failure` speak about every entry of the PDU. -/
theorem result_pointwise (rq : Request) (view : ServerView)
    (h : (processRq v cfg reg pol impl (.assocRQ rq)).result = .ok view)
    (i : Nat) (hi : i < rq.contexts.length) :
    view.contexts[i]? = some (negotiateOne cfg reg rq.contexts[i]) := by
  obtain ⟨rfl, _⟩ := accepted_shape v cfg reg pol impl rq view h
  simp [hi]

/-! ### rejections -/

/-- Repaired variant: another protocol version is rejected
with service-provider (ACSE) / protocol-version-not-supported, whatever else the request says. -/
theorem reject_protocol_version (rq : Request) (h : rq.protocolVersion ≠ cfg.protocolVersion) :
    (processRq .repaired cfg reg pol impl (.assocRQ rq)).reply
        = .assocRJ true .providerAcseProtocolVersion ∧
    (processRq .repaired cfg reg pol impl (.assocRQ rq)).result = .error .rejected ∧
    RjSource.codes .providerAcseProtocolVersion = (2, 2) := by
  rw [processRq_version .repaired cfg reg pol impl rq h]
  exact ⟨rfl, rfl, rfl⟩

/-- the code as shipped answers a protocol-version mismatch with service-user / no-reason-given
(codes 1,1), which is not the matching reason (codes 2,2): the clause fails on this witness. -/
theorem shipped_protocol_version_reason_not_matching :
    ∃ rq : Request, rq.protocolVersion ≠ ({} : Config).protocolVersion ∧
      (processRq .shipped {} [] (Policy.default acceptAny) ⟨[], []⟩ (.assocRQ rq)).reply
        = .assocRJ true (.serviceUser .noReasonGiven) ∧
      RjSource.codes (.serviceUser .noReasonGiven) ≠ RjSource.codes .providerAcseProtocolVersion :=
  ⟨⟨2, [], [], DEFAULT_APP_CONTEXT, [], []⟩, by decide, by decide, by decide⟩

theorem reject_app_context (rq : Request) (h1 : rq.protocolVersion = cfg.protocolVersion)
    (h2 : rq.appContext ≠ cfg.appContext) :
    (processRq v cfg reg pol impl (.assocRQ rq)).reply
        = .assocRJ true (.serviceUser .appContextNotSupported) ∧
    (processRq v cfg reg pol impl (.assocRQ rq)).result = .error .rejected ∧
    RjSource.codes (.serviceUser .appContextNotSupported) = (1, 2) := by
  simp [processRq, h1, h2, reject, RjSource.codes]

/-- A request refused by the access-control policy is
rejected with exactly the service-user reason the policy gave; the policy sees this node's AE
title, the calling and called titles of the request and the *last* user identity item. -/
theorem reject_access_control (rq : Request) (r : SuReason)
    (h1 : rq.protocolVersion = cfg.protocolVersion) (h2 : rq.appContext = cfg.appContext)
    (h3 : pol.access cfg.aeTitle rq.calling rq.called
            (processUserVars pol rq.userVars).identity = some r) :
    (processRq v cfg reg pol impl (.assocRQ rq)).reply = .assocRJ true (.serviceUser r) ∧
    (processRq v cfg reg pol impl (.assocRQ rq)).result = .error .rejected := by
  simp [processRq, h1, h2, h3, reject]

/-- `AcceptCalledAeTitle` refuses exactly the requests whose called AE title differs from this
node's, with called-AE-title-not-recognized (1,7); `AcceptAny` refuses nothing. -/
theorem builtin_access_control (this calling called : Str) (u : Option UserIdentity) :
    acceptAny this calling called u = none ∧
    (acceptCalledAeTitle this calling called u = none ↔ this = called) ∧
    (this ≠ called → acceptCalledAeTitle this calling called u = some .calledNotRecognized) ∧
    RjSource.codes (.serviceUser .calledNotRecognized) = (1, 7) := by
  refine ⟨rfl, ?_, ?_, rfl⟩
  · simp [acceptCalledAeTitle]
  · intro h
    simp [acceptCalledAeTitle, h]

/-! ### maximum PDU length of the requestor -/

def isMaxLength : UserVar → Bool
  | .maxLength _ => true
  | _ => false

theorem uvStep_keeps_max (st : UvState) (u : UserVar) (h : isMaxLength u = false) :
    (uvStep pol st u).requestorMax = st.requestorMax := by
  cases u <;> simp [uvStep, isMaxLength] at h ⊢
  · split <;> rfl
  · split <;> rfl

theorem foldl_keeps_max (uvs : List UserVar) (st : UvState)
    (h : ∀ u ∈ uvs, isMaxLength u = false) :
    (uvs.foldl (uvStep pol) st).requestorMax = st.requestorMax :=
  List.foldlRecOn uvs (uvStep pol) (motive := fun x => x.requestorMax = st.requestorMax) rfl
    fun b hb u hu => (uvStep_keeps_max pol b u (h u hu)).trans hb

/-- Absent ↦ the default; otherwise the *last* Maximum Length item
decides: 0 ↦ the largest supported, `n` ↦ `min n MAXIMUM_PDU_SIZE`. -/
theorem max_pdu_from_request (uvs : List UserVar) :
    ((∀ u ∈ uvs, isMaxLength u = false) →
        (processUserVars pol uvs).requestorMax = DEFAULT_MAX_PDU) ∧
    (∀ pre post n, uvs = pre ++ UserVar.maxLength n :: post →
        (∀ u ∈ post, isMaxLength u = false) →
        (processUserVars pol uvs).requestorMax =
          if n = 0 then MAXIMUM_PDU_SIZE else min n MAXIMUM_PDU_SIZE) := by
  constructor
  · intro h
    exact foldl_keeps_max pol uvs {} h
  · intro pre post n hs hpost
    subst hs
    unfold processUserVars
    rw [List.foldl_append, List.foldl_cons, foldl_keeps_max pol post _ hpost]
    rfl

/-- the acceptor's view: the requestor's maximum comes from the request as above, never exceeds
the largest supported value, and the acceptor's own maximum is the configured one, which is also
what the A-ASSOCIATE-AC announces in its first user item. -/
theorem max_pdu_in_view (rq : Request) (view : ServerView)
    (h : (processRq v cfg reg pol impl (.assocRQ rq)).result = .ok view) :
    view.peerMaxPdu = (processUserVars pol rq.userVars).requestorMax ∧
    view.localMaxPdu = cfg.maxPdu ∧
    view.userVars.head? = some (.maxLength cfg.maxPdu) := by
  obtain ⟨rfl, _⟩ := accepted_shape v cfg reg pol impl rq view h
  exact ⟨rfl, rfl, rfl⟩

theorem uvStep_max_le (st : UvState) (u : UserVar) (h : st.requestorMax ≤ MAXIMUM_PDU_SIZE) :
    (uvStep pol st u).requestorMax ≤ MAXIMUM_PDU_SIZE := by
  cases u <;> simp only [uvStep] <;> try exact h
  · split
    · exact Nat.le_refl _
    · exact Nat.min_le_right _ _
  · split <;> exact h
  · split <;> exact h

theorem requestorMax_le (uvs : List UserVar) :
    (processUserVars pol uvs).requestorMax ≤ MAXIMUM_PDU_SIZE :=
  List.foldlRecOn uvs (uvStep pol) (motive := fun x => x.requestorMax ≤ MAXIMUM_PDU_SIZE) (by decide)
    fun b hb u _ => uvStep_max_le pol b u hb

/-! ### other first PDUs, and `establish` -/

/-- anything but an A-ASSOCIATE-RQ never establishes an association: a release request is
answered with a release reply, the rest with an abort. -/
theorem non_request_never_established (p : Pdu) (h : ∀ rq, p ≠ .assocRQ rq) :
    ∃ e, (processRq v cfg reg pol impl p).result = .error e ∧
      ((processRq v cfg reg pol impl p).reply = .releaseRP ∨
       ∃ s, (processRq v cfg reg pol impl p).reply = .abortRQ s) := by
  cases p with
  | assocRQ rq => exact absurd rfl (h rq)
  | releaseRQ => exact ⟨_, rfl, .inl rfl⟩
  | _ => exact ⟨_, rfl, .inr ⟨_, rfl⟩⟩

/-! ### non-vacuity: the hypotheses above are satisfiable, on the default configuration -/

def exCfg : Config := (({} : Config).withAbstractSyntax "1.2.840.10008.1.1\x00".toList)
def exReg : List Str := [IMPLICIT_VR_LE, "1.2.840.10008.1.2.1".toList]
def exPc : Proposed := ⟨3, "1.2.840.10008.1.1".toList, ["1.2.3".toList, "1.2.840.10008.1.2.1\x00".toList, IMPLICIT_VR_LE]⟩
def exRq : Request := ⟨1, "SCU".toList, "THIS-SCP".toList, DEFAULT_APP_CONTEXT, [exPc], [.maxLength 0]⟩

theorem negotiateOne_exPc : negotiateOne exCfg exReg exPc =
    ⟨3, .acceptance, "1.2.840.10008.1.2.1\x00".toList, "1.2.840.10008.1.1".toList⟩ := by
  decide +kernel

example : (negotiateOne exCfg exReg exPc).reason = .acceptance := by rw [negotiateOne_exPc]
example : (negotiateOne exCfg exReg exPc).transferSyntax = "1.2.840.10008.1.2.1\x00".toList := by
  rw [negotiateOne_exPc]
example : (negotiateOne exCfg exReg { exPc with abstractSyntax := "1.2".toList }).reason
    = .abstractSyntaxNotSupported := by decide +kernel
example : (negotiateOne exCfg exReg { exPc with transferSyntaxes := ["1.2.3".toList] }).reason
    = .transferSyntaxesNotSupported := by decide +kernel
example : ∃ view, (processRq .repaired exCfg exReg (Policy.default acceptCalledAeTitle) ⟨[], []⟩
    (.assocRQ exRq)).result = .ok view ∧ view.peerMaxPdu = MAXIMUM_PDU_SIZE := by
  obtain ⟨view, h⟩ := (accepted_iff .repaired exCfg exReg (.default acceptCalledAeTitle) ⟨[], []⟩
    exRq).mpr ⟨rfl, rfl, (builtin_access_control exCfg.aeTitle exRq.calling exRq.called none).2.1.mpr rfl⟩
  exact ⟨view, h, (max_pdu_in_view _ _ _ _ _ _ _ h).1⟩

end Dicom.Assoc
