import DicomModel.Model.Registry
import DicomModel.Gen.Registry
/-
C16 — Every registered transfer syntax is described consistently.

Two layers.
(1) General theorems about the *code* of the registry, for every map, every registration sequence
    (built-ins and plug-ins alike) and every string: trimming makes `get` blind to trailing
    NUL/whitespace, `register` keeps keys unique, never drops a key, and never loses a capability
    of an already registered UID; the seven capability queries are coherent functions of the codec.
(2) Facts about the *contents* of the real registry, dumped at run time by the translator into
    `Gen/Registry.lean` for the two feature sets of the property (`Gen.tools`: rle+jpeg+deflate as
    the tools link it; `Gen.dflt`: default features): decided on the whole (finite) table.
-/
namespace Dicom.Registry

/-! ## (1a) `get` and padding -/

def AllPad (p : Str) : Prop := ∀ c ∈ p, isPad c = true

instance (p : Str) : Decidable (AllPad p) := by unfold AllPad; exact inferInstance

theorem trimEnd_allPad {p : Str} (h : AllPad p) : trimEnd p = [] := by
  induction p with
  | nil => rfl
  | cons c cs ih =>
    obtain ⟨hc, hcs⟩ := List.forall_mem_cons.mp h
    simp [trimEnd, ih hcs, hc]

/-- trailing padding (any mix of NUL and Unicode whitespace, any length) is invisible to `trimEnd` -/
theorem trimEnd_append_pad (s : Str) {p : Str} (h : AllPad p) : trimEnd (s ++ p) = trimEnd s := by
  induction s with
  | nil => simp [trimEnd_allPad h, trimEnd]
  | cons c cs ih => simp [trimEnd, ih]

/-- a string that does not end in a padding character is left alone -/
theorem trimEnd_clean : ∀ (s : Str), (∀ c, s.getLast? = some c → isPad c = false) → trimEnd s = s
  | [], _ => rfl
  | [c], h => by
    have : isPad c = false := h c (by simp)
    simp [trimEnd, this]
  | c :: d :: cs, h => by
    have ih := trimEnd_clean (d :: cs) (fun x hx => h x (by simpa [List.getLast?_cons_cons] using hx))
    simp only [trimEnd] at ih ⊢
    rw [ih]

theorem trimEnd_idem (s : Str) : trimEnd (trimEnd s) = trimEnd s := by
  induction s with
  | nil => rfl
  | cons c cs ih =>
    simp only [trimEnd]
    cases h : trimEnd cs with
    | nil =>
      by_cases hc : isPad c = true
      · simp [hc, trimEnd]
      · simp [hc, trimEnd]
    | cons d ds =>
      rw [h] at ih
      simp only [trimEnd] at ih ⊢
      rw [ih]

/-- **get_padded** (every map, every string, every padding): looking up `uid ++ pad` is looking up `uid`. -/
theorem get_padded (m : Map) (uid : Str) {pad : Str} (h : AllPad pad) :
    get m (uid ++ pad) = get m uid := by
  simp [get, trimEnd_append_pad uid h]

/-- NULs and spaces are padding (the two paddings DICOM uses for UIDs) -/
theorem nul_space_allPad (pad : Str) (h : ∀ c ∈ pad, c = 0 ∨ c = 32) : AllPad pad := by
  intro c hc
  rcases h c hc with rfl | rfl <;> decide

/-! ## (1b) `register`: unique keys, precedence -/

theorem eqStr_iff : ∀ (a b : Str), eqStr a b = true ↔ a = b
  | [], [] => by simp [eqStr]
  | [], _ :: _ => by simp [eqStr]
  | _ :: _, [] => by simp [eqStr]
  | a :: as, b :: bs => by simp [eqStr, eqStr_iff as bs]

theorem eqStr_eq_decide (a b : Str) : eqStr a b = decide (a = b) := by
  rw [Bool.eq_iff_iff]; simp [eqStr_iff]

theorem lookup_eq (m : Map) (k : Str) : lookup m k = m.find? (fun e => decide (e.uid = k)) := by
  simp only [lookup, eqStr_eq_decide]

theorem replaceKey_eq (m : Map) (t : Ts) : replaceKey m t = m.map fun e => if e.uid = t.uid then t else e := by
  simp only [replaceKey, eqStr_eq_decide, decide_eq_true_eq]

def keys (m : Map) : List Str := m.map (·.uid)

theorem lookup_none_iff {m : Map} {k : Str} : lookup m k = none ↔ k ∉ keys m := by
  simp only [lookup_eq, List.find?_eq_none, decide_eq_true_eq, keys, List.mem_map, not_exists, not_and]

theorem lookup_some_uid {m : Map} {k : Str} {t : Ts} (h : lookup m k = some t) : t.uid = k ∧ t ∈ m := by
  rw [lookup_eq] at h
  have h1 := List.find?_some h
  have h2 := List.mem_of_find?_eq_some h
  exact ⟨by simpa using h1, h2⟩

theorem replaceKey_uid (t e : Ts) : (if e.uid = t.uid then t else e).uid = e.uid := by
  split
  · next h => exact h.symm
  · rfl

theorem keys_replaceKey (m : Map) (t : Ts) : keys (replaceKey m t) = keys m := by
  simp only [keys, replaceKey_eq, List.map_map]
  exact List.map_congr_left fun e _ => replaceKey_uid t e

/-- the key set after `register`: unchanged, or one new key at the end -/
theorem keys_register (m : Map) (t : Ts) :
    keys (register m t).1 = if t.uid ∈ keys m then keys m else keys m ++ [t.uid] := by
  unfold register
  cases h : lookup m t.uid with
  | none =>
    have hn := lookup_none_iff.mp h
    rw [if_neg hn]; simp [keys]
  | some old =>
    have hin : t.uid ∈ keys m := by
      have := lookup_some_uid h
      rw [← this.1]; exact List.mem_map_of_mem this.2
    by_cases hr : replaces old.codec t.codec = true
    · simp [hr, hin, keys_replaceKey]
    · simp [hr, hin]

/-- **uids_unique, general form**: `register` preserves uniqueness of keys … -/
theorem register_nodup (m : Map) (t : Ts) (h : (keys m).Nodup) : (keys (register m t).1).Nodup := by
  rw [keys_register]
  by_cases hin : t.uid ∈ keys m
  · simp [hin, h]
  · simp only [hin, if_false]
    exact List.nodup_append.mpr ⟨h, by simp, by
      intro a ha b hb
      simp at hb; subst hb; intro e; exact hin (e ▸ ha)⟩

theorem foldl_register_nodup (l : List Ts) (m : Map) (h : (keys m).Nodup) :
    (keys (l.foldl (fun m t => (register m t).1) m)).Nodup := by
  induction l generalizing m with
  | nil => exact h
  | cons t ts ih => exact ih _ (register_nodup m t h)

/-- … so whatever is registered in whatever order (built-ins, inventory plug-ins, duplicates),
the registry never holds two entries with the same UID. -/
theorem build_nodup (l : List Ts) : (keys (build l)).Nodup :=
  foldl_register_nodup l [] (by simp [keys])

/-- a registered UID is never dropped by later registrations -/
theorem register_keeps_keys (m : Map) (t : Ts) {k : Str} (h : k ∈ keys m) : k ∈ keys (register m t).1 := by
  rw [keys_register]
  by_cases hin : t.uid ∈ keys m <;> simp [hin, h]

theorem lookup_mem {m : Map} (hn : (keys m).Nodup) {t : Ts} (ht : t ∈ m) : lookup m t.uid = some t := by
  induction m with
  | nil => cases ht
  | cons e es ih =>
    simp only [keys, List.map_cons, List.nodup_cons] at hn
    simp only [lookup_eq, List.find?_cons] at ih ⊢
    rcases List.mem_cons.mp ht with rfl | hmem
    · simp
    · have hne : e.uid ≠ t.uid := fun e' => hn.1 (e' ▸ List.mem_map_of_mem hmem)
      simp only [hne, decide_false]
      exact ih hn.2 hmem

theorem lookup_append_new {m : Map} {t : Ts} (h : lookup m t.uid = none) (k : Str) :
    lookup (m ++ [t]) k = if k = t.uid then some t else lookup m k := by
  rw [lookup_eq] at h
  simp only [lookup_eq, List.find?_append, List.find?_singleton]
  by_cases hk : k = t.uid
  · rw [hk, h]
    simp
  · simp [hk, Ne.symm hk]

theorem lookup_replaceKey (m : Map) (t : Ts) (k : Str) :
    lookup (replaceKey m t) k = (lookup m k).map fun e => if e.uid = t.uid then t else e := by
  simp only [lookup_eq, replaceKey_eq, List.find?_map]
  congr
  funext e
  simp [replaceKey_uid]

/-- **register precedence**: what `lookup` answers after `register m t`. -/
theorem lookup_register (m : Map) (t : Ts) (k : Str) :
    lookup (register m t).1 k =
      if k = t.uid then
        (match lookup m t.uid with
         | none => some t
         | some old => if replaces old.codec t.codec then some t else some old)
      else lookup m k := by
  unfold register
  cases h : lookup m t.uid with
  | none => simp [lookup_append_new h]
  | some old =>
    by_cases hr : replaces old.codec t.codec = true
    · simp only [hr, if_true, lookup_replaceKey]
      by_cases hk : k = t.uid
      · rw [hk, h, if_pos rfl, Option.map_some, if_pos (lookup_some_uid h).1]
      · rw [if_neg hk]
        cases hl : lookup m k with
        | none => rfl
        | some e => rw [Option.map_some, if_neg ((lookup_some_uid hl).1 ▸ hk)]
    · by_cases hk : k = t.uid
      · simp [hr, hk, h]
      · simp [hr, hk]

theorem Codec.forall_iff {P : Codec → Prop} :
    (∀ c, P c) ↔ P .none ∧ P (.encap false false) ∧ P (.encap false true) ∧ P (.encap true false) ∧
      P (.encap true true) ∧ P (.dataset false) ∧ P (.dataset true) := by
  constructor
  · intro h
    exact ⟨h _, h _, h _, h _, h _, h _, h _⟩
  · rintro ⟨h0, h1, h2, h3, h4, h5, h6⟩ c
    cases c with
    | none => exact h0
    | encap r w => cases r <;> cases w <;> assumption
    | dataset d => cases d <;> assumption

/-- a replacement only ever *adds* capabilities -/
theorem replaces_le : ∀ a b : Codec, replaces a b = true → Codec.le a b = true := by
  refine Codec.forall_iff.mpr ⟨?_, ?_, ?_, ?_, ?_, ?_, ?_⟩ <;> exact Codec.forall_iff.mpr (by decide)

theorem Codec.le_refl (a : Codec) : Codec.le a a = true := by
  revert a
  exact Codec.forall_iff.mpr (by decide)

/-- **register_never_loses**: if a UID resolves before a registration, it still resolves after it,
to an entry of the same UID offering at least the same capabilities (fully supported stays fully
supported, decodable stays decodable, reader/writer stay present). -/
theorem register_never_loses (m : Map) (t : Ts) {k : Str} {old : Ts} (h : lookup m k = some old) :
    ∃ new, lookup (register m t).1 k = some new ∧ new.uid = k ∧ Codec.le old.codec new.codec = true := by
  rw [lookup_register]
  by_cases hk : k = t.uid
  · subst hk
    simp only [if_true, h]
    by_cases hr : replaces old.codec t.codec = true
    · exact ⟨t, by simp [hr], rfl, replaces_le _ _ hr⟩
    · exact ⟨old, by simp [hr], (lookup_some_uid h).1, Codec.le_refl _⟩
  · exact ⟨old, by simp [hk, h], (lookup_some_uid h).1, Codec.le_refl _⟩

/-- a fresh UID is registered as given -/
theorem register_vacant (m : Map) (t : Ts) (h : lookup m t.uid = none) :
    lookup (register m t).1 t.uid = some t ∧ (register m t).2 = true := by
  constructor
  · rw [lookup_register]; simp [h]
  · simp [register, h]

/-- **get_of_mem**: in any map with unique keys, an entry whose UID does not itself end in padding is
found under its UID followed by any padding. -/
theorem get_of_mem {m : Map} (hn : (keys m).Nodup) {t : Ts} (ht : t ∈ m) (hclean : trimEnd t.uid = t.uid)
    {pad : Str} (hp : AllPad pad) : get m (t.uid ++ pad) = some t := by
  rw [get_padded _ _ hp]
  simp only [get, hclean]
  exact lookup_mem hn ht

/-- **get_registered**: … in particular in any registry built by `register`. -/
theorem get_registered (l : List Ts) {t : Ts} (ht : t ∈ build l) (hclean : trimEnd t.uid = t.uid)
    {pad : Str} (hp : AllPad pad) : get (build l) (t.uid ++ pad) = some t :=
  get_of_mem (build_nodup l) ht hclean hp

/-! ## (1c) the capability queries are coherent, for every codec -/

theorem fully_supported_decodes_all (c : Codec) : c.isFullySupported = true → c.canDecodeAll = true := by
  revert c
  exact Codec.forall_iff.mpr (by decide)

theorem decode_all_decodes_dataset (c : Codec) : c.canDecodeAll = true → c.canDecodeDataset = true := by
  revert c
  exact Codec.forall_iff.mpr (by decide)

theorem codec_free_fully_supported (c : Codec) : c.isCodecFree = true → c.isFullySupported = true := by
  revert c
  exact Codec.forall_iff.mpr (by decide)

theorem unsupported_iff_not_decodable (c : Codec) : c.isUnsupported = true ↔ c.canDecodeDataset = false := by
  revert c
  exact Codec.forall_iff.mpr (by decide)

theorem fully_supported_iff (c : Codec) :
    c.isFullySupported = true ↔
      c.canDecodeDataset = true ∧ (c.isEncapsulatedPixelData = true → c.hasPixelReader = true ∧ c.hasPixelWriter = true) := by
  revert c
  exact Codec.forall_iff.mpr (by decide)

theorem decode_all_iff (c : Codec) :
    c.canDecodeAll = true ↔
      c.canDecodeDataset = true ∧ (c.isEncapsulatedPixelData = true → c.hasPixelReader = true) := by
  revert c
  exact Codec.forall_iff.mpr (by decide)

theorem unsupported_pixel_iff (c : Codec) :
    c.isUnsupportedPixelEncapsulation = true ↔
      c.isUnsupported = true ∨ (c.isEncapsulatedPixelData = true ∧ c.hasPixelReader = false ∧ c.hasPixelWriter = false) := by
  revert c
  exact Codec.forall_iff.mpr (by decide)

/-- decoder and encoder are offered together and for the same encoding; only the (unregistered)
implicit-VR big-endian combination has none -/
theorem coder_present_iff (t : Ts) : t.coder.isSome = true ↔ ¬ (t.big = true ∧ t.explicit = false) := by
  cases t with
  | mk uid name big explicit codec => cases big <;> cases explicit <;> simp [Ts.coder, coderOf]

/-! ## (2) the dumped registries -/

theorem Coder.beq_iff (a b : Coder) : a.beq b = true ↔ a = b := by cases a <;> cases b <;> decide

theorem optCoderBeq_iff (a b : Option Coder) : optCoderBeq a b = true ↔ a = b := by
  cases a <;> cases b <;> simp [optCoderBeq, Coder.beq_iff]

theorem Queries.beq_iff (a b : Queries) : a.beq b = true ↔ a = b := by
  cases a; cases b; simp [Queries.beq, and_assoc]

theorem Codec.beq_iff (a b : Codec) : a.beq b = true ↔ a = b := by
  cases a <;> cases b <;> simp [Codec.beq]

/-! strictly ascending lists have no duplicates -/

theorem ltStr_irrefl : ∀ (a : Str), ltStr a a = false
  | [] => rfl
  | a :: as => by
    have h : Nat.blt a a = false := by
      rw [Bool.eq_false_iff, ne_eq, Nat.blt_eq]; omega
    simp [ltStr, ltStr_irrefl as, h]

theorem ltStr_trans : ∀ (a b c : Str), ltStr a b = true → ltStr b c = true → ltStr a c = true
  | a, [], _, h, _ => by cases a <;> simp [ltStr] at h
  | _, _ :: _, [], _, h => by simp [ltStr] at h
  | [], _ :: _, _ :: _, _, _ => rfl
  | a :: as, b :: bs, c :: cs, h1, h2 => by
    simp only [ltStr, Bool.or_eq_true, Bool.and_eq_true, Nat.blt_eq, Nat.beq_eq] at h1 h2 ⊢
    rcases h1 with h1 | ⟨e1, h1⟩ <;> rcases h2 with h2 | ⟨e2, h2⟩
    · left; omega
    · left; omega
    · left; omega
    · right; exact ⟨by omega, ltStr_trans as bs cs h1 h2⟩

theorem ascB_head : ∀ (l : List Str) (a : Str), ascB (a :: l) = true → ∀ x ∈ l, ltStr a x = true
  | [], _, _, x, hx => by cases hx
  | b :: r, a, h, x, hx => by
    simp only [ascB, Bool.and_eq_true] at h
    rcases List.mem_cons.mp hx with rfl | hx
    · exact h.1
    · exact ltStr_trans a b x h.1 (ascB_head r b h.2 x hx)

theorem ascB_tail {a : Str} {l : List Str} (h : ascB (a :: l) = true) : ascB l = true := by
  cases l with
  | nil => rfl
  | cons b r => simp only [ascB, Bool.and_eq_true] at h; exact h.2

theorem ascB_nodup : ∀ (l : List Str), ascB l = true → l.Nodup
  | [], _ => List.nodup_nil
  | a :: l, h => by
    refine List.nodup_cons.mpr ⟨?_, ascB_nodup l (ascB_tail h)⟩
    intro hm
    have := ascB_head l a h a hm
    rw [ltStr_irrefl] at this; cases this

/-- registering entries with pairwise distinct UIDs one by one yields exactly that list: nothing is
shadowed, replaced or reordered -/
theorem foldl_register_distinct (l : List Ts) (m : Map) (h : (keys (m ++ l)).Nodup) :
    l.foldl (fun m t => (register m t).1) m = m ++ l := by
  induction l generalizing m with
  | nil => simp
  | cons t ts ih =>
    have hnot : t.uid ∉ keys m := by
      simp only [keys, List.map_append, List.map_cons] at h
      have := (List.nodup_append.mp h).2.2
      intro hin
      exact this _ hin _ (by simp) rfl
    have hreg : (register m t).1 = m ++ [t] := by
      simp [register, lookup_none_iff.mpr hnot]
    simp only [List.foldl_cons, hreg]
    rw [ih (m ++ [t]) (by simpa using h)]
    simp

theorem build_distinct (l : List Ts) (h : (keys l).Nodup) : build l = l := by
  have := foldl_register_distinct l [] (by simpa using h)
  simpa [build] using this

/-- what the Boolean per-entry check means -/
theorem Row.ok_sound {r : Row} (h : r.ok = true) :
    r = r.ts.row ∧
    (r.ts.explicit = false ↔ r.ts.uid = implicitLeUid) ∧
    (r.ts.big = true ↔ r.ts.uid = explicitBeUid) ∧
    (r.q.decodeDataset = true →
      r.dec.isSome = true ∧ r.enc.isSome = true ∧ r.dec = r.enc ∧ r.dec ≠ some .other) ∧
    trimEnd r.ts.uid = r.ts.uid := by
  simp only [Row.ok, Bool.and_eq_true] at h
  obtain ⟨⟨⟨⟨h1, h2⟩, h3⟩, h4⟩, h5⟩ := h
  refine ⟨?_, ?_, ?_, ?_, (eqStr_iff _ _).mp h5⟩
  · cases r with
    | mk ts q dec enc pr pw bb =>
      simp only [Row.agrees, Bool.and_eq_true, Queries.beq_iff, optCoderBeq_iff, beq_iff_eq] at h1
      obtain ⟨⟨⟨⟨⟨rfl, rfl⟩, rfl⟩, rfl⟩, rfl⟩, rfl⟩ := h1
      rfl
  · simp only [Row.onlyImplicitOk, beq_iff_eq] at h2
    rw [← eqStr_iff, ← h2]; cases r.ts.explicit <;> simp
  · simp only [Row.onlyBigOk, beq_iff_eq] at h3
    rw [← eqStr_iff, ← h3]
  · intro hd
    simp only [Row.decodableOk, hd, Bool.not_true, Bool.false_or, Bool.and_eq_true,
      Bool.not_eq_true', Bool.eq_false_iff, ne_eq, optCoderBeq_iff] at h4
    obtain ⟨⟨⟨a, b⟩, c⟩, d⟩ := h4
    exact ⟨a, b, c, d⟩


/-- the dumped registry, as a map of the model -/
def registryTools : Map := Gen.tools.map (·.ts)
def registryDefault : Map := Gen.dflt.map (·.ts)

theorem keys_map_ts (t : List Row) : keys (t.map (·.ts)) = uidsOf t := by
  simp [keys, uidsOf, List.map_map, Function.comp_def]

/-- all per-entry clauses hold of every entry of both dumped registries -/
theorem tables_ok : tableOk Gen.tools = true ∧ tableOk Gen.dflt = true := by decide +kernel

theorem rows_sound {r : Row} (hr : r ∈ Gen.tools ∨ r ∈ Gen.dflt) : r.ok = true :=
  hr.elim (List.all_eq_true.mp tables_ok.1 r) (List.all_eq_true.mp tables_ok.2 r)

/-- **uids_unique** — no two entries of the real registry share a UID
(the dump is sorted by UID, and a strictly ascending list has no duplicates) -/
theorem uids_unique_tools : (uidsOf Gen.tools).Nodup :=
  ascB_nodup _ (by decide +kernel)

theorem uids_unique_default : (uidsOf Gen.dflt).Nodup :=
  ascB_nodup _ (by decide +kernel)

/-- registering the dumped entries one by one with the model of `register` reproduces exactly the
dumped registry: no entry shadows or replaces another -/
theorem build_tables : build registryTools = registryTools ∧ build registryDefault = registryDefault :=
  ⟨build_distinct _ (by rw [registryTools, keys_map_ts]; exact uids_unique_tools),
   build_distinct _ (by rw [registryDefault, keys_map_ts]; exact uids_unique_default)⟩

/-- **only_implicit_is_implicit** (and Implicit VR Little Endian is registered) -/
theorem only_implicit_is_implicit :
    (∀ r ∈ Gen.tools, r.ts.explicit = false ↔ r.ts.uid = implicitLeUid) ∧
    (∀ r ∈ Gen.dflt, r.ts.explicit = false ↔ r.ts.uid = implicitLeUid) ∧
    (get registryTools implicitLeUid).isSome = true ∧ (get registryDefault implicitLeUid).isSome = true :=
  ⟨fun _ hr => let ⟨_, h, _⟩ := Row.ok_sound (rows_sound (.inl hr)); h,
   fun _ hr => let ⟨_, h, _⟩ := Row.ok_sound (rows_sound (.inr hr)); h, by decide +kernel, by decide +kernel⟩

/-- **only_be_is_be** (and Explicit VR Big Endian is registered) -/
theorem only_be_is_be :
    (∀ r ∈ Gen.tools, r.ts.big = true ↔ r.ts.uid = explicitBeUid) ∧
    (∀ r ∈ Gen.dflt, r.ts.big = true ↔ r.ts.uid = explicitBeUid) ∧
    (get registryTools explicitBeUid).isSome = true ∧ (get registryDefault explicitBeUid).isSome = true :=
  ⟨fun _ hr => let ⟨_, _, h, _⟩ := Row.ok_sound (rows_sound (.inl hr)); h,
   fun _ hr => let ⟨_, _, h, _⟩ := Row.ok_sound (rows_sound (.inr hr)); h, by decide +kernel, by decide +kernel⟩

/-- **decodable_has_codecs**: every entry whose data sets can be decoded (as answered by the real
`can_decode_dataset`) offered a data set decoder and an encoder, both for the same one of the
three encodings -/
theorem decodable_has_codecs :
    ∀ r, r ∈ Gen.tools ∨ r ∈ Gen.dflt → r.q.decodeDataset = true →
      r.dec.isSome = true ∧ r.enc.isSome = true ∧ r.dec = r.enc ∧ r.dec ≠ some .other :=
  fun _ hr => let ⟨_, _, _, h, _⟩ := Row.ok_sound (rows_sound hr); h

/-- **queries_agree**: every answer of the real code (7 capability queries, decoder(), encoder(),
pixel reader/writer, basic decoder) equals the model's function of the entry's codec shape and flags -/
theorem queries_agree : ∀ r, r ∈ Gen.tools ∨ r ∈ Gen.dflt → r = r.ts.row :=
  fun _ hr => (Row.ok_sound (rows_sound hr)).1

theorem uids_clean :
    (∀ t ∈ registryTools, trimEnd t.uid = t.uid) ∧ (∀ t ∈ registryDefault, trimEnd t.uid = t.uid) := by
  constructor
  · intro t ht
    obtain ⟨r, hr, rfl⟩ := List.mem_map.mp ht
    exact let ⟨_, _, _, _, h⟩ := Row.ok_sound (rows_sound (.inl hr)); h
  · intro t ht
    obtain ⟨r, hr, rfl⟩ := List.mem_map.mp ht
    exact let ⟨_, _, _, _, h⟩ := Row.ok_sound (rows_sound (.inr hr)); h

/-- **get_padded, on the real registry contents**: every registered UID, followed by any run of
NULs/whitespace, resolves to exactly its own entry (both feature sets). -/
theorem get_padded_tools {t : Ts} (ht : t ∈ registryTools) {pad : Str} (hp : AllPad pad) :
    get registryTools (t.uid ++ pad) = some t :=
  get_of_mem (by rw [registryTools, keys_map_ts]; exact uids_unique_tools) ht (uids_clean.1 t ht) hp

theorem get_padded_default {t : Ts} (ht : t ∈ registryDefault) {pad : Str} (hp : AllPad pad) :
    get registryDefault (t.uid ++ pad) = some t :=
  get_of_mem (by rw [registryDefault, keys_map_ts]; exact uids_unique_default) ht (uids_clean.2 t ht) hp

/-- the default feature set registers the same UIDs with the same flags; the tools' feature set only
adds capabilities (stubs replaced by implementations) -/
theorem default_below_tools : tablesLe Gen.dflt Gen.tools = true := by decide +kernel

/-- the three mandatory transfer syntaxes (`implicitLeUid ++ [46, 49]` is "….1.2.1", Explicit VR Little
Endian) are codec free, hence fully supported, in both feature sets -/
theorem mandatory_fully_supported :
    [implicitLeUid, implicitLeUid ++ [46, 49], explicitBeUid].all (fun u =>
      ((get registryTools (u ++ [0])).any fun t => eqStr t.uid u && t.codec.isCodecFree) &&
      ((get registryDefault (u ++ [32])).any fun t => eqStr t.uid u && t.codec.isCodecFree)) = true := by
  decide +kernel

/-- non-vacuity: the hypotheses of `get_padded_tools` are met, and the lookup really is non-trivial -/
example : AllPad [0, 32, 0] ∧
    (get registryTools (explicitBeUid ++ [0, 32, 0])).map (·.uid) = some explicitBeUid ∧
    get registryTools (explicitBeUid ++ [0, 48]) = none ∧ get registryTools (32 :: explicitBeUid) = none := by
  decide +kernel

end Dicom.Registry
