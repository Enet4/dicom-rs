import DicomModel.Model.Build
import DicomModel.Lemmas.Header
import DicomModel.Props.C03
import DicomModel.Props.C04
import DicomModel.Lemmas.NormCanon
import DicomModel.Lemmas.NormKeepCanon
import DicomModel.Lemmas.NormImplicit
import DicomModel.Lemmas.NormOw
/-
C01 — Data set write-then-read round trip in every writable transfer syntax.

Models: `Model/Header`, `Model/Value`, `Model/Writer` (tokens + DataSetWriter), `Model/Reader`
(StatefulDecoder value reading + the DataSetReader state machine), `Model/Build` (build_object).
The deflate layer is a parameter (`DeflateCodec`: any pair with `inflate ∘ deflate = id`) around the Explicit VR LE
writer / reader.

Value round trips per VR class, then one element, then trees of any depth (`tree_rt_*`).
-/
namespace Dicom.C01
open Dicom.C04

/-! ### text -/

def NoBackslash (s : Bytes) : Prop := 0x5C ∉ s

theorem splitBackslash_single {s : Bytes} (h : NoBackslash s) : splitBackslash s = [s] := by
  induction s with
  | nil => rfl
  | cons b r ih =>
    have hb : b ≠ 0x5C := fun e => h (by simp [e])
    have hr : NoBackslash r := fun m => h (by simp [m])
    simp [splitBackslash, hb, ih hr]

theorem splitBackslash_append {s : Bytes} (h : NoBackslash s) (t : Bytes) :
    splitBackslash (s ++ 0x5C :: t) = s :: splitBackslash t := by
  induction s with
  | nil => simp [splitBackslash]
  | cons b r ih =>
    have hb : b ≠ 0x5C := fun e => h (by simp [e])
    have hr : NoBackslash r := fun m => h (by simp [m])
    simp [splitBackslash, hb, ih hr]

theorem splitBackslash_join : ∀ (l : List Bytes), l ≠ [] → (∀ s ∈ l, NoBackslash s) →
    splitBackslash (joinBackslash l) = l
  | [], h, _ => absurd rfl h
  | [x], _, hx => by simpa [joinBackslash] using splitBackslash_single (hx x (by simp))
  | x :: y :: r, _, hx => by
    have := splitBackslash_join (y :: r) (by simp) (fun s hs => hx s (by simp [hs]))
    simp only [joinBackslash]
    rw [splitBackslash_append (hx x (by simp)), this]

/-! ### value round trips (`read_value_preserved` after `encode_primitive_element`) -/

theorem value_rt_numeric (ts : Syntax) (dict : Tag → Option VR) (tag : Tag) {vr : VR} {v : PValue}
    (hnum : Norm.NumericOk vr v) (hne : (encodePrimitive ts.bigEndian v).2 ≠ 0)
    (hsz : (paddedValue ts.bigEndian vr v).length < 4294967295) (rest : Bytes) (pos : Nat) :
    Dec.readValuePreserved ⟨ts, dict, paddedValue ts.bigEndian vr v ++ rest, pos⟩
        ⟨tag, vr, (paddedValue ts.bigEndian vr v).length⟩
      = .ok (Norm.dropTxt v, ⟨ts, dict, rest, pos + (paddedValue ts.bigEndian vr v).length⟩) := by
  rw [primitive_count, ← Norm.refValue_numeric hnum] at hne
  rw [Norm.paddedValue_numeric hnum, ← Norm.refValue_numeric hnum] at hsz ⊢
  exact Ref.read_value_of_fits ts dict tag (Norm.valueFits_numeric hnum) rfl hne hsz rest pos

theorem length_mul_ne_zero {α : Type} {l : List α} (h : l ≠ []) {k : Nat} (hk : k ≠ 0) : l.length * k ≠ 0 :=
  Nat.mul_ne_zero (fun h0 => h (List.length_eq_zero_iff.mp h0)) hk

/-- US / OW values (unsigned 16-bit) read back exactly, in both byte orders -/
theorem value_rt_u16 (ts : Syntax) (dict : Tag → Option VR) (tag : Tag) (vr : VR) (hvr : vr = .US ∨ vr = .OW)
    (l : List Nat) (hl : ∀ x ∈ l, x < 65536) (hne : l ≠ [])
    (hsz : (paddedValue ts.bigEndian vr (.u16 l)).length < 4294967295) (rest : Bytes) (pos : Nat) :
    Dec.readValuePreserved ⟨ts, dict, paddedValue ts.bigEndian vr (.u16 l) ++ rest, pos⟩
        ⟨tag, vr, (paddedValue ts.bigEndian vr (.u16 l)).length⟩
      = .ok (.u16 l, ⟨ts, dict, rest, pos + (paddedValue ts.bigEndian vr (.u16 l)).length⟩) := by
  have hnum : Norm.NumericOk vr (.u16 l) := by rcases hvr with rfl | rfl <;> exact hl
  exact value_rt_numeric ts dict tag hnum (length_mul_ne_zero hne (by decide)) hsz rest pos

/-- UL / OL values (unsigned 32-bit) read back exactly -/
theorem value_rt_u32 (ts : Syntax) (dict : Tag → Option VR) (tag : Tag) (vr : VR) (hvr : vr = .UL ∨ vr = .OL)
    (l : List Nat) (hl : ∀ x ∈ l, x < 4294967296) (hne : l ≠ [])
    (hsz : (paddedValue ts.bigEndian vr (.u32 l)).length < 4294967295) (rest : Bytes) (pos : Nat) :
    Dec.readValuePreserved ⟨ts, dict, paddedValue ts.bigEndian vr (.u32 l) ++ rest, pos⟩
        ⟨tag, vr, (paddedValue ts.bigEndian vr (.u32 l)).length⟩
      = .ok (.u32 l, ⟨ts, dict, rest, pos + (paddedValue ts.bigEndian vr (.u32 l)).length⟩) := by
  have hnum : Norm.NumericOk vr (.u32 l) := by rcases hvr with rfl | rfl <;> exact hl
  exact value_rt_numeric ts dict tag hnum (length_mul_ne_zero hne (by decide)) hsz rest pos

/-- UV / OV values (unsigned 64-bit) read back exactly -/
theorem value_rt_u64 (ts : Syntax) (dict : Tag → Option VR) (tag : Tag) (vr : VR) (hvr : vr = .UV ∨ vr = .OV)
    (l : List Nat) (hl : ∀ x ∈ l, x < 18446744073709551616) (hne : l ≠ [])
    (hsz : (paddedValue ts.bigEndian vr (.u64 l)).length < 4294967295) (rest : Bytes) (pos : Nat) :
    Dec.readValuePreserved ⟨ts, dict, paddedValue ts.bigEndian vr (.u64 l) ++ rest, pos⟩
        ⟨tag, vr, (paddedValue ts.bigEndian vr (.u64 l)).length⟩
      = .ok (.u64 l, ⟨ts, dict, rest, pos + (paddedValue ts.bigEndian vr (.u64 l)).length⟩) := by
  have hnum : Norm.NumericOk vr (.u64 l) := by rcases hvr with rfl | rfl <;> exact hl
  exact value_rt_numeric ts dict tag hnum (length_mul_ne_zero hne (by decide)) hsz rest pos

/-- SS values (signed 16-bit, two's complement) read back exactly -/
theorem value_rt_i16 (ts : Syntax) (dict : Tag → Option VR) (tag : Tag) (vr : VR) (hvr : vr = .SS)
    (l : List Int) (hl : ∀ x ∈ l, -32768 ≤ x ∧ x < 32768) (hne : l ≠ [])
    (hsz : (paddedValue ts.bigEndian vr (.i16 l)).length < 4294967295) (rest : Bytes) (pos : Nat) :
    Dec.readValuePreserved ⟨ts, dict, paddedValue ts.bigEndian vr (.i16 l) ++ rest, pos⟩
        ⟨tag, vr, (paddedValue ts.bigEndian vr (.i16 l)).length⟩
      = .ok (.i16 l, ⟨ts, dict, rest, pos + (paddedValue ts.bigEndian vr (.i16 l)).length⟩) := by
  have hnum : Norm.NumericOk vr (.i16 l) := by subst hvr; exact hl
  exact value_rt_numeric ts dict tag hnum (length_mul_ne_zero hne (by decide)) hsz rest pos

/-- SL values (signed 32-bit) read back exactly -/
theorem value_rt_i32 (ts : Syntax) (dict : Tag → Option VR) (tag : Tag) (vr : VR) (hvr : vr = .SL)
    (l : List Int) (hl : ∀ x ∈ l, -2147483648 ≤ x ∧ x < 2147483648) (hne : l ≠ [])
    (hsz : (paddedValue ts.bigEndian vr (.i32 l)).length < 4294967295) (rest : Bytes) (pos : Nat) :
    Dec.readValuePreserved ⟨ts, dict, paddedValue ts.bigEndian vr (.i32 l) ++ rest, pos⟩
        ⟨tag, vr, (paddedValue ts.bigEndian vr (.i32 l)).length⟩
      = .ok (.i32 l, ⟨ts, dict, rest, pos + (paddedValue ts.bigEndian vr (.i32 l)).length⟩) := by
  have hnum : Norm.NumericOk vr (.i32 l) := by subst hvr; exact hl
  exact value_rt_numeric ts dict tag hnum (length_mul_ne_zero hne (by decide)) hsz rest pos

/-- SV values (signed 64-bit) read back exactly -/
theorem value_rt_i64 (ts : Syntax) (dict : Tag → Option VR) (tag : Tag) (vr : VR) (hvr : vr = .SV)
    (l : List Int) (hl : ∀ x ∈ l, -9223372036854775808 ≤ x ∧ x < 9223372036854775808) (hne : l ≠ [])
    (hsz : (paddedValue ts.bigEndian vr (.i64 l)).length < 4294967295) (rest : Bytes) (pos : Nat) :
    Dec.readValuePreserved ⟨ts, dict, paddedValue ts.bigEndian vr (.i64 l) ++ rest, pos⟩
        ⟨tag, vr, (paddedValue ts.bigEndian vr (.i64 l)).length⟩
      = .ok (.i64 l, ⟨ts, dict, rest, pos + (paddedValue ts.bigEndian vr (.i64 l)).length⟩) := by
  have hnum : Norm.NumericOk vr (.i64 l) := by subst hvr; exact hl
  exact value_rt_numeric ts dict tag hnum (length_mul_ne_zero hne (by decide)) hsz rest pos

/-- FL / OF values: the IEEE bit patterns read back exactly (the `Display` text is not part of the value) -/
theorem value_rt_f32 (ts : Syntax) (dict : Tag → Option VR) (tag : Tag) (vr : VR) (hvr : vr = .FL ∨ vr = .OF)
    (l : List (Nat × Bytes)) (hl : ∀ x ∈ l, x.1 < 4294967296) (hne : l ≠ [])
    (hsz : (paddedValue ts.bigEndian vr (.f32 l)).length < 4294967295) (rest : Bytes) (pos : Nat) :
    Dec.readValuePreserved ⟨ts, dict, paddedValue ts.bigEndian vr (.f32 l) ++ rest, pos⟩
        ⟨tag, vr, (paddedValue ts.bigEndian vr (.f32 l)).length⟩
      = .ok (.f32 (l.map fun p => (p.1, [])), ⟨ts, dict, rest, pos + (paddedValue ts.bigEndian vr (.f32 l)).length⟩) := by
  have hnum : Norm.NumericOk vr (.f32 l) := by rcases hvr with rfl | rfl <;> exact hl
  exact value_rt_numeric ts dict tag hnum (length_mul_ne_zero hne (by decide)) hsz rest pos

/-- FD / OD values: the IEEE bit patterns read back exactly -/
theorem value_rt_f64 (ts : Syntax) (dict : Tag → Option VR) (tag : Tag) (vr : VR) (hvr : vr = .FD ∨ vr = .OD)
    (l : List (Nat × Bytes)) (hl : ∀ x ∈ l, x.1 < 18446744073709551616) (hne : l ≠ [])
    (hsz : (paddedValue ts.bigEndian vr (.f64 l)).length < 4294967295) (rest : Bytes) (pos : Nat) :
    Dec.readValuePreserved ⟨ts, dict, paddedValue ts.bigEndian vr (.f64 l) ++ rest, pos⟩
        ⟨tag, vr, (paddedValue ts.bigEndian vr (.f64 l)).length⟩
      = .ok (.f64 (l.map fun p => (p.1, [])), ⟨ts, dict, rest, pos + (paddedValue ts.bigEndian vr (.f64 l)).length⟩) := by
  have hnum : Norm.NumericOk vr (.f64 l) := by rcases hvr with rfl | rfl <;> exact hl
  exact value_rt_numeric ts dict tag hnum (length_mul_ne_zero hne (by decide)) hsz rest pos

/-! ### bytes, text and tags -/

theorem padTo_length_ne_zero {bs : Bytes} (h : bs ≠ []) (p : Nat) : (padTo bs p).length ≠ 0 := by
  rw [C04.padTo_length]; unfold C04.evenUp
  cases bs with
  | nil => exact absurd rfl h
  | cons a r => simp

/-- OB / UN values: the bytes come back, followed by the single NUL padding byte when their number is odd
("trailing padding" of the property statement) -/
theorem value_rt_u8 (ts : Syntax) (dict : Tag → Option VR) (tag : Tag) (vr : VR) (hvr : vr = .OB ∨ vr = .UN)
    (l : List Nat) (hne : l ≠ []) (hsz : (paddedValue ts.bigEndian vr (.u8 l)).length < 4294967295)
    (rest : Bytes) (pos : Nat) :
    paddedValue ts.bigEndian vr (.u8 l) = padTo l 0 ∧
    Dec.readValuePreserved ⟨ts, dict, paddedValue ts.bigEndian vr (.u8 l) ++ rest, pos⟩
        ⟨tag, vr, (paddedValue ts.bigEndian vr (.u8 l)).length⟩
      = .ok (.u8 (padTo l 0), ⟨ts, dict, rest, pos + (paddedValue ts.bigEndian vr (.u8 l)).length⟩) := by
  have hvb : paddedValue ts.bigEndian vr (.u8 l) = padTo l 0 := by
    rcases hvr with h | h <;> subst h <;> simp [paddedValue, encodePrimitive, binPad]
  refine ⟨hvb, ?_⟩
  rw [hvb] at hsz ⊢
  have h0 := padTo_length_ne_zero hne 0
  have hu := Ref.len_ne_undef hsz
  rcases hvr with h | h <;> subst h <;>
    simp [Dec.readValuePreserved, h0, hu, Dec.take, takeN_append]

/-- the encoded text of a textual value -/
def textOf : PValue → Option Bytes
  | .str s => some s
  | .strs l => some (joinBackslash l)
  | _ => none

def strsVrs : List VR := [.AE, .AS, .PN, .SH, .LO, .UC, .UI, .IS, .DS, .DA, .TM, .DT, .CS]
def strVrs : List VR := [.UT, .ST, .UR, .LT]

theorem textPad_lt (vr : VR) : textPad vr < 128 := by unfold textPad; split <;> decide

/-- **Text values** (`Str` or `Strs`, default repertoire) under the multi-valued text VRs come back as the
components of the written text, the last one carrying the padding byte (space; NUL for UI) when the text
length is odd; under UT / ST / UR / LT as the single padded string. -/
theorem value_rt_text (ts : Syntax) (dict : Tag → Option VR) (tag : Tag) (vr : VR) (v : PValue) (tb : Bytes)
    (htb : textOf v = some tb) (hascii : C04.Ascii tb) (hne : tb ≠ [])
    (hsz : (padTo tb (textPad vr)).length < 4294967295) (rest : Bytes) (pos : Nat) :
    paddedValue ts.bigEndian vr v = padTo tb (textPad vr) ∧
    (vr ∈ strsVrs →
      Dec.readValuePreserved ⟨ts, dict, padTo tb (textPad vr) ++ rest, pos⟩ ⟨tag, vr, (padTo tb (textPad vr)).length⟩
        = .ok (.strs (splitBackslash (padTo tb (textPad vr))), ⟨ts, dict, rest, pos + (padTo tb (textPad vr)).length⟩)) ∧
    (vr ∈ strVrs →
      Dec.readValuePreserved ⟨ts, dict, padTo tb (textPad vr) ++ rest, pos⟩ ⟨tag, vr, (padTo tb (textPad vr)).length⟩
        = .ok (.str (padTo tb (textPad vr)), ⟨ts, dict, rest, pos + (padTo tb (textPad vr)).length⟩)) := by
  have hvb : paddedValue ts.bigEndian vr v = padTo tb (textPad vr) := by
    cases v <;> simp [textOf] at htb <;> subst htb <;> rfl
  have hpa : C04.Ascii (padTo tb (textPad vr)) := Norm.padTo_lt hascii (textPad_lt vr)
  have h0 := padTo_length_ne_zero hne (textPad vr)
  refine ⟨hvb, fun hm => ?_, fun hm => ?_⟩
  · -- the components of the padded text are a value the reader delivers, and joining them gives the text back
    have h := Ref.read_strs ts dict tag vr _ (splitBackslash (padTo tb (textPad vr))) rest pos
      ((Norm.valueFits_strs hm _).trans (Norm.split_component _ hpa)) rfl
    rw [Norm.join_split] at h
    exact h h0 hsz
  · exact Ref.read_str ts dict tag vr _ _ rest pos
      ((Norm.valueFits_str hm _).trans (List.all_eq_true.mpr fun a h => decide_eq_true (hpa a h))) rfl h0 hsz

/-- the components `value_rt_text` returns: backslash-free strings whose joined length is even (no padding)
are split back *exactly* -/
theorem value_rt_strs_even (l : List Bytes) (hl : l ≠ []) (hnb : ∀ s ∈ l, NoBackslash s)
    (heven : (joinBackslash l).length % 2 = 0) (pad : Nat) :
    splitBackslash (padTo (joinBackslash l) pad) = l := by
  rw [Norm.padTo_self_of_even heven, splitBackslash_join l hl hnb]

/-- the last component with the padding byte appended -/
def padLast : List Bytes → Nat → List Bytes
  | [], _ => []
  | [x], p => [x ++ [p]]
  | x :: y :: r, p => x :: padLast (y :: r) p

theorem splitBackslash_join_pad {pad : Nat} (hp : pad ≠ 0x5C) : ∀ (l : List Bytes), l ≠ [] →
    (∀ s ∈ l, NoBackslash s) → splitBackslash (joinBackslash l ++ [pad]) = padLast l pad
  | [], h, _ => absurd rfl h
  | [x], _, hx => by
    have : NoBackslash (x ++ [pad]) := fun hm => by
      rcases List.mem_append.mp hm with h1 | h1
      · exact hx x (by simp) h1
      · simp at h1; exact hp h1.symm
    simpa [joinBackslash, padLast] using splitBackslash_single this
  | x :: y :: r, _, hx => by
    have ih := splitBackslash_join_pad hp (y :: r) (by simp) (fun s hs => hx s (by simp [hs]))
    simp only [joinBackslash, padLast, List.append_assoc, List.cons_append]
    rw [splitBackslash_append (hx x (by simp)), ih]

/-- … and with an odd joined length the split gives the components with the padding byte appended to the
last one only (the documented normalisation: trailing padding) -/
theorem value_rt_strs_odd (l : List Bytes) (hl : l ≠ []) (hnb : ∀ s ∈ l, NoBackslash s)
    (hodd : (joinBackslash l).length % 2 = 1) (pad : Nat) (hp : pad ≠ 0x5C) :
    splitBackslash (padTo (joinBackslash l) pad) = padLast l pad := by
  have : padTo (joinBackslash l) pad = joinBackslash l ++ [pad] := by simp [padTo, hodd]
  rw [this, splitBackslash_join_pad hp l hl hnb]

/-- an empty value (length 0) reads back as `Empty`, whatever the VR -/
theorem value_rt_empty (d : Dec) (tag : Tag) (vr : VR) :
    d.readValuePreserved ⟨tag, vr, 0⟩ = .ok (.empty, d) := by
  simp [Dec.readValuePreserved]

/-! ### one element: `encode_primitive_element` then `decode_header` + `read_value_preserved` -/

/-- what reading the value field `vb` under `vr` yields, for any continuation and position -/
def ValueReads (ts : Syntax) (tag : Tag) (vr : VR) (vb : Bytes) (v' : PValue) : Prop :=
  ∀ (dict : Tag → Option VR) (rest : Bytes) (pos : Nat),
    Dec.readValuePreserved ⟨ts, dict, vb ++ rest, pos⟩ ⟨tag, vr, vb.length⟩
      = .ok (v', ⟨ts, dict, rest, pos + vb.length⟩)

theorem read_after_header {ts : Syntax} {dict : Tag → Option VR} {hbs vb : Bytes} {h : ElemHeader} {v' : PValue}
    (rest : Bytes) (pos : Nat) (hrt : decodeHeader ts dict (hbs ++ (vb ++ rest)) = some (h, hbs.length, vb ++ rest))
    (hlen : h.len = vb.length) (hv : ValueReads ts h.tag h.vr vb v') :
    ∃ d1, Dec.decodeHeader ⟨ts, dict, (hbs ++ vb) ++ rest, pos⟩ = .ok (h, d1) ∧
      d1.readValuePreserved h = .ok (v', ⟨ts, dict, rest, pos + (hbs ++ vb).length⟩) := by
  refine ⟨⟨ts, dict, vb ++ rest, pos + hbs.length⟩, ?_, ?_⟩
  · simp only [Dec.decodeHeader, List.append_assoc, hrt]
  · obtain ⟨tag, vr, len⟩ := h
    subst hlen
    rw [hv dict rest (pos + hbs.length), List.length_append, Nat.add_assoc]

/-- **Explicit VR, one primitive element.** What `encode_primitive_element` appended to the output is
read back by `decode_header` as the same tag and VR with the exact (padded, even) value length, and by
`read_value_preserved` as `v'` — for any following bytes, leaving them untouched, and with the position
advanced by exactly the number of bytes written (`hnow`: the value is not bytes under OW, which the
encoder re-packs into words first). `ValueReads` is discharged per VR class by the
`value_rt_*` theorems above (`v'` = the value up to the documented trailing padding). -/
theorem elem_rt_explicit (ts : Syntax) (hts : ts.explicit = true) (e e' : Enc) (hets : e.ts = ts)
    (de : ElemHeader) (v v' : PValue) (ht : de.tag.Valid) (hg : de.tag.group ≠ 0xFFFE)
    (hascii : C04.ValueAscii v) (hsize : (paddedValue ts.bigEndian de.vr v).length < 4294967295)
    (hnow : owWords de.vr v = v) (hw0 : e.encodePrimitiveElement de v = .ok e')
    (hv : ValueReads ts de.tag de.vr (paddedValue ts.bigEndian de.vr v) v') :
    ∃ bs, e'.out = e.out ++ bs ∧ ∀ (dict : Tag → Option VR) (rest : Bytes) (pos : Nat),
      ∃ d1, Dec.decodeHeader ⟨ts, dict, bs ++ rest, pos⟩
              = .ok (⟨de.tag, de.vr, (paddedValue ts.bigEndian de.vr v).length⟩, d1) ∧
            d1.readValuePreserved ⟨de.tag, de.vr, (paddedValue ts.bigEndian de.vr v).length⟩
              = .ok (v', ⟨ts, dict, rest, pos + bs.length⟩) := by
  have hw : e.primitiveElement de v = .ok e' := by
    unfold Enc.encodePrimitiveElement at hw0; rwa [hnow] at hw0
  subst hets
  obtain ⟨_, hbs, n, henc, hout⟩ := C04.primitive_element_layout de v hascii hsize hw
  refine ⟨hbs ++ paddedValue e.ts.bigEndian de.vr v, by rw [hout, List.append_assoc], fun dict rest pos => ?_⟩
  exact read_after_header rest pos (C03.header_rt_explicit e.ts hts dict
    ⟨de.tag, de.vr, (paddedValue e.ts.bigEndian de.vr v).length⟩ ht hg
    (by show (paddedValue e.ts.bigEndian de.vr v).length < 4294967296; omega) hbs n henc _) rfl hv

/-- **Implicit VR LE, one primitive element**: same, except that the VR the reader works with is the
dictionary's (`resolveImplicitVr`), which is the documented normalisation; `ValueReads` is therefore asked
for that VR. -/
theorem elem_rt_implicit (e e' : Enc) (hets : e.ts = .implicitLE) (dict : Tag → Option VR)
    (de : ElemHeader) (v v' : PValue) (ht : de.tag.Valid)
    (hascii : C04.ValueAscii v) (hsize : (paddedValue false de.vr v).length < 4294967295)
    (hnow : owWords de.vr v = v) (hw0 : e.encodePrimitiveElement de v = .ok e')
    (hv : ValueReads .implicitLE de.tag (resolveImplicitVr dict de.tag) (paddedValue false de.vr v) v') :
    ∃ bs, e'.out = e.out ++ bs ∧ ∀ (rest : Bytes) (pos : Nat),
      ∃ d1, Dec.decodeHeader ⟨.implicitLE, dict, bs ++ rest, pos⟩
              = .ok (⟨de.tag, resolveImplicitVr dict de.tag, (paddedValue false de.vr v).length⟩, d1) ∧
            d1.readValuePreserved ⟨de.tag, resolveImplicitVr dict de.tag, (paddedValue false de.vr v).length⟩
              = .ok (v', ⟨.implicitLE, dict, rest, pos + bs.length⟩) := by
  have hw : e.primitiveElement de v = .ok e' := by
    unfold Enc.encodePrimitiveElement at hw0; rwa [hnow] at hw0
  have hbe : e.ts.bigEndian = false := by rw [hets]; rfl
  obtain ⟨_, hbs, n, henc, hout⟩ := C04.primitive_element_layout de v hascii (by rw [hbe]; exact hsize) hw
  rw [hbe] at henc hout
  rw [hets] at henc
  refine ⟨hbs ++ paddedValue false de.vr v, by rw [hout, List.append_assoc], fun rest pos => ?_⟩
  exact read_after_header rest pos (C03.header_rt_implicit dict ⟨de.tag, de.vr, (paddedValue false de.vr v).length⟩ ht
    (by show (paddedValue false de.vr v).length < 4294967296; omega) hbs n henc _).1 rfl hv

/-! ### whole data sets of any depth

`Norm.normElems ts t` is the data set "up to the documented normalisations": same tags, same VRs, same
order, same nesting; every value replaced by its normal form `Norm.normValue` (trailing padding kept as
the reader delivers it: the components of the padded text / the padded bytes; numbers and dates under text
VRs as their text; floats as their bit patterns; empty values as `Empty`), recorded value lengths = the
written ones, sequences and items with undefined length, fragments padded to even length.
`Norm.WfElems ts dict t` is the well-formedness of the *in-memory* data set (values valid for their VR,
default repertoire, fitting their header; ascending tags in every item; in Implicit VR the VR is the
dictionary's — the documented normalisation).

The proof composes: state-machine writer = recursive writer (`C04.write_tree_eq_rec`), the writer cannot
tell a value from its normal form (`Norm.write_norm`), the normal form is canonical (`Norm.canon_norm_*`),
and on canonical trees the writer equals the reference encoder and the DataSetReader state machine +
`build_object` return the tree (Lemmas/Ref*.lean, shared with C02). -/

/-- **Round trip, default strategy, any nesting depth, all three uncompressed syntaxes** (the Deflated
syntax is Explicit VR LE under `inflate ∘ deflate = id`): writing never fails, and reading the written
bytes back with the same syntax yields the data set up to the documented normalisations. -/
theorem tree_rt_undefined (ts : Syntax) (dict : Tag → Option VR) (t : Elems)
    (hd : Ref.dictOk ts dict = true) (hwf : Norm.WfElems ts dict t) (hsorted : Ref.sortedElems t = true) :
    ∃ bs, writeDataset ts .setUndefined t = .ok bs ∧
      readDataset ts dict bs = .ok (Norm.normElems ts t) :=
  Norm.write_read_norm ts dict t hd hwf hsorted

/-- **Writing never fails and never panics** for a well-formed data set (C01's last clause; the first half of
`tree_rt_undefined`) -/
theorem write_total (ts : Syntax) (dict : Tag → Option VR) (t : Elems)
    (hd : Ref.dictOk ts dict = true) (hwf : Norm.WfElems ts dict t) (hsorted : Ref.sortedElems t = true) :
    ∃ bs, writeDataset ts .setUndefined t = .ok bs := by
  obtain ⟨bs, h, _⟩ := tree_rt_undefined ts dict t hd hwf hsorted
  exact ⟨bs, h⟩

/-- the writer cannot tell a valid value from its normal form: both have the same value field, so writing what
was read back gives the same bytes again -/
theorem norm_value_stable (be : Bool) (vr : VR) (v : PValue) (hv : Norm.ValidFor be vr v) :
    paddedValue be vr (Norm.normValue be vr v) = paddedValue be vr v :=
  Norm.paddedValue_norm be vr v hv

/-- **Round trip with the `NoChange` strategy** (recorded sequence / item lengths written as they are), any
nesting depth, all three uncompressed syntaxes: if the recorded lengths are consistent
(`Norm.LenOkElems`: every defined length is the length of its content as encoded — what a reader records)
the writer succeeds and reading back returns the normal form *with the same recorded lengths*
(`Norm.keepElems`). Defined and undefined lengths may be mixed freely. -/
theorem tree_rt_nochange (ts : Syntax) (dict : Tag → Option VR) (t : Elems)
    (hd : Ref.dictOk ts dict = true) (hwf : Norm.WfElems ts dict t) (hlen : Norm.LenOkElems ts dict t)
    (hsorted : Ref.sortedElems t = true) :
    ∃ bs, writeDataset ts .noChange t = .ok bs ∧ readDataset ts dict bs = .ok (Norm.keepElems ts t) := by
  have hc := Norm.canon_keep_elems ts dict t hwf hlen
  refine ⟨Ref.encElems ts (Norm.keepElems ts t), ?_,
    Norm.readDataset_ref ts dict _ hd hc ((Norm.sortedElems_keep ts t).trans hsorted)⟩
  rw [← Norm.write_keep ts dict .noChange t hwf]
  exact Ref.writeDataset_ref ts dict .noChange _ hc (Or.inl rfl)

/-- the writer state machine cannot tell a well-formed tree from its normal form under *either* strategy
(so stale recorded lengths under `NoChange` produce exactly the bytes the normal form with the same stale
lengths would produce — the documented risk of that strategy, not an additional one) -/
theorem write_any_strategy_norm (ts : Syntax) (dict : Tag → Option VR) (strat : Strategy) (t : Elems)
    (hwf : Norm.WfElems ts dict t) :
    writeDataset ts strat (Norm.keepElems ts t) = writeDataset ts strat t :=
  Norm.write_keep ts dict strat t hwf

/-- **Implicit VR LE with the dictionary as a parameter function**, including attributes the dictionary does
not know (private / unknown tags, whatever VR they carry in memory): writing succeeds and reading back yields
the normal form of `Norm.dictElems dict t` — every element under the VR the dictionary gives
(`Ref.implicitVr`: OW for Pixel/Overlay Data, UN when unknown), unknown attributes with their value field as
bytes. This is the documented normalisation "in Implicit VR the VR of a known attribute is the dictionary's". -/
theorem tree_rt_implicit_dict (dict : Tag → Option VR) (t : Elems)
    (hd : Ref.dictOk .implicitLE dict = true) (hwf : Norm.WfImpElems dict t) (hsorted : Ref.sortedElems t = true) :
    ∃ bs, writeDataset .implicitLE .setUndefined t = .ok bs ∧
      readDataset .implicitLE dict bs = .ok (Norm.normElems .implicitLE (Norm.dictElems dict t)) := by
  have hw := Norm.wf_dict_elems dict t hwf
  have hs : Ref.sortedElems (Norm.dictElems dict t) = true := by rw [Norm.sortedElems_dict]; exact hsorted
  obtain ⟨bs, h1, h2⟩ := Norm.write_read_norm .implicitLE dict (Norm.dictElems dict t) hd hw hs
  refine ⟨bs, ?_, h2⟩
  rw [← h1, writeDataset_eq_rec _ t (Norm.tokwf_imp_elems dict t hwf),
    writeDataset_eq_rec _ _ (Norm.wf_elems .implicitLE dict _ hw).1,
    Norm.rec_dict_elems dict t hwf (Enc.new .implicitLE) rfl rfl]

/-- **Round trip with 8-bit samples held as bytes under OW** (legal content of a word VR; the writer re-packs
them into 16-bit words, dicom-rs fix 457c39a): if the re-packed data set `Norm.owElems t` is well-formed
(`Norm.validFor_ow_u8`: any bytes qualify), writing `t` succeeds and reading back yields the normal form of
the re-packed data set — under OW the words `lo + 256·hi`, whose in-memory bytes are the original bytes, in
all three syntaxes including Big Endian. For data sets without such elements `owElems t = t` and this is
`tree_rt_undefined`. -/
theorem tree_rt_undefined_ow (ts : Syntax) (dict : Tag → Option VR) (t : Elems)
    (hd : Ref.dictOk ts dict = true) (hwf : Norm.WfElems ts dict (Norm.owElems t))
    (hsorted : Ref.sortedElems t = true) :
    ∃ bs, writeDataset ts .setUndefined t = .ok bs ∧
      readDataset ts dict bs = .ok (Norm.normElems ts (Norm.owElems t)) := by
  obtain ⟨bs, h1, h2⟩ := Norm.write_read_norm ts dict (Norm.owElems t) hd hwf (by rw [Norm.sortedElems_ow]; exact hsorted)
  exact ⟨bs, by rw [← Norm.write_ow ts t (Norm.wf_elems ts dict _ hwf).1]; exact h1, h2⟩

/-- the regression witness of that fix, Explicit VR Big Endian: (7FE0,0010) OW `U8([1,2,3,4])` is written
as the words 0x0201 0x0403 in big-endian byte order and read back as `U16([513, 1027])`, whose little-endian
in-memory bytes are 01 02 03 04 (kernel evaluation of the model writer and reader) -/
def owWitness : Elems := .cons (.prim ⟨0x7FE0, 0x0010⟩ .OW 4 (.u8 [1, 2, 3, 4])) .nil

theorem ow_witness_round_trips :
    writeDataset .explicitBE .setUndefined owWitness
      = .ok [0x7F, 0xE0, 0x00, 0x10, 79, 87, 0, 0, 0, 0, 0, 4, 2, 1, 4, 3] ∧
    ((writeDataset .explicitBE .setUndefined owWitness).toOption.bind fun bs =>
        (readDataset .explicitBE (fun _ => none) bs).toOption.map Elems.tokens)
      = some [.elementHeader ⟨⟨0x7FE0, 0x0010⟩, .OW, 4⟩, .primitiveValue (.u16 [513, 1027])] := by
  constructor
  · rfl
  · decide +kernel

/-- non-vacuity / end-to-end on a concrete nested tree (sequence with two items, a nested sequence, an
empty sequence, a pixel sequence with an odd and an empty fragment, text with padding, numbers):
the model writer and reader round-trip it in all three syntaxes, and the re-read tree differs only by
the padding. -/
def sampleTree : Elems :=
  .cons (.prim ⟨0x0008, 0x0060⟩ .CS 2 (.strs [[77, 82]]))
  (.cons (.seq ⟨0x0008, 0x1140⟩ undefinedLen
      (.cons undefinedLen (.cons (.prim ⟨0x0008, 0x1150⟩ .UI 5 (.strs [[49, 46, 50, 46, 51]]))
                          (.cons (.seq ⟨0x0008, 0x1199⟩ undefinedLen (.cons undefinedLen .nil .nil)) .nil))
      (.cons undefinedLen (.cons (.seq ⟨0x0040, 0xA730⟩ undefinedLen .nil) .nil) .nil)))
  (.cons (.prim ⟨0x0010, 0x0010⟩ .PN 7 (.str [68, 111, 101, 94, 74, 111, 104]))
  (.cons (.prim ⟨0x0028, 0x0010⟩ .US 2 (.u16 [512]))
  (.cons (.pix [0] [[1, 2, 3], []]) .nil))))

def sampleDict : Tag → Option VR := fun t =>
  if t = ⟨0x0008, 0x0060⟩ then some .CS else if t = ⟨0x0010, 0x0010⟩ then some .PN
  else if t = ⟨0x0008, 0x1140⟩ ∨ t = ⟨0x0008, 0x1199⟩ ∨ t = ⟨0x0040, 0xA730⟩ then some .SQ
  else if t = ⟨0x0008, 0x1150⟩ then some .UI else if t = ⟨0x0028, 0x0010⟩ then some .US else none

def sampleReread : Elems :=
  .cons (.prim ⟨0x0008, 0x0060⟩ .CS 2 (.strs [[77, 82]]))
  (.cons (.seq ⟨0x0008, 0x1140⟩ undefinedLen
      (.cons undefinedLen (.cons (.prim ⟨0x0008, 0x1150⟩ .UI 6 (.strs [[49, 46, 50, 46, 51, 0]]))
                          (.cons (.seq ⟨0x0008, 0x1199⟩ undefinedLen (.cons undefinedLen .nil .nil)) .nil))
      (.cons undefinedLen (.cons (.seq ⟨0x0040, 0xA730⟩ undefinedLen .nil) .nil) .nil)))
  (.cons (.prim ⟨0x0010, 0x0010⟩ .PN 8 (.strs [[68, 111, 101, 94, 74, 111, 104, 32]]))
  (.cons (.prim ⟨0x0028, 0x0010⟩ .US 2 (.u16 [512]))
  (.cons (.pix [0] [[1, 2, 3, 0], []]) .nil))))

/-- write, read back, and list the tokens of the re-read tree (tokens determine the tree) -/
def rereadTokens (ts : Syntax) : Option (List Token) :=
  (writeDataset ts .setUndefined sampleTree).toOption.bind fun bs =>
    (readDataset ts sampleDict bs).toOption.map Elems.tokens

theorem sample_tree_round_trips :
    rereadTokens .implicitLE = some sampleReread.tokens ∧
    rereadTokens .explicitLE = some sampleReread.tokens ∧
    rereadTokens .explicitBE = some sampleReread.tokens := by
  decide +kernel

/-- non-vacuity of `tree_rt_undefined`: the nested sample tree (sequence in sequence, empty sequence,
empty item, pixel sequence with an odd and an empty fragment, padded text, numbers) is well-formed for
Implicit VR LE with its dictionary, and for both explicit syntaxes -/
theorem sample_tree_wellformed :
    Ref.dictOk .implicitLE sampleDict = true ∧ Ref.sortedElems sampleTree = true ∧
    Norm.WfElems .implicitLE sampleDict sampleTree ∧ Norm.WfElems .explicitLE sampleDict sampleTree ∧
    Norm.WfElems .explicitBE sampleDict sampleTree := by
  have hwf : ∀ ts, Norm.WfElems ts sampleDict sampleTree := by
    intro ts
    simp [Norm.WfElems, Norm.WfElem, Norm.WfItems, sampleTree, Norm.ValidFor, C04.FitsHeader, C04.DsIsOk,
      C04.ValueAscii, C04.Ascii, Norm.NumericOk,
      C04.paddedValue, padTo, textPad, encodePrimitive, joinBackslash, Ref.tagOk, Ref.sortedElems,
      Ref.sortedFrom, Ref.tagLt, Ref.tagOf, Tag.pixelData, undefinedLen, Norm.strsVrs, Norm.strVrs, Ref.implicitVr,
      sampleDict, C03.ps35]
  exact ⟨by decide, by decide, hwf _, hwf _, hwf _⟩

/-- non-vacuity of `tree_rt_undefined_ow`: the re-packed OW witness is well-formed in Explicit VR Big Endian -/
theorem ow_witness_wellformed :
    Norm.WfElems .explicitBE (fun _ => none) (Norm.owElems owWitness) ∧ Ref.sortedElems owWitness = true := by
  refine ⟨?_, by decide⟩
  simp [Norm.WfElems, Norm.WfElem, Norm.owElems, Norm.owElem, owWitness, owWords, packWords, Norm.ValidFor,
    C04.FitsHeader, C04.DsIsOk, C04.ValueAscii, Norm.NumericOk, C04.paddedValue, padTo, encodePrimitive,
    Ref.tagOk, Tag.pixelData, undefinedLen, Norm.strsVrs, Norm.strVrs, C03.ps35, Syntax.explicit, Syntax.bigEndian,
    enc16, be16]

/-! ### Deflated Explicit VR Little Endian

The fourth writable syntax wraps the Explicit VR LE writer / reader in a deflate / inflate adapter
(`DataRWAdapter` of the `deflate` feature, flate2). The codec is third-party code and enters as a parameter:
`C : DeflateCodec` is *any* pair of functions with `inflate (deflate b) = b`. -/

/-- the deflate layer as the model sees it: any pair of byte-string functions that are inverse one way -/
structure DeflateCodec where
  deflate : Bytes → Bytes
  inflate : Bytes → Bytes
  inverse : ∀ b, inflate (deflate b) = b

/-- `write_dataset_with_ts(_options)` for Deflated Explicit VR LE: the Explicit VR LE writer through the adapter -/
def writeDeflated (C : DeflateCodec) (strat : Strategy) (t : Elems) : Except WErr Bytes :=
  match writeDataset .explicitLE strat t with
  | .ok bs => .ok (C.deflate bs)
  | .error e => .error e

/-- `read_dataset_with_ts` for Deflated Explicit VR LE: the Explicit VR LE reader behind the adapter -/
def readDeflated (C : DeflateCodec) (dict : Tag → Option VR) (raw : Bytes) : Except RdErr Elems :=
  readDataset .explicitLE dict (C.inflate raw)

theorem deflated_of_explicitLE (C : DeflateCodec) {dict : Tag → Option VR} {strat : Strategy} {t r : Elems}
    (h : ∃ bs, writeDataset .explicitLE strat t = .ok bs ∧ readDataset .explicitLE dict bs = .ok r) :
    ∃ raw, writeDeflated C strat t = .ok raw ∧ readDeflated C dict raw = .ok r := by
  obtain ⟨bs, hw, hr⟩ := h
  exact ⟨C.deflate bs, by simp only [writeDeflated, hw], by simp only [readDeflated, C.inverse, hr]⟩

/-- **Round trip in Deflated Explicit VR LE, default strategy, any nesting depth, for every codec with
`inflate ∘ deflate = id`**: writing never fails and reading the written bytes back yields the normal form. -/
theorem tree_rt_deflated (C : DeflateCodec) (dict : Tag → Option VR) (t : Elems)
    (hd : Ref.dictOk .explicitLE dict = true) (hwf : Norm.WfElems .explicitLE dict t)
    (hsorted : Ref.sortedElems t = true) :
    ∃ raw, writeDeflated C .setUndefined t = .ok raw ∧
      readDeflated C dict raw = .ok (Norm.normElems .explicitLE t) :=
  deflated_of_explicitLE C (tree_rt_undefined .explicitLE dict t hd hwf hsorted)

/-- … and with the `NoChange` strategy for trees with consistent recorded lengths -/
theorem tree_rt_deflated_nochange (C : DeflateCodec) (dict : Tag → Option VR) (t : Elems)
    (hd : Ref.dictOk .explicitLE dict = true) (hwf : Norm.WfElems .explicitLE dict t)
    (hlen : Norm.LenOkElems .explicitLE dict t) (hsorted : Ref.sortedElems t = true) :
    ∃ raw, writeDeflated C .noChange t = .ok raw ∧
      readDeflated C dict raw = .ok (Norm.keepElems .explicitLE t) :=
  deflated_of_explicitLE C (tree_rt_nochange .explicitLE dict t hd hwf hlen hsorted)

def sampleDictD : Tag → Option VR := fun t => if t = ⟨0x0008, 0x0060⟩ then some .CS else none

/-- the hypothesis on the codec is needed: with a "codec" that loses the stream the round trip fails
(so the theorem above is not true for the wrong reason) -/
theorem deflated_needs_inverse :
    ∃ (deflate inflate : Bytes → Bytes),
      (readDataset .explicitLE sampleDictD (inflate (deflate
        [0x08, 0x00, 0x60, 0x00, 67, 83, 2, 0, 77, 82]))).toOption.map Elems.tokens ≠
      (readDataset .explicitLE sampleDictD [0x08, 0x00, 0x60, 0x00, 67, 83, 2, 0, 77, 82]).toOption.map Elems.tokens := by
  refine ⟨fun _ => [], fun b => b, ?_⟩
  show ((readDataset .explicitLE sampleDictD []).toOption.map Elems.tokens ≠
      (readDataset .explicitLE sampleDictD [0x08, 0x00, 0x60, 0x00, 67, 83, 2, 0, 77, 82]).toOption.map Elems.tokens)
  decide +kernel

/-- non-vacuity: the identity is a codec -/
example : DeflateCodec := ⟨id, id, fun _ => rfl⟩

end Dicom.C01
