import DicomModel.Model.AeAddr
/-
C36 — Application entity addresses print and parse back unchanged.

The address type is a parameter: `showA`/`parseA` with `parseA (showA a) = some a`
(true of the std socket address types and of `String`).
"Has a title" means a non-empty title: `AeAddr::new("", a)` prints `@a`, which the parser
documents (and the repo's tests pin) as "no title"; the excluded point is executed on the real
code by the correspondence run (sig `empty-title`).
-/
namespace Dicom.AeAddr

theorem escapeAt_id {t : List Char} (h : '@' ∉ t) : escapeAt t = t := by
  induction t with
  | nil => rfl
  | cons x xs ih =>
    simp [escapeAt, (List.ne_of_not_mem_cons h).symm] at ih ⊢
    exact ih (List.not_mem_of_not_mem_cons h)

theorem splitOnce_append {t : List Char} (h : '@' ∉ t) (r : List Char) :
    splitOnce '@' (t ++ '@' :: r) = some (t, r) := by
  induction t with
  | nil => simp [splitOnce]
  | cons x xs ih =>
    simp [splitOnce, (List.ne_of_not_mem_cons h).symm, ih (List.not_mem_of_not_mem_cons h)]

theorem splitOnce_none {s : List Char} (h : '@' ∉ s) : splitOnce '@' s = none := by
  induction s with
  | nil => rfl
  | cons x xs ih =>
    simp [splitOnce, (List.ne_of_not_mem_cons h).symm, ih (List.not_mem_of_not_mem_cons h)]

variable {α : Type} (showA : α → List Char) (parseA : List Char → Option α)

/-- A full address with a non-empty, `@`-free title round-trips. -/
theorem full_rt (hA : ∀ a, parseA (showA a) = some a) (t : List Char) (a : α)
    (h : '@' ∉ t) (hne : t ≠ []) :
    Full.parse parseA (Full.print showA ⟨t, a⟩) = some ⟨t, a⟩ := by
  have : t.isEmpty = false := by cases t <;> simp_all
  simp [Full.parse, Full.print, escapeAt_id h, splitOnce_append h, hA, this]

/-- An address with a title round-trips (the network address itself may contain `@`). -/
theorem ae_rt_with_title (hA : ∀ a, parseA (showA a) = some a) (t : List Char) (a : α)
    (h : '@' ∉ t) (hne : t ≠ []) :
    Ae.parse parseA (Ae.print showA ⟨some t, a⟩) = some ⟨some t, a⟩ := by
  have : t.isEmpty = false := by cases t <;> simp_all
  simp [Ae.parse, Ae.print, escapeAt_id h, splitOnce_append h, hA, this]

/-- An address without a title parses back without one — for *every* network address text,
including one that contains `@` (the printer then emits a leading `@`). -/
theorem ae_rt_without_title (hA : ∀ a, parseA (showA a) = some a) (a : α) :
    Ae.parse parseA (Ae.print showA ⟨none, a⟩) = some ⟨none, a⟩ := by
  by_cases hm : '@' ∈ showA a
  · have : splitOnce '@' ('@' :: showA a) = some ([], showA a) := by simp [splitOnce]
    simp [Ae.parse, Ae.print, hm, this, hA]
  · simp [Ae.parse, Ae.print, hm, splitOnce_none hm, hA]

/-- The hypothesis on the title is needed: a title with `@` does not come back. -/
theorem title_with_at_fails :
    Ae.parse (α := List Char) some (Ae.print id ⟨some ['A', '@', 'B'], ['h']⟩)
      ≠ some ⟨some ['A', '@', 'B'], ['h']⟩ := by decide

/-- non-vacuity: a concrete address meets the hypotheses of `full_rt` -/
example : '@' ∉ ['S', 'C', 'P'] ∧ ['S', 'C', 'P'] ≠ [] ∧
    Full.parse (α := List Char) some (Full.print id ⟨['S', 'C', 'P'], ['h', ':', '1']⟩)
      = some ⟨['S', 'C', 'P'], ['h', ':', '1']⟩ := by decide

end Dicom.AeAddr
