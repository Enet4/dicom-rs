import DicomModel.Lemmas.Pdu
import DicomModel.Lemmas.PduValid
import DicomModel.Lemmas.PduNoPanic
/-
C25 — PDUs are encoded and decoded losslessly with exact framing.

Model: `DicomModel/Model/Pdu.lean` (`writePdu`, `readPdu`, all PDU and item types).
`WellFormedPdu p` (`wfPdu`) states the value ranges of the Rust field types (`u8`, `u16`, `u32`,
byte vectors) and excludes the values that are not in the image of the reader: an `Unknown` PDU or
user variable carrying a type code that the reader knows, `Reserved(x)` reject reasons outside the
reserved ranges. `normPdu` is the documented normalisation: AE titles cut/padded to 16 bytes and
trimmed, UIDs and names trimmed of white space (`str::trim`).
-/
namespace Dicom.Pdu

abbrev WellFormedPdu (p : Pdu) : Prop := wfPdu p = true

/-- body of every PDU kind reads back as the normal form -/
theorem readBody_write {p : Pdu} {body : Bytes} (hw : writePduBody p = .ok body) (hwf : WellFormedPdu p) :
    readBody (pduType p) body = .ok (normPdu p) := by
  cases p with
  | associationRQ a => exact readBody_rq hw hwf
  | associationAC a => exact readBody_ac hw hwf
  | associationRJ res src =>
    cases hw
    have h := RjSource.ofCodes_codes src hwf
    simp [readBody, pduType, u8P, RjResult.ofCode_code, h, normPdu]
  | pData vs => simp [readBody, pduType, readPdvs_write vs body hw body.length [] (Nat.le_refl _), normPdu]
  | releaseRQ | releaseRP =>
    cases hw
    simp [readBody, pduType, normPdu]
  | abortRQ src =>
    cases hw
    simp [readBody, pduType, takeP, u8P, AbortSource.ofCodes_codes, normPdu]
  | unknown t d =>
    cases hw
    simp [WellFormedPdu, wfPdu, knownPduType] at hwf
    simp [readBody, pduType, hwf, normPdu]

/-- **Round trip with exact framing.** A well-formed PDU that `write_pdu` accepts reads back as its
normal form, for any bytes `r` following it in the buffer, consuming exactly the bytes written
(`r` is what remains). Hypotheses: `max_pdu_length` in the accepted range; in strict mode the PDU
is not longer than the maximum. -/
theorem pdu_rt {p : Pdu} {bs : Bytes} (hwf : WellFormedPdu p) (hw : writePdu p = .ok bs)
    (mx : Nat) (strict : Bool) (hmx : validMax mx) (hs : strict = true → bs.length - 6 ≤ mx) (r : Bytes) :
    readPdu mx strict (bs ++ r) = .ok (normPdu p, r) := by
  obtain ⟨body, hb, hl, rfl⟩ := pdu32_ok.1 hw
  rw [readPdu_frame mx strict _ body r hmx hl (by simpa using hs), readBody_write hb hwf]
  rfl

/-- Every strict prefix of an encoded PDU reads as incomplete (`Ok(None)`): never an error, never a
(different) PDU. No well-formedness needed: framing alone decides. -/
theorem prefix_incomplete {p : Pdu} {bs : Bytes} (hw : writePdu p = .ok bs)
    (mx : Nat) (strict : Bool) (hmx : validMax mx) (hs : strict = true → bs.length - 6 ≤ mx)
    (n : Nat) (hn : n < bs.length) :
    readPdu mx strict (bs.take n) = .inc := by
  obtain ⟨body, hb, hl, rfl⟩ := pdu32_ok.1 hw
  by_cases h6 : n < 6
  · exact readPdu_short hmx (by rw [List.length_take]; omega)
  · obtain ⟨k, rfl⟩ : ∃ k, n = k + 6 := ⟨n - 6, by omega⟩
    have h3 : ¬ (strict = true ∧ mx < body.length) := by
      rintro ⟨a, b⟩; have := hs a; simp at this; omega
    simp only [be32, List.cons_append, List.nil_append, List.take_succ_cons]
    rw [readPdu_header mx strict hmx, be32_val _ (by omega), if_neg h3,
      if_pos (by simp at hn; rw [List.length_take]; omega)]

/-- In strict mode a PDU whose length field exceeds the maximum is rejected — for *any* buffer
holding at least the 6 header bytes, whatever follows. -/
theorem strict_rejects_long (mx : Nat) (hmx : validMax mx) (t z a b c d : Nat) (rest : Bytes)
    (hlong : mx < 16777216 * a + 65536 * b + 256 * c + d) :
    readPdu mx true (t :: z :: a :: b :: c :: d :: rest) = .err .pduTooLarge := by
  rw [readPdu_header mx true hmx, if_pos ⟨rfl, hlong⟩]

/-- … and `write_pdu` output longer than the maximum is such a buffer -/
theorem strict_rejects_long_written {p : Pdu} {bs : Bytes} (hw : writePdu p = .ok bs)
    (mx : Nat) (hmx : validMax mx) (hlong : mx < bs.length - 6) (r : Bytes) :
    readPdu mx true (bs ++ r) = .err .pduTooLarge := by
  obtain ⟨body, hb, hl, rfl⟩ := pdu32_ok.1 hw
  apply strict_rejects_long mx hmx
  rw [be32_val _ (by omega)]
  simpa using hlong

/-- an out-of-range `max_pdu_length` is refused whatever the buffer holds -/
theorem invalid_max_rejected (mx : Nat) (strict : Bool) (bs : Bytes) (h : ¬ validMax mx) :
    readPdu mx strict bs = .err .invalidMaxPdu := by
  unfold readPdu
  rw [if_pos (show ¬ (minimumPduSize ≤ mx ∧ mx ≤ maximumPduSize) from h)]

/-- `validPS38` on a framed PDU: the length field is right, the rest depends on the type -/
theorem validPS38_frame (t : Nat) (body : Bytes) (hl : body.length ≤ 4294967295) :
    validPS38 (t :: 0 :: (be32 body.length ++ body)) =
      (if t = 0x01 ∨ t = 0x02 then
        decide (68 ≤ body.length) &&
          (match tile16 body.length (body.drop 68) with
           | some items => items.all (validVarItem (t = 0x01)) &&
               decide ((items.filter (fun s => s.1 = 0x10)).length = 1)
           | none => false)
      else if t = 0x03 ∨ t = 0x05 ∨ t = 0x06 ∨ t = 0x07 then decide (body.length = 4)
      else if t = 0x04 then (tile32 body.length body).isSome
      else true) := by
  simp only [be32, List.cons_append, List.nil_append, validPS38, be32_val _ (Nat.lt_succ_of_le hl)]
  simp
  rfl

/-- **Lengths consistent.** Whatever `write_pdu` emits for a well-formed PDU passes the independent
PS3.8 structure check: the PDU length and every item, sub-item and inner length field equal the
number of bytes of the content they describe, and the items tile their containers exactly. -/
theorem lengths_consistent {p : Pdu} {bs : Bytes} (hwf : WellFormedPdu p) (hw : writePdu p = .ok bs) :
    validPS38 bs = true := by
  obtain ⟨body, hb, hl, rfl⟩ := pdu32_ok.1 hw
  rw [validPS38_frame _ _ hl]
  cases p with
  | associationRQ a =>
    obtain ⟨-, huv⟩ := wfAssoc_version_uvs hwf
    obtain ⟨h68, items, h1, h2, h3⟩ :=
      valid_assocVars true 0x20 (by decide) (tile_pcProposedList a.pcs) hb huv
    simp [pduType, h68, h1, h3]
    simpa using h2
  | associationAC a =>
    obtain ⟨-, huv⟩ := wfAssoc_version_uvs hwf
    obtain ⟨h68, items, h1, h2, h3⟩ :=
      valid_assocVars false 0x21 (by decide) (tile_pcResultList a.pcs) hb huv
    simp [pduType, h68, h1, h3]
    simpa using h2
  | pData vs => simp [pduType, tile32_pdvList vs body hb]
  | associationRJ _ _ | releaseRQ | releaseRP | abortRQ _ =>
    cases hb
    simp [pduType]
  | unknown t d =>
    simp [WellFormedPdu, wfPdu, knownPduType] at hwf
    simp [pduType, hwf]
/-! ### Sizes: what each length field has to express, and when `write_pdu` succeeds -/

/-- content length of a user-information sub-item, from the field layouts of PS3.7 annex D -/
def uvContentLen : UserVar → Nat
  | .unknown _ d => d.length
  | .maxLength _ => 4
  | .implClassUid s => s.length
  | .implVersionName s => s.length
  | .sopClassExt uid d => 2 + uid.length + d.length
  | .roleSelection uid _ _ => 2 + uid.length + 2
  | .userIdentity u => 2 + (2 + u.primary.length) + (2 + u.secondary.length)

def userInfoLen : List UserVar → Nat
  | [] => 0
  | v :: r => 4 + uvContentLen v + userInfoLen r

def tsListLen : List Str → Nat
  | [] => 0
  | ts :: r => 4 + ts.length + tsListLen r

def pcProposedLen (pc : PcProposed) : Nat := 4 + (4 + pc.abstractSyntax.length) + tsListLen pc.transferSyntaxes
def pcResultLen (pc : PcResult) : Nat := 4 + (4 + pc.transferSyntax.length)

/-- every 16-bit length field of an association PDU can express its content -/
def FitsAssoc {γ : Type} (pcLen : γ → Nat) (a : Assoc γ) : Prop :=
  a.acn.length ≤ 65535 ∧ (∀ pc ∈ a.pcs, pcLen pc ≤ 65535) ∧
    (∀ v ∈ a.uvs, uvContentLen v ≤ 65535) ∧ userInfoLen a.uvs ≤ 65535

/-- the sizes that `write_pdu` must be able to express -/
def FitsPdu : Pdu → Prop
  | .associationRQ a => FitsAssoc pcProposedLen a
  | .associationAC a => FitsAssoc pcResultLen a
  | _ => True

def EncStr (s : Str) : Prop := ∀ c ∈ s, c < 256

/-- the text fields of a user variable are within ISO-8859-1 -/
def EncUserVar : UserVar → Prop
  | .implClassUid s => EncStr s
  | .implVersionName s => EncStr s
  | .sopClassExt uid _ => EncStr uid
  | .roleSelection uid _ _ => EncStr uid
  | _ => True

def EncPcProposed (pc : PcProposed) : Prop := EncStr pc.abstractSyntax ∧ ∀ ts ∈ pc.transferSyntaxes, EncStr ts
def EncPcResult (pc : PcResult) : Prop := EncStr pc.transferSyntax

def EncAssoc {γ : Type} (encPc : γ → Prop) (a : Assoc γ) : Prop :=
  EncStr a.callingAe ∧ EncStr a.calledAe ∧ EncStr a.acn ∧ (∀ pc ∈ a.pcs, encPc pc) ∧ ∀ v ∈ a.uvs, EncUserVar v

def EncodablePdu : Pdu → Prop
  | .associationRQ a => EncAssoc EncPcProposed a
  | .associationAC a => EncAssoc EncPcResult a
  | _ => True

def pcListLen {γ : Type} (pcLen : γ → Nat) : List γ → Nat
  | [] => 0
  | pc :: r => 4 + pcLen pc + pcListLen pcLen r

def pdvListLen : List Pdv → Nat
  | [] => 0
  | v :: r => 4 + (2 + v.data.length) + pdvListLen r

def assocBodyLen {γ : Type} (pcLen : γ → Nat) (a : Assoc γ) : Nat :=
  68 + (4 + a.acn.length) + pcListLen pcLen a.pcs + (if a.uvs.isEmpty then 0 else 4 + userInfoLen a.uvs)

/-- number of bytes after the 6-byte PDU header -/
def pduBodyLen : Pdu → Nat
  | .associationRQ a => assocBodyLen pcProposedLen a
  | .associationAC a => assocBodyLen pcResultLen a
  | .pData vs => pdvListLen vs
  | .unknown _ d => d.length
  | _ => 4

/-- what the 32-bit length fields have to express: the PDU body and each presentation data value -/
def Fits32 (p : Pdu) : Prop :=
  pduBodyLen p ≤ 4294967295 ∧
    match p with
    | .pData vs => ∀ v ∈ vs, 2 + v.data.length ≤ 4294967295
    | _ => True

theorem item_sizes {t n : Nat} {c : Bytes} (hl : c.length ≤ 65535) (e : c.length = n) :
    (item t c).length = 4 + n ∧ n ≤ 65535 := by
  subst e
  exact ⟨by simp only [List.length_cons, List.length_append, be16_length]; omega, hl⟩

theorem uvContent_length (v : UserVar) : (uvContent v).length = uvContentLen v := by
  cases v <;> simp +arith [uvContent, uvContentLen]

theorem encUserVar_iff (v : UserVar) : EncUserVar v ↔ EncStr (uvText v) := by
  cases v <;> simp [EncUserVar, uvText, EncStr]

theorem writeUserVar_sizes {v : UserVar} {b : Bytes} (hw : writeUserVar v = .ok b) :
    b.length = 4 + uvContentLen v ∧ uvContentLen v ≤ 65535 ∧ EncUserVar v := by
  obtain ⟨he, hl, rfl⟩ := writeUserVar_ok.1 hw
  obtain ⟨h1, h2⟩ := item_sizes hl (uvContent_length v)
  exact ⟨h1, h2, (encUserVar_iff v).2 he⟩

theorem writeUserVarList_sizes (vs : List UserVar) (b : Bytes) (hw : writeUserVarList vs = .ok b) :
    b.length = userInfoLen vs ∧ ∀ v ∈ vs, uvContentLen v ≤ 65535 ∧ EncUserVar v :=
  writeUserVarList_each.sizes_of_ok (l := fun v => 4 + uvContentLen v) rfl (fun _ _ => rfl)
    (fun _ _ h => writeUserVar_sizes h) vs b hw

theorem writeUserVars_sizes {vs : List UserVar} {b : Bytes} (hw : writeUserVars vs = .ok b) :
    b.length = (if vs.isEmpty then 0 else 4 + userInfoLen vs) ∧ userInfoLen vs ≤ 65535 ∧
      ∀ v ∈ vs, uvContentLen v ≤ 65535 ∧ EncUserVar v := by
  cases hvs : vs.isEmpty with
  | true =>
    rw [List.isEmpty_iff.1 hvs] at hw ⊢
    cases hw
    exact ⟨rfl, Nat.zero_le _, by simp⟩
  | false =>
    simp only [writeUserVars, hvs] at hw
    obtain ⟨c, hc, hl, rfl⟩ := item16_ok.1 hw
    obtain ⟨h1, h2⟩ := writeUserVarList_sizes vs c hc
    obtain ⟨h3, h4⟩ := item_sizes (t := Gen.wItem_UserVariables) hl h1
    exact ⟨by simpa using h3, h4, h2⟩

theorem writeUserVars_ok_of {vs : List UserVar} (hf : ∀ v ∈ vs, uvContentLen v ≤ 65535)
    (ht : userInfoLen vs ≤ 65535) (he : ∀ v ∈ vs, EncUserVar v) : ∃ b, writeUserVars vs = .ok b := by
  cases hvs : vs.isEmpty with
  | true => exact ⟨[], by simp [writeUserVars, hvs]⟩
  | false =>
    obtain ⟨c, hc⟩ := writeUserVarList_each.ok_of_each vs fun v hv =>
      ⟨_, writeUserVar_ok.2 ⟨(encUserVar_iff v).1 (he v hv), by rw [uvContent_length]; exact hf v hv, rfl⟩⟩
    simp only [writeUserVars, hvs]
    exact ⟨_, item16_ok.2 ⟨c, hc, by rw [(writeUserVarList_sizes vs c hc).1]; exact ht, rfl⟩⟩

theorem writeTsList_sizes (tss : List Str) (b : Bytes) (hw : writeTsList tss = .ok b) :
    b.length = tsListLen tss ∧ ∀ ts ∈ tss, EncStr ts :=
  writeTsList_each.sizes_of_ok (l := fun ts => 4 + ts.length) rfl (fun _ _ => rfl)
    (fun ts x h => by
      obtain ⟨c, hc, hl, rfl⟩ := item16_ok.1 h
      obtain ⟨he, rfl⟩ := encodeText_ok.1 hc
      exact ⟨(item_sizes hl rfl).1, he⟩) tss b hw

theorem writeTsList_ok_of (tss : List Str) (hf : tsListLen tss ≤ 65535) (he : ∀ ts ∈ tss, EncStr ts) :
    ∃ b, writeTsList tss = .ok b := by
  induction tss with
  | nil => exact ⟨[], rfl⟩
  | cons ts tss ih =>
    simp only [tsListLen] at hf
    obtain ⟨y, hy⟩ := ih (by omega) (fun w hw => he w (by simp [hw]))
    exact ⟨_, wcat_ok.2 ⟨_, y, item16_ok.2 ⟨ts, encodeText_ok.2 ⟨he ts (by simp), rfl⟩, by omega, rfl⟩, hy, rfl⟩⟩

theorem writePcProposed_sizes {pc : PcProposed} {b : Bytes} (hw : writePcProposed pc = .ok b) :
    b.length = 4 + pcProposedLen pc ∧ pcProposedLen pc ≤ 65535 ∧ EncPcProposed pc := by
  obtain ⟨q, hea, -, hq, hl, rfl⟩ := writePcProposed_ok.1 hw
  obtain ⟨hq1, hq2⟩ := writeTsList_sizes _ q hq
  obtain ⟨h1, h2⟩ := item_sizes hl (show _ = pcProposedLen pc by simp +arith [pcProposedLen, hq1])
  exact ⟨h1, h2, hea, hq2⟩

theorem writePcProposed_ok_of {pc : PcProposed} (hf : pcProposedLen pc ≤ 65535) (he : EncPcProposed pc) :
    ∃ b, writePcProposed pc = .ok b := by
  simp only [pcProposedLen] at hf
  obtain ⟨q, hq⟩ := writeTsList_ok_of pc.transferSyntaxes (by omega) he.2
  have hql := (writeTsList_sizes _ q hq).1
  exact ⟨_, writePcProposed_ok.2 ⟨q, he.1, by omega, hq, by simp [hql]; omega, rfl⟩⟩

theorem writePcResult_sizes {pc : PcResult} {b : Bytes} (hw : writePcResult pc = .ok b) :
    b.length = 4 + pcResultLen pc ∧ pcResultLen pc ≤ 65535 ∧ EncPcResult pc := by
  obtain ⟨hea, -, hl, rfl⟩ := writePcResult_ok.1 hw
  obtain ⟨h1, h2⟩ := item_sizes hl (show _ = pcResultLen pc by simp +arith [pcResultLen])
  exact ⟨h1, h2, hea⟩

theorem writePcResult_ok_of {pc : PcResult} (hf : pcResultLen pc ≤ 65535) (he : EncPcResult pc) :
    ∃ b, writePcResult pc = .ok b := by
  simp only [pcResultLen] at hf
  exact ⟨_, writePcResult_ok.2 ⟨he, by omega, by simp; omega, rfl⟩⟩

theorem writeAssocBody_sizes {γ : Type} {writePcs : List γ → W} {pcLen : γ → Nat} {encPc : γ → Prop}
    {a : Assoc γ} {body : Bytes}
    (hpcs : ∀ b, writePcs a.pcs = .ok b →
      b.length = pcListLen pcLen a.pcs ∧ ∀ pc ∈ a.pcs, pcLen pc ≤ 65535 ∧ encPc pc)
    (hw : writeAssocBody writePcs a = .ok body) :
    body.length = assocBodyLen pcLen a ∧ FitsAssoc pcLen a ∧ EncAssoc encPc a := by
  obtain ⟨ae1, ae2, x, y, z, h1, h2, hx, hy, hz, rfl⟩ := writeAssocBody_ok.1 hw
  have l1 := writeAe_length h1
  have l2 := writeAe_length h2
  obtain ⟨hec, hl, rfl⟩ := writeAcn_ok.1 hx
  obtain ⟨ly, hy'⟩ := hpcs y hy
  obtain ⟨lz, tz, hz'⟩ := writeUserVars_sizes hz
  refine ⟨?_, ⟨hl, fun pc h => (hy' pc h).1, fun v h => (hz' v h).1, tz⟩,
    (writeAe_ok.1 h2).1, (writeAe_ok.1 h1).1, hec, fun pc h => (hy' pc h).2, fun v h => (hz' v h).2⟩
  simp [assocBodyLen, l1, l2, ly, lz]
  omega

theorem writeAssocBody_ok_of {γ : Type} {writePcs : List γ → W} {pcLen : γ → Nat} {encPc : γ → Prop}
    {a : Assoc γ}
    (hpcs : (∀ pc ∈ a.pcs, pcLen pc ≤ 65535) → (∀ pc ∈ a.pcs, encPc pc) → ∃ b, writePcs a.pcs = .ok b)
    (hf : FitsAssoc pcLen a) (he : EncAssoc encPc a) : ∃ body, writeAssocBody writePcs a = .ok body := by
  obtain ⟨f1, f2, f3, f4⟩ := hf
  obtain ⟨e1, e2, e3, e4, e5⟩ := he
  obtain ⟨y, hy⟩ := hpcs f2 e4
  obtain ⟨z, hz⟩ := writeUserVars_ok_of f3 f4 e5
  exact ⟨_, writeAssocBody_ok.2 ⟨_, _, _, y, z, writeAe_ok.2 ⟨e2, rfl⟩, writeAe_ok.2 ⟨e1, rfl⟩,
    writeAcn_ok.2 ⟨e3, f1, rfl⟩, hy, hz, rfl⟩⟩

theorem writePcProposedList_sizes (pcs : List PcProposed) (b : Bytes) (hw : writePcProposedList pcs = .ok b) :
    b.length = pcListLen pcProposedLen pcs ∧ ∀ pc ∈ pcs, pcProposedLen pc ≤ 65535 ∧ EncPcProposed pc :=
  writePcProposedList_each.sizes_of_ok (l := fun pc => 4 + pcProposedLen pc) rfl (fun _ _ => rfl)
    (fun _ _ h => writePcProposed_sizes h) pcs b hw

theorem writePcResultList_sizes (pcs : List PcResult) (b : Bytes) (hw : writePcResultList pcs = .ok b) :
    b.length = pcListLen pcResultLen pcs ∧ ∀ pc ∈ pcs, pcResultLen pc ≤ 65535 ∧ EncPcResult pc :=
  writePcResultList_each.sizes_of_ok (l := fun pc => 4 + pcResultLen pc) rfl (fun _ _ => rfl)
    (fun _ _ h => writePcResult_sizes h) pcs b hw

theorem writePdvList_sizes (vs : List Pdv) (b : Bytes) (hw : writePdvList vs = .ok b) :
    b.length = pdvListLen vs ∧ ∀ v ∈ vs, 2 + v.data.length ≤ 4294967295 :=
  writePdvList_each.sizes_of_ok (l := fun v => 4 + (2 + v.data.length)) rfl (fun _ _ => rfl)
    (fun v x h => by
      obtain ⟨c, hc, hl, rfl⟩ := chunk32_ok.1 h
      cases hc
      simp only [List.length_cons] at hl
      exact ⟨by simp +arith, by omega⟩) vs b hw

theorem writePdvList_ok_of (vs : List Pdv) (hf : ∀ v ∈ vs, 2 + v.data.length ≤ 4294967295) :
    ∃ b, writePdvList vs = .ok b :=
  writePdvList_each.ok_of_each vs fun v hv =>
    ⟨_, chunk32_ok.2 ⟨_, rfl, by have := hf v hv; simp only [List.length_cons]; omega, rfl⟩⟩

theorem writePduBody_sizes {p : Pdu} {body : Bytes} (hw : writePduBody p = .ok body) :
    body.length = pduBodyLen p ∧ FitsPdu p ∧ EncodablePdu p ∧
      (match p with | .pData vs => ∀ v ∈ vs, 2 + v.data.length ≤ 4294967295 | _ => True) := by
  cases p with
  | associationRQ a =>
    obtain ⟨h1, h2, h3⟩ := writeAssocBody_sizes (writePcProposedList_sizes a.pcs) hw
    exact ⟨h1, h2, h3, trivial⟩
  | associationAC a =>
    obtain ⟨h1, h2, h3⟩ := writeAssocBody_sizes (writePcResultList_sizes a.pcs) hw
    exact ⟨h1, h2, h3, trivial⟩
  | pData vs =>
    obtain ⟨h1, h2⟩ := writePdvList_sizes vs body hw
    exact ⟨h1, trivial, trivial, h2⟩
  | associationRJ _ _ | releaseRQ | releaseRP | abortRQ _ | unknown _ _ =>
    cases hw
    exact ⟨rfl, trivial, trivial, trivial⟩

theorem write_ok_fits {p : Pdu} {bs : Bytes} (hw : writePdu p = .ok bs) : FitsPdu p := by
  obtain ⟨body, hb, -, -⟩ := pdu32_ok.1 hw
  exact (writePduBody_sizes hb).2.1

/-- **Oversize fails.** If the content of any item of an association PDU (application context,
a presentation context, a user variable, the user-information item as a whole) exceeds 65 535
bytes — more than its 16-bit length field can express — `write_pdu` returns an error and emits no
PDU. (Model of the repaired `write_chunk_u16`; the unrepaired cast is `chunk16Wrapping`.) -/
theorem oversize_fails {p : Pdu} (h : ¬ FitsPdu p) : ∀ bs, writePdu p ≠ .ok bs :=
  fun _ hw => h (write_ok_fits hw)

theorem oversize_user_variable_fails (a : Assoc PcProposed) (v : UserVar) (hv : v ∈ a.uvs)
    (hbig : 65535 < uvContentLen v) : ∀ bs, writePdu (.associationRQ a) ≠ .ok bs := by
  apply oversize_fails
  intro h
  have := h.2.2.1 v hv
  omega

/-- the mechanism, and what the unrepaired cast did instead: a wrong length in front of the data -/
theorem chunk16_rejects_oversize (b : Bytes) (h : 65535 < b.length) : chunk16 (.ok b) = .error .tooLong := by
  simp [chunk16]; omega

theorem chunk16Wrapping_truncates (b : Bytes) (h : 65535 < b.length) :
    ∃ n, n < 65536 ∧ n ≠ b.length ∧ chunk16Wrapping (.ok b) = .ok (be16 n ++ b) :=
  ⟨b.length % 65536, by omega, by omega, rfl⟩

/-- the encoding is 6 header bytes plus the body computed from the field layouts -/
theorem write_len {p : Pdu} {bs : Bytes} (hw : writePdu p = .ok bs) : bs.length = 6 + pduBodyLen p := by
  obtain ⟨body, hb, hl, rfl⟩ := pdu32_ok.1 hw
  simp [(writePduBody_sizes hb).1]; omega

/-- **`write_pdu` succeeds exactly when** every 16-bit item length can express its content
(`FitsPdu`), every 32-bit length (PDU body, presentation data values) can express its content
(`Fits32`) and all text is within the codec's repertoire (`EncodablePdu`). -/
theorem write_ok_iff (p : Pdu) : (∃ bs, writePdu p = .ok bs) ↔ FitsPdu p ∧ Fits32 p ∧ EncodablePdu p := by
  constructor
  · rintro ⟨bs, hw⟩
    obtain ⟨body, hb, hl, rfl⟩ := pdu32_ok.1 hw
    obtain ⟨h1, hfit, h2, h3⟩ := writePduBody_sizes hb
    refine ⟨hfit, ⟨by omega, ?_⟩, h2⟩
    cases p <;> first | exact h3 | trivial
  · rintro ⟨hf, ⟨h32, hv⟩, he⟩
    have hbody : ∃ body, writePduBody p = .ok body := by
      cases p with
      | associationRQ a => exact writeAssocBody_ok_of (fun hf he => writePcProposedList_each.ok_of_each a.pcs fun pc h =>
          writePcProposed_ok_of (hf pc h) (he pc h)) hf he
      | associationAC a => exact writeAssocBody_ok_of (fun hf he => writePcResultList_each.ok_of_each a.pcs fun pc h =>
          writePcResult_ok_of (hf pc h) (he pc h)) hf he
      | pData vs => exact writePdvList_ok_of vs hv
      | associationRJ _ _ | releaseRQ | releaseRP | abortRQ _ | unknown _ _ => exact ⟨_, rfl⟩
    obtain ⟨body, hb⟩ := hbody
    have hl := (writePduBody_sizes hb).1
    exact ⟨_, pdu32_ok.2 ⟨body, hb, by omega, rfl⟩⟩

/-- **32-bit oversize.** A presentation data value whose item (context id, control header, data)
exceeds 2³² − 1 bytes, or a PDU body that does, makes `write_pdu` fail. -/
theorem pdata_oversize_fails (vs : List Pdv) (v : Pdv) (hv : v ∈ vs) (hbig : 4294967295 < 2 + v.data.length) :
    ∀ bs, writePdu (.pData vs) ≠ .ok bs := by
  intro bs hw
  have := ((write_ok_iff _).1 ⟨bs, hw⟩).2.1.2 v hv
  omega

theorem body_oversize_fails (p : Pdu) (hbig : 4294967295 < pduBodyLen p) : ∀ bs, writePdu p ≠ .ok bs := by
  intro bs hw
  have := ((write_ok_iff _).1 ⟨bs, hw⟩).2.1.1
  omega

/-- every well-formed, fitting, encodable PDU round-trips: `pdu_rt` without a hypothesis on the
writer's result -/
theorem pdu_rt_total {p : Pdu} (hwf : WellFormedPdu p) (hf : FitsPdu p) (h32 : Fits32 p) (he : EncodablePdu p)
    (mx : Nat) (strict : Bool) (hmx : validMax mx) (hs : strict = true → pduBodyLen p ≤ mx) (r : Bytes) :
    ∃ bs, writePdu p = .ok bs ∧ bs.length = 6 + pduBodyLen p ∧ readPdu mx strict (bs ++ r) = .ok (normPdu p, r) := by
  obtain ⟨bs, hw⟩ := (write_ok_iff p).2 ⟨hf, h32, he⟩
  have hl := write_len hw
  exact ⟨bs, hw, hl, pdu_rt hwf hw mx strict hmx (fun h => by have := hs h; omega) r⟩

/-! ### Framing for arbitrary buffers -/

/-- the PDU-length field of a buffer holding at least the 6 header bytes -/
def declaredLen : Bytes → Option Nat
  | _ :: _ :: a :: b :: c :: d :: _ => some (16777216 * a + 65536 * b + 256 * c + d)
  | _ => none

theorem exists_header {bs : Bytes} (h : 6 ≤ bs.length) :
    ∃ t z a b c d body, bs = t :: z :: a :: b :: c :: d :: body := by
  match bs, h with
  | _ :: _ :: _ :: _ :: _ :: _ :: _, _ => exact ⟨_, _, _, _, _, _, _, rfl⟩
  | [], h | [_], h | [_, _], h | [_, _, _], h | [_, _, _, _], h | [_, _, _, _, _], h => simp at h

/-- **Incomplete exactly when bytes are missing.** For *any* buffer: `read_pdu` answers `Ok(None)`
iff the header is not complete, or the header is complete, the length is acceptable and fewer
body bytes than declared are present. A complete PDU — however malformed — is never "incomplete". -/
theorem incomplete_iff (mx : Nat) (strict : Bool) (hmx : validMax mx) (bs : Bytes) :
    readPdu mx strict bs = .inc ↔
      bs.length < 6 ∨ ∃ L, declaredLen bs = some L ∧ ¬ (strict = true ∧ mx < L) ∧ bs.length - 6 < L := by
  by_cases h6 : bs.length < 6
  · simp [readPdu_short hmx h6, h6]
  · obtain ⟨t, z, a, b, c, d, body, rfl⟩ := exists_header (Nat.le_of_not_lt h6)
    have hne (L : Nat) : (readBody t (body.take L)).bind (fun p => Res.ok (p, body.drop L)) ≠ .inc := by
      cases hb : readBody t (body.take L) with
      | inc => exact absurd hb (readBody_ne_inc _ _)
      | ok _ | err _ => simp
    rw [readPdu_header mx strict hmx]
    simp only [declaredLen, List.length_cons, Option.some.injEq, exists_eq_left']
    split
    · simp [*]
    · split
      · simp [*]
      · simp [*]

/-- **Exact framing for any input.** Whenever `read_pdu` returns a PDU it has consumed the 6 header
bytes and exactly the declared number of body bytes; the rest of the buffer is untouched. -/
theorem read_ok_framing (mx : Nat) (strict : Bool) (hmx : validMax mx) (bs : Bytes) (p : Pdu) (rest : Bytes)
    (h : readPdu mx strict bs = .ok (p, rest)) :
    ∃ L, declaredLen bs = some L ∧ rest = bs.drop (6 + L) ∧ 6 + L ≤ bs.length := by
  by_cases h6 : bs.length < 6
  · rw [readPdu_short hmx h6] at h
    cases h
  · obtain ⟨t, z, a, b, c, d, body, rfl⟩ := exists_header (Nat.le_of_not_lt h6)
    rw [readPdu_header mx strict hmx] at h
    refine ⟨_, rfl, ?_⟩
    split at h
    · cases h
    · split at h
      · cases h
      · refine ⟨?_, by simp; omega⟩
        cases hb : readBody t (body.take (16777216 * a + 65536 * b + 256 * c + d)) with
        | ok q =>
          rw [hb] at h
          cases h
          rw [Nat.add_comm 6]
          rfl
        | inc | err _ =>
          rw [hb] at h
          cases h

/-! ### Code tables: reader against writer, and both against PS3.8 -/

/-- every code the writer emits is the code the reader tests for the same thing -/
theorem codes_reader_writer_agree :
    (Gen.wPdu_AssociationRQ = Gen.rPdu_AssociationRQ ∧ Gen.wPdu_AssociationAC = Gen.rPdu_AssociationAC ∧
     Gen.wPdu_AssociationRJ = Gen.rPdu_AssociationRJ ∧ Gen.wPdu_PData = Gen.rPdu_PData ∧
     Gen.wPdu_ReleaseRQ = Gen.rPdu_ReleaseRQ ∧ Gen.wPdu_ReleaseRP = Gen.rPdu_ReleaseRP ∧
     Gen.wPdu_AbortRQ = Gen.rPdu_AbortRQ) ∧
    (Gen.wItem_ApplicationContext = Gen.rItem_ApplicationContext ∧
     Gen.wItem_PresentationContextProposed = Gen.rItem_PresentationContextProposed ∧
     Gen.wItem_PresentationContextResult = Gen.rItem_PresentationContextResult ∧
     Gen.wItem_UserVariables = Gen.rItem_UserVariables ∧
     Gen.wSubProposed_AbstractSyntax = Gen.rSubProposed_AbstractSyntax ∧
     Gen.wSubProposed_TransferSyntax = Gen.rSubProposed_TransferSyntax ∧
     Gen.wSubResult_TransferSyntax = Gen.rSubResult_TransferSyntax) ∧
    (Gen.wUser_MaxLength = Gen.rUser_MaxLength ∧
     Gen.wUser_ImplementationClassUID = Gen.rUser_ImplementationClassUID ∧
     Gen.wUser_ScuScpRoleSelectionSubItem = Gen.rUser_ScuScpRoleSelectionSubItem ∧
     Gen.wUser_ImplementationVersionName = Gen.rUser_ImplementationVersionName ∧
     Gen.wUser_SopClassExtendedNegotiationSubItem = Gen.rUser_SopClassExtendedNegotiationSubItem ∧
     Gen.wUser_UserIdentityItem = Gen.rUser_UserIdentityItem) := by decide

/-- PDU types of PS3.8 §9.3 (Tables 9-11, 9-17, 9-21, 9-22, 9-24, 9-25, 9-26) -/
theorem pdu_type_codes_ps38 :
    Gen.rPdu_AssociationRQ = 0x01 ∧ Gen.rPdu_AssociationAC = 0x02 ∧ Gen.rPdu_AssociationRJ = 0x03 ∧
    Gen.rPdu_PData = 0x04 ∧ Gen.rPdu_ReleaseRQ = 0x05 ∧ Gen.rPdu_ReleaseRP = 0x06 ∧
    Gen.rPdu_AbortRQ = 0x07 := by decide

/-- item types of PS3.8 §9.3.2/9.3.3 (Tables 9-12 … 9-20) and PS3.7 annex D -/
theorem item_type_codes_ps38 :
    Gen.rItem_ApplicationContext = 0x10 ∧ Gen.rItem_PresentationContextProposed = 0x20 ∧
    Gen.rItem_PresentationContextResult = 0x21 ∧ Gen.rItem_UserVariables = 0x50 ∧
    Gen.rSubProposed_AbstractSyntax = 0x30 ∧ Gen.rSubProposed_TransferSyntax = 0x40 ∧
    Gen.rSubResult_TransferSyntax = 0x40 ∧
    Gen.rUser_MaxLength = 0x51 ∧ Gen.rUser_ImplementationClassUID = 0x52 ∧
    Gen.rUser_ScuScpRoleSelectionSubItem = 0x54 ∧ Gen.rUser_ImplementationVersionName = 0x55 ∧
    Gen.rUser_SopClassExtendedNegotiationSubItem = 0x56 ∧ Gen.rUser_UserIdentityItem = 0x58 := by decide

/-! Result/reason of a presentation context (Table 9-18), reject result (Table 9-21), user identity
type (PS3.7 Table D.3-14): a code the reader accepts is the code the writer emits for the value
produced, and the numbers are the standard's. -/

theorem PcReason.code_ofCode {c : Nat} {x : PcReason} (h : PcReason.ofCode c = some x) : x.code = c := by
  -- the codes the reader tests, one by one; on any other number `ofCode` evaluates to `none`
  match c, h with
  | 0, h | 1, h | 2, h | 3, h | 4, h => cases h; rfl
  | _ + 5, h => cases h

theorem pc_reason_codes_ps38 :
    PcReason.acceptance.code = 0 ∧ PcReason.userRejection.code = 1 ∧ PcReason.noReason.code = 2 ∧
    PcReason.abstractSyntaxNotSupported.code = 3 ∧ PcReason.transferSyntaxesNotSupported.code = 4 := by decide

theorem RjResult.code_ofCode {c : Nat} {x : RjResult} (h : RjResult.ofCode c = some x) : x.code = c := by
  match c, h with
  | 1, h | 2, h => cases h; rfl
  | 0, h | _ + 3, h => cases h

theorem IdType.code_ofCode {c : Nat} {x : IdType} (h : IdType.ofCode c = some x) : x.code = c := by
  match c, h with
  | 1, h | 2, h | 3, h | 4, h | 5, h => cases h; rfl
  | 0, h | _ + 6, h => cases h

theorem id_type_codes_ps37 :
    IdType.username.code = 1 ∧ IdType.usernamePassword.code = 2 ∧ IdType.kerberos.code = 3 ∧
    IdType.saml.code = 4 ∧ IdType.jwt.code = 5 := by decide

/-- A-ASSOCIATE-RJ: the reader accepts exactly the source/reason pairs of Table 9-21 … -/
theorem rj_accepted_pairs_ps38 (s r : Nat) :
    (RjSource.ofCodes s r).isSome = true ↔
      (s = 1 ∧ 1 ≤ r ∧ r ≤ 10) ∨ (s = 2 ∧ (r = 1 ∨ r = 2)) ∨ (s = 3 ∧ r ≤ 7) := by
  simp [RjSource.ofCodes, apply_ite Option.isSome]
  split
  · omega
  · split <;> omega

/-- … a pair it accepts is the pair the writer emits for the value produced … -/
theorem RjSource.codes_ofCodes {s r : Nat} {x : RjSource} (h : RjSource.ofCodes s r = some x) :
    x.codes = (s, r) := by
  have hb : s < 4 ∧ r < 11 := by
    have := (rj_accepted_pairs_ps38 s r).1 (by rw [h]; rfl)
    omega
  exact (by decide : ∀ s < 4, ∀ r < 11, ∀ x ∈ RjSource.ofCodes s r, x.codes = (s, r)) s hb.1 r hb.2 x h

/-- … with the standard's meaning of each named reason -/
theorem rj_named_codes_ps38 :
    RjSource.codes (.serviceUser .noReasonGiven) = (1, 1) ∧ RjSource.codes (.serviceUser .acnNotSupported) = (1, 2) ∧
    RjSource.codes (.serviceUser .callingNotRecognized) = (1, 3) ∧
    RjSource.codes (.serviceUser .calledNotRecognized) = (1, 7) ∧
    RjSource.codes (.asce .noReasonGiven) = (2, 1) ∧ RjSource.codes (.asce .protocolVersionNotSupported) = (2, 2) ∧
    RjSource.codes (.presentation .temporaryCongestion) = (3, 1) ∧
    RjSource.codes (.presentation .localLimitExceeded) = (3, 2) ∧
    RjResult.permanent.code = 1 ∧ RjResult.transient.code = 2 := by decide

/-- A-ABORT (Table 9-26): source and (for the service provider) reason -/
theorem abort_codes_ps38 :
    AbortSource.codes .serviceUser = (0, 0) ∧ AbortSource.codes .reserved = (1, 0) ∧
    AbortSource.codes (.serviceProvider .reasonNotSpecified) = (2, 0) ∧
    AbortSource.codes (.serviceProvider .unrecognizedPdu) = (2, 1) ∧
    AbortSource.codes (.serviceProvider .unexpectedPdu) = (2, 2) ∧
    AbortSource.codes (.serviceProvider .reserved) = (2, 3) ∧
    AbortSource.codes (.serviceProvider .unrecognizedPduParameter) = (2, 4) ∧
    AbortSource.codes (.serviceProvider .unexpectedPduParameter) = (2, 5) ∧
    AbortSource.codes (.serviceProvider .invalidPduParameter) = (2, 6) := by decide

theorem AbortSource.codes_ofCodes {s r : Nat} {x : AbortSource} (h : AbortSource.ofCodes s r = some x) :
    x.codes.1 = s ∧ (s = Gen.rAbort_ServiceProvider → x.codes.2 = r) := by
  match s, r, h with
  | 0, _, h | 1, _, h => cases h; exact ⟨rfl, fun h => nomatch h⟩
  | 2, 0, h | 2, 1, h | 2, 2, h | 2, 3, h | 2, 4, h | 2, 5, h | 2, 6, h => cases h; exact ⟨rfl, fun _ => rfl⟩
  | 2, _ + 7, h | _ + 3, _, h => cases h

/-! ### No panic -/

/-- **`read_pdu` never panics**: for every maximum, mode and byte string the model's outcome is a PDU,
"incomplete" or an error, never the `panic` that stands for `Buf::get_*`/`copy_to_bytes`/`advance` on
a short buffer — every such access is dominated by a sufficient length test.
(Lemmas in `Lemmas/PduNoPanic.lean`, shared with C05.) -/
theorem read_pdu_no_panic (mx : Nat) (strict : Bool) (bs : Bytes) : readPdu mx strict bs ≠ .err .panic :=
  C05.NP_of_endsIn (readPdu_noPanic mx strict bs)

/-! ### Exact round trip and non-vacuity -/

/-- a PDU already in the reader's normal form (titles ≤ 16 bytes, no surrounding white space) -/
abbrev IsNormal (p : Pdu) : Prop := normPdu p = p

/-- for PDUs in normal form the round trip is the identity -/
theorem pdu_rt_exact {p : Pdu} {bs : Bytes} (hwf : WellFormedPdu p) (hn : IsNormal p) (hw : writePdu p = .ok bs)
    (mx : Nat) (strict : Bool) (hmx : validMax mx) (hs : strict = true → bs.length - 6 ≤ mx) (r : Bytes) :
    readPdu mx strict (bs ++ r) = .ok (p, r) := by
  have := pdu_rt hwf hw mx strict hmx hs r
  rwa [hn] at this

/-- PDUs without text fields are always in normal form -/
theorem isNormal_of_no_text (p : Pdu) (h : (match p with | .associationRQ _ => false | .associationAC _ => false | _ => true) = true) :
    IsNormal p := by
  cases p <;> simp_all [IsNormal, normPdu]

def sampleRq : Pdu := .associationRQ
  { protocolVersion := 1, callingAe := [83, 67, 85], calledAe := [83, 67, 80], acn := [49, 46, 50],
    pcs := [⟨1, [49, 46, 50, 46, 51], [[49, 46, 50], [49, 46, 50, 46, 49]]⟩],
    uvs := [.maxLength 16384, .implClassUid [49, 46, 57], .roleSelection [49, 46, 50] true false,
            .sopClassExt [49, 46, 50] [1, 0], .userIdentity ⟨true, .usernamePassword, [117], [112]⟩,
            .unknown 0x53 [0, 0, 0, 1]] }

/-- non-vacuity: an association request exercising every user-variable kind is well-formed, normal
and written as 175 bytes, within the maximum 16384 -/
example : WellFormedPdu sampleRq ∧ IsNormal sampleRq ∧ validMax 16384 ∧
    (match writePdu sampleRq with | .ok bs => decide (bs.length = 175) | .error _ => false) = true :=
  ⟨by decide, by decide, ⟨by decide, by decide⟩, by decide⟩

/-- the well-formedness hypothesis is needed: an `Unknown` user variable carrying a known code
(here 0x51 with 2 bytes of data) is written but does not read back -/
theorem unknown_with_known_code_fails :
    ∃ bs, writePdu (.associationRQ ⟨1, [], [], [49], [], [.unknown 0x51 [0, 0]]⟩) = .ok bs ∧
      readPdu 16384 false bs ≠ .ok (.associationRQ ⟨1, [], [], [49], [], [.unknown 0x51 [0, 0]]⟩, []) := by
  refine ⟨_, rfl, ?_⟩
  decide

end Dicom.Pdu
