import DicomModel.Model.ImageTools
/-
C35 — Image import and export tools round-trip pixel values.

Model: `DicomModel/Model/ImageTools.lean` (`fromimage` `inject_image`/`update_from_img`, `toimage`
`--unwrap` and the RGB branch of `to_dynamic_image_with_options`).

`import_export_id`: for EVERY well-formed 8/16-bit gray or RGB image whose dimensions fit `u16`,
import followed by export (gray: unwrapped frame; RGB: decoded, no intensity transform) gives back
the same dimensions and samples.  `import_export_id_codec` composes it with an image file codec that
is a parameter (`decode (encode x) = some x`, the PNG codec of the `image` crate in the run).
The property is stated for image sizes 1–64, which lie inside the hypothesis `width, height < 65536`;
`dims_truncated` shows the hypothesis is needed by the code (`width as u16`).
-/
namespace Dicom.ImageTools

theorem wordsLe_flatMap_le16 (xs : List Nat) (h : ∀ s ∈ xs, s < 65536) :
    wordsLe (xs.flatMap le16) = xs := by
  induction xs with
  | nil => rfl
  | cons x xs ih =>
    have hx : x < 65536 := h x (by simp)
    have := ih (fun s hs => h s (by simp [hs]))
    simp only [List.flatMap_cons, le16, List.cons_append, List.nil_append, wordsLe, this]
    congr 1
    omega

theorem length_flatMap_le16 (xs : List Nat) : (xs.flatMap le16).length = 2 * xs.length := by
  induction xs with
  | nil => rfl
  | cons x xs ih => simp [List.flatMap_cons, le16, ih]; omega

theorem intoBytes_length (i : Img) (wf : i.WellFormed) :
    (intoBytes i).length = i.height * i.width * i.color.spp * ((i.color.bits + 7) / 8) := by
  rw [Nat.mul_comm i.height, ← wf.1, intoBytes]
  cases i.color <;> simp [Color.bits, -List.length_flatMap, length_flatMap_le16, Nat.mul_comm]

theorem frameSize_inject (i : Img) (hw : i.width < 65536) (hh : i.height < 65536) :
    frameSize (inject i) = i.height * i.width * i.color.spp * ((i.color.bits + 7) / 8) := by
  simp [frameSize, inject, Nat.mod_eq_of_lt hw, Nat.mod_eq_of_lt hh]

/-- `--unwrap` returns exactly the imported sample bytes -/
theorem unwrap_inject (i : Img) (wf : i.WellFormed) (hw : i.width < 65536) (hh : i.height < 65536) :
    unwrapFrame (inject i) = some (intoBytes i) := by
  have hf := frameSize_inject i hw hh
  have hl := intoBytes_length i wf
  have hpd : (inject i).pixelData = intoBytes i := rfl
  unfold unwrapFrame
  rw [hpd, hf, ← hl]
  simp

theorem samplesOf_intoBytes (i : Img) (wf : i.WellFormed) :
    samplesOf i.color.bits (intoBytes i) = i.samples := by
  obtain ⟨_, hs⟩ := wf
  cases hc : i.color <;> simp [samplesOf, intoBytes, Color.bits, hc] at *
  · exact wordsLe_flatMap_le16 _ hs
  · exact wordsLe_flatMap_le16 _ hs

/-- the imported attributes are those of the image (what the intermediate DICOM file must hold) -/
theorem inject_attrs (i : Img) (hw : i.width < 65536) (hh : i.height < 65536) :
    (inject i).cols = i.width ∧ (inject i).rows = i.height ∧ (inject i).spp = i.color.spp ∧
    (inject i).bitsAllocated = i.color.bits ∧ (inject i).bitsStored = i.color.bits ∧
    (inject i).highBit + 1 = i.color.bits ∧ (inject i).pixelRepr = 0 ∧
    (inject i).numberOfFrames = none := by
  refine ⟨by simp [inject, Nat.mod_eq_of_lt hw], by simp [inject, Nat.mod_eq_of_lt hh], rfl, rfl, rfl, ?_, rfl, rfl⟩
  cases hc : i.color <;> simp [inject, Color.bits, hc]

/-- the RGB decoder computes what `--unwrap` followed by `samplesOf` computes -/
theorem roundTrip_eq (i : Img) : roundTrip i = (unwrapFrame (inject i)).map fun fr =>
    ⟨i.color, (inject i).cols, (inject i).rows, samplesOf i.color.bits fr⟩ := by
  obtain ⟨c, w, h, s⟩ := i
  cases c
  · rfl
  · rfl
  · simp only [roundTrip, exportRgb, inject, Color.spp, Color.bits, samplesOf]
    cases unwrapFrame _ <;> simp
  · simp only [roundTrip, exportRgb, inject, Color.spp, Color.bits, samplesOf]
    cases unwrapFrame _ <;> simp

theorem import_export_id (i : Img) (wf : i.WellFormed) (hw : i.width < 65536) (hh : i.height < 65536) :
    roundTrip i = some i := by
  rw [roundTrip_eq, unwrap_inject i wf hw hh, Option.map_some, samplesOf_intoBytes i wf,
    (inject_attrs i hw hh).1, (inject_attrs i hw hh).2.1]

/-- with an image file codec that decodes what it encoded (the PNG codec, a parameter):
file → import → export → file → decode gives back the image -/
theorem import_export_id_codec {F : Type} (encode : Img → F) (decode : F → Option Img)
    (hcodec : ∀ x, decode (encode x) = some x)
    (i : Img) (wf : i.WellFormed) (hw : i.width < 65536) (hh : i.height < 65536) :
    ((decode (encode i)).bind roundTrip).bind (fun o => decode (encode o)) = some i := by
  simp [hcodec, import_export_id i wf hw hh]

/-- the `u16` hypothesis is forced by the code: a 65537-pixel-wide image is imported as 1 column -/
theorem dims_truncated (s : List Nat) : (inject ⟨.l8, 65537, 1, s⟩).cols = 1 := by simp [inject]

-- the hypotheses are satisfiable
example : roundTrip ⟨.rgb16, 1, 2, [1, 2, 65535, 256, 0, 7]⟩ = some ⟨.rgb16, 1, 2, [1, 2, 65535, 256, 0, 7]⟩ := by
  decide
example : roundTrip ⟨.l8, 3, 1, [1, 2, 255]⟩ = some ⟨.l8, 3, 1, [1, 2, 255]⟩ := by decide

end Dicom.ImageTools
