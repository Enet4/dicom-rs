import DicomModel.Lemmas.DsReaderPos
import DicomModel.Lemmas.LazyPos
import DicomModel.Lemmas.Bytes
/-
C07 — odd-length values are handled per strategy and reading stays aligned; `position()` = bytes consumed.

Model: Model/DsReader.lean (`Rd.RSt`, the reader parametrised by its header decoder) — `DataSetReader::next` with `sanitize_length`, and the `StatefulDecoder`
underneath it with the repaired value readers (fixes bc139e6: the whole declared length of a numeric value
is consumed; aeb0d7f: blank DA/DT/TM/DS/IS values advance the position).

Every token-producing step of `next` adds to `position` what it takes from the source, so along a run
`position = base + bytes consumed`, for any header decoder with a truthful byte count — provided a fragment /
offset table that is read lies inside the source (`truncated_fragment_position`: that cannot be dropped, finding
`item-value-truncated-position`). An element is read whole, its length as the odd-length strategy says, and the
next header is decoded from the byte after it. The position invariant also holds of the lazy reader (`LState`,
Model/LazyReader.lean), whatever the consumer does with each announced value, under the like side condition.
-/
namespace Dicom.Rd
variable {σ : Type}

/-- one reader step: whatever token `next` returns, `position` advanced by exactly the number of
bytes taken from the source (all branches: delimiters by length, item headers, element headers in any
syntax, values of every VR in the three value strategies, offset tables, fragments) — provided a fragment /
offset table that is read lies inside the source (`ItemReadOk`; see `truncated_fragment_position`) -/
theorem next_tok_exact (cfg : Cfg) (D : Dec σ) (hD : HdrExact D) :
    ∀ fuel d s t x', ItemReadOk s → next cfg D fuel (d, s) = (.tok t, x') → Exact s x'.2 := by
  intro fuel
  induction fuel with
  | zero => intro d s t x' _ h; simp [next] at h
  | succ fuel ih =>
    intro d s t x' hok h
    unfold next at h
    split at h
    · simp at h
    · cases hp : preHeader cfg D.be D.itemEofGraceful s with
      | ret o s1 =>
        rw [hp] at h
        cases h
        exact preHeader_tok_exact hok hp
      | go s1 =>
        rw [hp] at h
        simp only at h
        have hg := preHeader_go hp
        have hr : ∀ h0 n rest, (D.header d s1.src).1 = .ok h0 n rest → rest.length + n = s1.src.length := by
          intro h0 n rest he
          exact hD d s1.src h0 n rest (D.header d s1.src).2 (by rw [← he])
        cases hs : headerStep cfg (D.header d s1.src).1 s1 with
        | ret o s2 =>
          rw [hs] at h
          cases h
          have hex := headerStep_exact (cfg := cfg) hr (headerStep_tok_isOk hs)
          rw [hs] at hex
          exact hg.1.trans hex
        | go s2 =>
          rw [hs] at h
          simp only at h
          obtain ⟨h0, n, rest, hr0, _, hst, hs2⟩ := headerStep_go hs
          have hex := headerStep_exact (cfg := cfg) hr (by rw [hr0]; rfl)
          rw [hs] at hex
          have := ih _ s2 t x' (ItemReadOk_of_stack_nil (by rw [hs2]; exact hst)) h
          exact (hg.1.trans hex).trans this

/-- along a run, every fragment / offset table that is read lies inside the source -/
def ItemReadsOk (cfg : Cfg) (D : Dec σ) : Nat → σ × RSt → Prop
  | 0, _ => True
  | cap + 1, x =>
    ItemReadOk x.2 ∧
      ((next cfg D (x.2.src.length + 1) x).1.isTok = true →
        ItemReadsOk cfg D cap (next cfg D (x.2.src.length + 1) x).2)

instance (s : RSt) : Decidable (ItemReadOk s) := by
  unfold ItemReadOk; split <;> infer_instance

instance instDecItemReadsOk (cfg : Cfg) (D : Dec σ) : (cap : Nat) → (x : σ × RSt) → Decidable (ItemReadsOk cfg D cap x)
  | 0, _ => isTrue trivial
  | cap + 1, x =>
    have := instDecItemReadsOk cfg D cap (next cfg D (x.2.src.length + 1) x).2
    by unfold ItemReadsOk; exact inferInstance

/-- after every token of a run, `position() = base + bytes consumed from the source`:
all reader steps, all VRs, the three odd-length strategies, the three value strategies, any header decoder
that reports its byte count truthfully -/
theorem position_exact (cfg : Cfg) (D : Dec σ) (hD : HdrExact D) (base total : Nat) :
    ∀ cap x, x.2.pos + x.2.src.length = base + total → base ≤ x.2.pos → ItemReadsOk cfg D cap x →
      ∀ r ∈ run cfg D total cap x, (∃ t, r.out = .tok t) → r.pos = base + r.consumed := by
  intro cap
  induction cap with
  | zero => intro x _ _ _ r hr; simp [run] at hr
  | succ cap ih =>
    intro x hinv hb hok r hr ht
    obtain ⟨d, s⟩ := x
    unfold run at hr
    unfold ItemReadsOk at hok
    obtain ⟨hok1, hok2⟩ := hok
    cases hn : next cfg D (s.src.length + 1) (d, s) with
    | mk o x' =>
      simp only at hr hok2
      rw [hn] at hr hok2
      cases o with
      | tok t =>
        simp only at hr
        have hok2 := hok2 rfl
        simp only at hok2
        have hex := next_tok_exact cfg D hD _ d s t x' hok1 hn
        have hinv' : x'.2.pos + x'.2.src.length = base + total := by
          have := hex.1; simp only at hinv; omega
        have hb' : base ≤ x'.2.pos := Nat.le_trans hb hex.2
        rcases List.mem_cons.mp hr with hr | hr
        · subst hr; simp only; omega
        · exact ih x' hinv' hb' hok2 r hr ht
      | err e | done =>
        simp only [List.mem_singleton] at hr
        subst hr
        obtain ⟨t, ht⟩ := ht
        simp at ht

theorem sanitize_accept (len : Nat) : sanitize .accept len = some len := by
  unfold sanitize; split <;> rfl

theorem sanitize_even (o : Odd) (len : Nat) (h : len % 2 = 0) : sanitize o len = some len := by
  unfold sanitize; simp [h]

theorem sanitize_nextEven_odd (len : Nat) (hu : len ≠ undefinedLen) (h : len % 2 = 1) :
    sanitize .nextEven len = some (len + 1) := by
  unfold sanitize; simp [hu, h]

theorem sanitize_fail_odd (len : Nat) (hu : len ≠ undefinedLen) (h : len % 2 = 1) :
    sanitize .fail len = none := by
  unfold sanitize; simp [hu, h]

theorem sanitize_defined {o : Odd} {len len' : Nat} (hu : len ≠ undefinedLen) (h : sanitize o len = some len') :
    len' ≠ undefinedLen := by
  unfold sanitize at h
  split at h
  · rename_i hc
    cases o <;> simp at h
    · omega
    · have := hc.2; simp [undefinedLen] at *; omega
  · simp at h; omega

/-- the reader is between elements: nothing pending, not at sequence level, no header waiting for its
value, not inside a pixel data item -/
structure Between (s : RSt) : Prop where
  hardBreak : s.hardBreak = false
  pending : s.pending = false
  inSeq : s.inSeq = false
  last : s.last = none
  notPixItem : ∀ len b tl, s.stack ≠ ⟨true, len, true, b⟩ :: tl

/-- between elements `next` goes straight to the header branch -/
theorem Between.pre {cfg : Cfg} {be g : Bool} {s : RSt} (hs : Between s) : preHeader cfg be g s = .go s :=
  preHeader_idle hs.pending hs.inSeq hs.last hs.notPixItem

/-- `read_value` on a source that starts with the declared number of value bytes -/
theorem readValue_prefix {cfg : Cfg} {be : Bool} {h : ElemHeader} {s : RSt} {v rest : Bytes} {val : RVal}
    (hu : h.len ≠ undefinedLen) (hsrc : s.src = v ++ rest) (hv : v.length = h.len)
    (hval : if h.len = 0 then val = .empty else decodeVal cfg be h.vr v = .ok val) :
    ∃ sp, readValue cfg be h s = some (val, { s with src := rest, pos := s.pos + h.len, signedPix := sp }) := by
  unfold readValue
  by_cases h0 : h.len = 0
  · obtain rfl : v = [] := List.eq_nil_of_length_eq_zero (hv.trans h0)
    rw [if_pos h0] at hval ⊢
    rw [hval, h0, ← List.nil_append rest, ← hsrc]
    exact ⟨s.signedPix, rfl⟩
  · rw [if_neg h0] at hval
    have htk : takeN h.len s.src = some (v, rest) := by rw [hsrc, ← hv]; exact Dicom.takeN_append v rest
    simp only [h0, hu, if_false, htk, hval]
    exact ⟨_, rfl⟩

/-- with a plain header waiting for its value, `next` reads the value before anything else -/
theorem preHeader_value {cfg : Cfg} {be g : Bool} {s s' : RSt} {h : ElemHeader} {val : RVal}
    (hpd : s.pending = false) (hin : s.inSeq = false) (hp : ∀ len b tl, s.stack ≠ ⟨true, len, true, b⟩ :: tl)
    (hl : s.last = some h) (hu : h.len ≠ undefinedLen) (hr : readValue cfg be h s = some (val, s')) :
    preHeader cfg be g s = .ret (.tok (.primitiveValue val)) { s' with last := none, pending := true } := by
  unfold preHeader preBody
  -- `hp` (in context) sends the match on the delimiter stack to its last arm
  simp only [hpd, hin, hl, hu, hr, Bool.false_eq_true, and_false, if_false]

/-- the VR override of `StatefulDecoder::decode_header` -/
def overridden (cfg : Cfg) (s : RSt) (h : ElemHeader) : ElemHeader :=
  if s.signedPix = some true ∧ cfg.isXs h.tag = true then { h with vr := .SS } else h

theorem overridden_tag (cfg : Cfg) (s : RSt) (h : ElemHeader) : (overridden cfg s h).tag = h.tag := by
  unfold overridden; split <;> rfl

theorem overridden_len (cfg : Cfg) (s : RSt) (h : ElemHeader) : (overridden cfg s h).len = h.len := by
  unfold overridden; split <;> rfl

/-- an element is read whole (any VR, any value strategy, any strategy for odd lengths that yields
`len'`): from a state between elements, with the source starting with a header of declared length
`h.len`, followed by `len'` value bytes `v`, followed by `rest` — the first call of `next` yields the
header token with length `len'`, the second the value token, and afterwards the source is exactly `rest`,
`position` has advanced by header size + `len'`, and the reader is between elements again (with the
delimiter check pending). -/
theorem element_read (cfg : Cfg) (D : Dec σ) (d d' : σ) (s : RSt) (h : ElemHeader) (n len' : Nat)
    (v rest : Bytes) (val : RVal) (f1 f2 : Nat)
    (hs : Between s)
    (hdr : D.header d s.src = (.ok h n (v ++ rest), d'))
    (hsq : (overridden cfg s h).vr ≠ .SQ) (hid : h.tag ≠ Tag.itemDelim) (hund : h.len ≠ undefinedLen)
    (hsan : sanitize cfg.odd h.len = some len') (hv : v.length = len')
    (hval : if len' = 0 then val = .empty else decodeVal cfg D.be (overridden cfg s h).vr v = .ok val) :
    ∃ s1 s2,
      next cfg D (f1 + 1) (d, s) = (.tok (.elementHeader ⟨h.tag, (overridden cfg s h).vr, len'⟩), (d', s1)) ∧
      next cfg D (f2 + 1) (d', s1) = (.tok (.primitiveValue val), (d', s2)) ∧
      s2.src = rest ∧ s2.pos = s.pos + n + len' ∧
      s2.last = none ∧ s2.stack = s.stack ∧ s2.inSeq = false ∧ s2.hardBreak = false ∧ s2.pending = true := by
  have hlen'u : len' ≠ undefinedLen := sanitize_defined hund hsan
  -- first step: the header
  let h1 : ElemHeader := ⟨h.tag, (overridden cfg s h).vr, len'⟩
  let s1 : RSt := { s with src := v ++ rest, pos := s.pos + n, last := some h1 }
  have hstep1 : headerStep cfg (.ok h n (v ++ rest)) s = .ret (.tok (.elementHeader h1)) s1 := by
    simp only [headerStep, ← overridden.eq_1]
    simp only [hsq, if_false, overridden_tag, hid, overridden_len, hund, and_false, hsan]
    rfl
  have hn1 : next cfg D (f1 + 1) (d, s) = (.tok (.elementHeader h1), (d', s1)) := by
    simp only [next_of_go hs.hardBreak hs.pre, hdr, hstep1]
  -- second step: the value
  obtain ⟨sp, hrv⟩ := readValue_prefix (cfg := cfg) (be := D.be) (h := h1) (s := s1) hlen'u rfl hv hval
  refine ⟨s1, { s1 with src := rest, pos := s.pos + n + len', signedPix := sp, last := none, pending := true },
    hn1, ?_, rfl, rfl, rfl, rfl, hs.inSeq, hs.hardBreak, rfl⟩
  unfold next
  have hb1 : s1.hardBreak = false := hs.hardBreak
  simp only [hb1, Bool.false_eq_true, if_false,
    preHeader_value (s := s1) (g := D.itemEofGraceful) hs.pending hs.inSeq hs.notPixItem rfl hlen'u hrv]
  rfl

/-- the default strategy takes exactly the declared number of bytes, odd or
not, for every VR and value strategy, and leaves the source at the byte following them -/
theorem accept_consumes_declared (cfg : Cfg) (D : Dec σ) (d d' : σ) (s : RSt) (h : ElemHeader) (n : Nat)
    (v rest : Bytes) (val : RVal) (f1 f2 : Nat) (hodd : cfg.odd = .accept)
    (hs : Between s) (hdr : D.header d s.src = (.ok h n (v ++ rest), d'))
    (hsq : (overridden cfg s h).vr ≠ .SQ) (hid : h.tag ≠ Tag.itemDelim) (hund : h.len ≠ undefinedLen)
    (hv : v.length = h.len)
    (hval : if h.len = 0 then val = .empty else decodeVal cfg D.be (overridden cfg s h).vr v = .ok val) :
    ∃ s1 s2,
      next cfg D (f1 + 1) (d, s) = (.tok (.elementHeader ⟨h.tag, (overridden cfg s h).vr, h.len⟩), (d', s1)) ∧
      next cfg D (f2 + 1) (d', s1) = (.tok (.primitiveValue val), (d', s2)) ∧
      s2.src = rest ∧ s2.pos = s.pos + n + h.len ∧
      s2.last = none ∧ s2.stack = s.stack ∧ s2.inSeq = false ∧ s2.hardBreak = false ∧ s2.pending = true :=
  element_read cfg D d d' s h n h.len v rest val f1 f2 hs hdr hsq hid hund
    (by rw [hodd]; exact sanitize_accept _) hv hval

/-- the next-even strategy reports the odd declared length plus one and takes
one more byte than declared -/
theorem next_even_plus_one (cfg : Cfg) (D : Dec σ) (d d' : σ) (s : RSt) (h : ElemHeader) (n : Nat)
    (v rest : Bytes) (val : RVal) (f1 f2 : Nat) (hodd : cfg.odd = .nextEven) (ho : h.len % 2 = 1)
    (hs : Between s) (hdr : D.header d s.src = (.ok h n (v ++ rest), d'))
    (hsq : (overridden cfg s h).vr ≠ .SQ) (hid : h.tag ≠ Tag.itemDelim) (hund : h.len ≠ undefinedLen)
    (hv : v.length = h.len + 1)
    (hval : decodeVal cfg D.be (overridden cfg s h).vr v = .ok val) :
    ∃ s1 s2,
      next cfg D (f1 + 1) (d, s) = (.tok (.elementHeader ⟨h.tag, (overridden cfg s h).vr, h.len + 1⟩), (d', s1)) ∧
      next cfg D (f2 + 1) (d', s1) = (.tok (.primitiveValue val), (d', s2)) ∧
      s2.src = rest ∧ s2.pos = s.pos + n + (h.len + 1) ∧
      s2.last = none ∧ s2.stack = s.stack ∧ s2.inSeq = false ∧ s2.hardBreak = false ∧ s2.pending = true :=
  element_read cfg D d d' s h n (h.len + 1) v rest val f1 f2 hs hdr hsq hid hund
    (by rw [hodd]; exact sanitize_nextEven_odd _ hund ho) hv (by simp [hval])

/-- the failing strategy reports an error at an element of odd length (after its header
has been taken: `position` has advanced by the header size) -/
theorem fail_errors (cfg : Cfg) (D : Dec σ) (d d' : σ) (s : RSt) (h : ElemHeader) (n : Nat) (rest : Bytes)
    (f : Nat) (hodd : cfg.odd = .fail) (ho : h.len % 2 = 1) (hund : h.len ≠ undefinedLen)
    (hs : Between s) (hdr : D.header d s.src = (.ok h n rest, d')) (hid : h.tag ≠ Tag.itemDelim) :
    next cfg D (f + 1) (d, s) =
      (.err .invalidElementLength, (d', { s with src := rest, pos := s.pos + n })) := by
  have hsan : sanitize cfg.odd h.len = none := by rw [hodd]; exact sanitize_fail_odd _ hund ho
  have hstep : headerStep cfg (.ok h n rest) s =
      .ret (.err .invalidElementLength) { s with src := rest, pos := s.pos + n } := by
    simp only [headerStep, ← overridden.eq_1]
    by_cases hsq : (overridden cfg s h).vr = .SQ
    · simp only [hsq, if_true, overridden_len, hsan]
    · simp only [hsq, if_false, overridden_tag, hid, overridden_len, hund, and_false, hsan]
  simp only [next_of_go hs.hardBreak hs.pre, hdr, hstep]

/-- odd item lengths: the item start token carries the sanitised length; the failing strategy errors -/
theorem item_length_by_strategy (cfg : Cfg) (be g : Bool) (s : RSt) (len : Nat) (rest : Bytes)
    (top : SeqTok) (tl : List SeqTok) (hst : s.stack = top :: tl)
    (hd : decodeItemHeader be s.src = .ok (.item len, rest)) :
    match sanitize cfg.odd len with
    | some len' => (nextInSeq cfg be g s).1 = .tok (.itemStart len') ∧
        (nextInSeq cfg be g s).2.src = rest ∧ (nextInSeq cfg be g s).2.pos = s.pos + 8
    | none => (nextInSeq cfg be g s).1 = .err .invalidItemLength := by
  unfold nextInSeq
  rw [hd]
  simp only
  cases hsan : sanitize cfg.odd len with
  | none => simp
  | some len' =>
    simp only [hst]
    split <;> simp [RSt.push]

/-- between elements (as after `element_read`, where the source is the byte string
following the declared or evened length), unless an enclosing item or sequence of explicit length ends
right here, the next call decodes an element header from the current source -/
theorem aligned_after (cfg : Cfg) (D : Dec σ) (d : σ) (s : RSt) (f : Nat)
    (hb : s.hardBreak = false) (hin : s.inSeq = false) (hl : s.last = none)
    (hp : ∀ len b tl, s.stack ≠ ⟨true, len, true, b⟩ :: tl)
    (hu : s.pending = true → updateSeqDelimiters s = .none { s with pending := false }) :
    next cfg D (f + 1) (d, s) =
      match headerStep cfg (D.header d s.src).1 { s with pending := false } with
      | .ret o s' => (o, ((D.header d s.src).2, s'))
      | .go s' => next cfg D f ((D.header d s.src).2, s') := by
  have hpre : preHeader cfg D.be D.itemEofGraceful s = .go { s with pending := false } := by
    unfold preHeader
    by_cases hpd : s.pending = true
    · simp only [hpd, if_true, hu hpd]
      exact preBody_idle hin hl hp
    · have : s.pending = false := by simpa using hpd
      simp only [this, Bool.false_eq_true, if_false]
      have e : { s with pending := false } = s := by cases s; simp_all
      rw [e]
      exact preBody_idle hin hl hp
  exact next_of_go hb hpre

theorem position_exact_plain (cfg : Cfg) (ts : Syntax) (dict : Tag → Option VR) (base cap : Nat) (bs : Bytes)
    (hok : ItemReadsOk cfg (plainDec ts dict) cap ((), RSt.init bs base)) :
    ∀ r ∈ readAll cfg (plainDec ts dict) () base cap bs, (∃ t, r.out = .tok t) → r.pos = base + r.consumed :=
  position_exact cfg (plainDec ts dict) (plainDec_exact ts dict) base bs.length cap ((), RSt.init bs base)
    (by simp [RSt.init]) (by simp [RSt.init]) hok

theorem position_exact_adaptive (cfg : Cfg) (dictV : Tag → Option VVr) (base cap : Nat) (bs : Bytes)
    (hok : ItemReadsOk cfg (adaptiveDec dictV) cap (.unknown, RSt.init bs base)) :
    ∀ r ∈ readAll cfg (adaptiveDec dictV) .unknown base cap bs, (∃ t, r.out = .tok t) → r.pos = base + r.consumed :=
  position_exact cfg (adaptiveDec dictV) (adaptiveDec_exact dictV) base bs.length cap (.unknown, RSt.init bs base)
    (by simp [RSt.init]) (by simp [RSt.init]) hok

/-- the VR dispatch shared by the strategies has a value for every VR but SQ -/
theorem binVal_total (be : Bool) (vr : VR) (v : Bytes) (hsq : vr ≠ .SQ) : ∃ val, binVal be vr v = .ok val := by
  cases vr
  all_goals first
    | exact ⟨_, rfl⟩
    | exact absurd rfl hsq

/-- a blank text is `Empty`; any other is up to the text parsers -/
theorem interpVal_total (cfg : Cfg) (vr : VR) (k : IKind) (v : Bytes)
    (hp : (trimTrail v).isEmpty = true ∨ cfg.parseOk vr (trimTrail v) = true) :
    ∃ val, interpVal cfg vr k v = .ok val := by
  unfold interpVal
  dsimp only
  split
  · exact ⟨_, rfl⟩
  · split
    · exact ⟨_, rfl⟩
    · rcases hp with hp | hp <;> contradiction

/-- every VR other than SQ has a value in the preserved and raw strategies, whatever the bytes and their
number (so `element_read` applies to every VR with every odd length) -/
theorem decodeVal_total (cfg : Cfg) (be : Bool) (vr : VR) (v : Bytes) (hsq : vr ≠ .SQ)
    (hm : cfg.mode ≠ .interpreted) : ∃ val, decodeVal cfg be vr v = .ok val := by
  unfold decodeVal
  cases hmode : cfg.mode with
  | interpreted => exact absurd hmode hm
  | raw => exact ⟨_, if_neg hsq⟩
  | preserved => exact binVal_total be vr v hsq

/-- in the interpreted strategy the same holds outside DA/DT/TM/DS/IS; for these five a blank value is
`Empty` and any other value is decided by the text parsers (`Cfg.parseOk`) -/
theorem decodeVal_total_interpreted (cfg : Cfg) (be : Bool) (vr : VR) (v : Bytes) (hsq : vr ≠ .SQ)
    (hm : cfg.mode = .interpreted)
    (hp : (vr = .DA ∨ vr = .DT ∨ vr = .TM ∨ vr = .DS ∨ vr = .IS) →
      (trimTrail v).isEmpty = true ∨ cfg.parseOk vr (trimTrail v) = true) :
    ∃ val, decodeVal cfg be vr v = .ok val := by
  unfold decodeVal
  rw [hm]
  cases vr
  all_goals first
    | exact binVal_total be _ v hsq
    | exact interpVal_total cfg _ _ v (hp (by simp))

def wCfg7 (o : Odd) (m : VMode) : Cfg := { odd := o, mode := m, isXs := fun _ => false, parseOk := fun _ _ => true }

/-- Explicit VR LE: encapsulated Pixel Data, empty offset table, one fragment declared with 4 bytes of which
only 2 are there -/
def wTruncated : Bytes :=
  [0xE0, 0x7F, 0x10, 0x00, 0x4F, 0x42, 0, 0, 0xFF, 0xFF, 0xFF, 0xFF,
   0xFE, 0xFF, 0x00, 0xE0, 0, 0, 0, 0,
   0xFE, 0xFF, 0x00, 0xE0, 4, 0, 0, 0, 0xAA, 0xBB]

/-- The side condition of `position_exact` is needed: `read_to` adds the full declared length to
`position` although the source ended two bytes early — the fragment token is produced with
`position = 32`, `consumed = 30`. -/
theorem truncated_fragment_position :
    (readAll (wCfg7 .accept .preserved) (plainDec .explicitLE fun _ => none) () 0 100 wTruncated).map
        (fun r => (r.out, r.pos, r.consumed)) =
      [(.tok .pixelSequenceStart, 12, 12), (.tok (.itemStart 0), 20, 20), (.tok .itemEnd, 20, 20),
       (.tok (.itemStart 4), 28, 28), (.tok (.itemValue [0xAA, 0xBB]), 32, 30),
       (.tok .itemEnd, 32, 30), (.done, 32, 30)] := by
  decide

/-- Explicit VR LE: (0028,0010) US with declared length 3 (one number and one stray byte), then
(0028,0011) US 2 -/
def wOddUs : Bytes :=
  [0x28, 0x00, 0x10, 0x00, 0x55, 0x53, 3, 0, 0x01, 0x02, 0x03,
   0x28, 0x00, 0x11, 0x00, 0x55, 0x53, 2, 0, 0x04, 0x00]

/-- the repaired reader on the input that showed the defect fixed by bc139e6: the three bytes are consumed, the next element is read
where it starts, positions are exact -/
theorem odd_us_accept :
    (readAll (wCfg7 .accept .preserved) (plainDec .explicitLE fun _ => none) () 0 100 wOddUs).map
        (fun r => (r.out, r.pos, r.consumed)) =
      [(.tok (.elementHeader ⟨⟨0x28, 0x10⟩, .US, 3⟩), 8, 8), (.tok (.primitiveValue (.nums .u16 [0x0201])), 11, 11),
       (.tok (.elementHeader ⟨⟨0x28, 0x11⟩, .US, 2⟩), 19, 19), (.tok (.primitiveValue (.nums .u16 [4])), 21, 21),
       (.done, 21, 21)] := by
  decide

/-- the same bytes under the failing strategy -/
theorem odd_us_fail :
    (readAll (wCfg7 .fail .preserved) (plainDec .explicitLE fun _ => none) () 0 100 wOddUs).map (·.out) =
      [.err .invalidElementLength] := by
  decide

/-- under the next-even strategy the value is one byte longer (here it swallows the first byte of the next
tag: the stream was not written for that strategy) -/
theorem odd_us_next_even :
    ((readAll (wCfg7 .nextEven .preserved) (plainDec .explicitLE fun _ => none) () 0 100 wOddUs).map
        (fun r => (r.out, r.pos, r.consumed))).take 2 =
      [(.tok (.elementHeader ⟨⟨0x28, 0x10⟩, .US, 4⟩), 8, 8),
       (.tok (.primitiveValue (.nums .u16 [0x0201, 0x2803])), 12, 12)] := by
  decide

/-- the initial state is between elements -/
example (bs : Bytes) (base : Nat) : Between (RSt.init bs base) :=
  ⟨rfl, rfl, rfl, rfl, by intro len b tl h; simp [RSt.init] at h⟩

/-- `ItemReadsOk` holds along the whole run of a complete stream (here: `wOddUs`, 5 steps) -/
example : ItemReadsOk (wCfg7 .accept .preserved) (plainDec .explicitLE fun _ => none) 5 ((), RSt.init wOddUs 0) := by
  decide

end Dicom.Rd

namespace Dicom.LP
open Dicom.DC

/-- `P` of the content, if any -/
def OptAll {α : Type} : Option α → (α → Prop) → Prop
  | none, _ => True
  | some a, P => P a

instance {α : Type} (o : Option α) (P : α → Prop) [∀ a, Decidable (P a)] : Decidable (OptAll o P) := by
  cases o <;> simp only [OptAll] <;> infer_instance

/-- the token `advance` announces, if any -/
def announced (s : LState) : Option (LTok × LState) :=
  match s.advance with
  | (some (.ok t), s') => some (t, s')
  | _ => none

/-- the reader once the consumer is done with the announced value, if it succeeds -/
def consumed? (u : Use) (t : LTok) (s' : LState) : Option LState :=
  match consumeTok u t s'.dec with
  | .ok (_, d) => some { s' with dec := d }
  | .error _ => none

/-- along a lazy run, `ValueInside` at every token -/
def ValuesInside (use : Nat → Use) : Nat → Nat → LState → Prop
  | 0, _, _ => True
  | fuel + 1, k, s =>
    OptAll (announced s) fun p =>
      ValueInside (use k) p.1 p.2.dec ∧
        OptAll (consumed? (use k) p.1 p.2) fun s'' => ValuesInside use fuel (k + 1) s''

instance instDecValuesInside (use : Nat → Use) : (fuel k : Nat) → (s : LState) → Decidable (ValuesInside use fuel k s)
  | 0, _, _ => isTrue trivial
  | fuel + 1, k, s =>
    have := fun s'' => instDecValuesInside use fuel (k + 1) s''
    by unfold ValuesInside; exact inferInstance

/-- after every token of the lazy reader, once the consumer has read or skipped
the announced value, `position() = base + bytes consumed` — for every byte string, every consumer policy,
provided the values that go through `io::copy` lie inside the source -/
theorem position_exact_lazy (use : Nat → Use) (base total : Nat) :
    ∀ fuel k s, s.dec.pos + s.dec.rest.length = base + total → base ≤ s.dec.pos →
      ValuesInside use fuel k s →
      ∀ r ∈ lazyRun use total fuel k s, r.pos = base + r.consumed := by
  intro fuel
  induction fuel with
  | zero => intro k s _ _ _ r hr; simp [lazyRun] at hr
  | succ fuel ih =>
    intro k s hinv hb hok r hr
    unfold lazyRun at hr
    unfold ValuesInside announced at hok
    rcases ha : s.advance with ⟨res, s'⟩
    rw [ha] at hr hok
    cases res with
    | none => simp at hr
    | some x =>
      cases x with
      | error e => simp at hr
      | ok t =>
        simp only [OptAll] at hr hok
        obtain ⟨hin, hok2⟩ := hok
        have h1 := advance_exact ha
        unfold consumed? at hok2
        rcases hc : consumeTok (use k) t s'.dec with e | ⟨o, d⟩
        · rw [hc] at hr; simp at hr
        · rw [hc] at hr hok2
          simp only at hr hok2
          have h2 := consume_exact hin hc
          have h12 := h1.trans h2
          rcases List.mem_cons.mp hr with hr | hr
          · subst hr; simp only; have := h12.1; have := h12.2; omega
          · exact ih (k + 1) { s' with dec := d } (by have := h12.1; simp only; omega)
              (Nat.le_trans hb h12.2) hok2 r hr

/-- Explicit VR LE: (0008,0060) CS declaring 4 bytes, 2 present -/
def wShortValue : Bytes := [0x08, 0x00, 0x60, 0x00, 0x43, 0x53, 4, 0, 0x43, 0x54]

/-- `ValuesInside` is needed: a consumer that `skip`s an element value reaching beyond the end of the source
is left with `position = 12` after 10 bytes (same `io::copy` as in `truncated_fragment_position`) -/
theorem skipped_short_value_position :
    (lazyRun (fun _ => .skip) 10 5 0 (LState.new .explicitLE (fun _ => none) wShortValue)).map
        (fun r => (r.pos, r.consumed)) = [(8, 8), (12, 10)] := by
  decide

/-- … while reading the same value is an error, not a token -/
theorem read_short_value_errors :
    (lazyRun (fun _ => .read) 10 5 0 (LState.new .explicitLE (fun _ => none) wShortValue)).map
        (fun r => (r.pos, r.consumed)) = [(8, 8)] := by
  decide

/-- `ValuesInside` holds along the run over a complete stream, values skipped and read alternately -/
example : ValuesInside (fun k => if k % 4 = 1 then .skip else .read) 6 0
    (LState.new .explicitLE (fun _ => none) Dicom.Rd.wOddUs) := by
  decide

end Dicom.LP
