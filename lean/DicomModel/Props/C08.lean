import DicomModel.Lemmas.DsReader
/-
C08 — flexible VR decoding agrees with the correct decoder.

Model: Model/Adaptive.lean (`adaptiveHeader`, state `VrState`, `vrCompat`) under the parametrised reader of
Model/DsReader.lean (`Rd.RSt`); the dictionary is a parameter `dictV : Tag → Option VVr`.

Once locked, the adaptive decoder is the plain one (`locked_*_eq`, whole runs: `run_locked_*`); a data set whose first
element is unambiguous is read as by the implicit decoder (`adaptive_eq_implicit`), one whose first VR code the
dictionary allows as by the explicit decoder (`adaptive_eq_explicit`; `explicit_vr_un_misread`: the real decoder
mis-reads other explicit data, finding `explicit-first-vr-disagrees-dict`). Both are the case `ls = []` of the
`*_strays` theorems, which allow any number of leading stray item delimitation items; `flexible_option_*` say the
same through the reader option (`readWithOptions`).
Caveats made explicit in the statements: runs over the implicit decoder are compared up to `normOut`
(the implicit decoder reports end of input in an item header as a different error kind, so a stream
cut inside a pixel data sequence ends with an error there and gracefully under the adaptive decoder);
`hF`: tags of group FFFE resolve to UN in the dictionary (false only for (FFFE,0000), which is not a
data element of any data set: see `fffe_group_length_differs`).
-/
set_option linter.unusedSimpArgs false
namespace Dicom.Rd

theorem adaptiveShort_eq : Gen.adaptiveShort = Gen.decLeShort := by decide

theorem locked_explicit_eq (dictV : Tag → Option VVr) (dict : Tag → Option VR) (bs : Bytes) :
    adaptiveHeader dictV .explicit bs = (hdrOf bs (decodeHeader .explicitLE dict bs), .explicit) := by
  unfold adaptiveHeader decodeHeader decodeExplicitWith
  rw [← adaptiveShort_eq]
  cases htag : decodeTag false bs with
  | none => simp [hdrOf]
  | some p =>
    obtain ⟨t, r⟩ := p
    have he := hdrOf_none_of_tag htag
    simp only [rd32, rd16, Bool.false_eq_true, if_false]
    by_cases hg : t.group = 0xFFFE
    · simp only [hg, if_true]
      cases rdLe32 r with
      | none => simp [he, hdrOf]
      | some q => simp [hdrOf]
    · simp only [hg, if_false]
      match r with
      | [] => simp [he, hdrOf]
      | [_] => simp [he, hdrOf]
      | a :: b :: r1 =>
        simp only [explicitLength]
        by_cases hs : Gen.adaptiveShort.contains ((VR.fromBinary a b).getD .UN) = true
        · simp only [hs, if_true]
          cases rdLe16 r1 with
          | none => simp [he, hdrOf]
          | some q => simp [hdrOf]
        · simp only [hs]
          match r1 with
          | [] => simp [he, hdrOf]
          | [_] => simp [he, hdrOf]
          | _ :: _ :: r2 =>
            cases h32 : rdLe32 r2 <;> simp [h32, hdrOf]

/-- Once locked to implicit VR, every header decodes exactly as the Implicit VR LE decoder's —
for tags outside the delimiter group FFFE, and inside it whenever the dictionary resolves the tag
to UN (true of the three delimiter tags; (FFFE,0000) is the exception in the standard dictionary) -/
theorem locked_implicit_eq (dictV : Tag → Option VVr) (bs : Bytes)
    (hF : ∀ t : Tag, t.group = 0xFFFE → resolveImplicitVr (relaxedDict dictV) t = .UN) :
    adaptiveHeader dictV .implicit bs =
      (hdrOf bs (decodeHeader .implicitLE (relaxedDict dictV) bs), .implicit) := by
  unfold adaptiveHeader decodeHeader
  cases htag : decodeTag false bs with
  | none => simp [hdrOf]
  | some p =>
    obtain ⟨t, r⟩ := p
    by_cases hg : t.group = 0xFFFE
    · simp only [hg, if_true]
      cases h32 : rdLe32 r <;> simp [h32, hdrOf, hF t hg]
    · simp only [hg, if_false, implicitRest]
      cases h32 : rdLe32 r <;> simp [h32, hdrOf]

/-- the first header is that of a data element (not group FFFE) whose two bytes after the tag spell a
VR that the dictionary entry of the tag allows (or the tag has no entry); with fewer than two bytes after the
tag only the group is checked, and an input too short for a tag passes -/
def explicitFirstOk (dictV : Tag → Option VVr) (bs : Bytes) : Bool :=
  match decodeTag false bs with
  | some (t, a :: b :: _) =>
    t.group ≠ 0xFFFE &&
      (match VR.fromBinary a b with
       | some vr => (match dictV t with | some vvr => vrCompat vr vvr | none => true)
       | none => false)
  | some (t, _) => t.group ≠ 0xFFFE
  | none => true

/-- the first header is that of a data element (not group FFFE) and is unambiguous -/
def implicitFirstOk (dictV : Tag → Option VVr) (bs : Bytes) : Bool :=
  (match decodeTag false bs with
   | some (t, _) => t.group ≠ 0xFFFE
   | none => true) && unambiguous dictV bs

theorem unknown_explicit (dictV : Tag → Option VVr) (bs : Bytes) (h : explicitFirstOk dictV bs = true) :
    (adaptiveHeader dictV .unknown bs).1 = (adaptiveHeader dictV .explicit bs).1 ∧
    ((adaptiveHeader dictV .unknown bs).1.isOk = true → (adaptiveHeader dictV .unknown bs).2 = .explicit) := by
  unfold explicitFirstOk at h
  unfold adaptiveHeader
  cases htag : decodeTag false bs with
  | none => simp [hdrOf_none_not_ok]
  | some p =>
    obtain ⟨t, r⟩ := p
    have he := hdrOf_none_of_tag htag
    rw [htag] at h
    match r, h with
    | [], h => simp at h; simp [h, he, HdrRes.isOk]
    | [_], h => simp at h; simp [h, he, HdrRes.isOk]
    | a :: b :: r1, h =>
      simp only [Bool.and_eq_true, decide_eq_true_eq] at h
      obtain ⟨hg, hv⟩ := h
      simp only [hg, if_false]
      cases hfb : VR.fromBinary a b with
      | none => simp [hfb] at hv
      | some vr =>
        simp only [hfb] at hv
        cases hd : dictV t with
        | none => simp [hd]
        | some vvr => simp only [hd] at hv; simp [hd, hv]

theorem unknown_implicit (dictV : Tag → Option VVr) (bs : Bytes) (h : implicitFirstOk dictV bs = true) :
    (adaptiveHeader dictV .unknown bs).1 = (adaptiveHeader dictV .implicit bs).1 ∧
    ((adaptiveHeader dictV .unknown bs).1.isOk = true → (adaptiveHeader dictV .unknown bs).2 = .implicit) := by
  unfold implicitFirstOk unambiguous at h
  unfold adaptiveHeader
  cases htag : decodeTag false bs with
  | none => simp [hdrOf_none_not_ok]
  | some p =>
    obtain ⟨t, r⟩ := p
    have he := hdrOf_none_of_tag htag
    rw [htag] at h
    simp only [Bool.and_eq_true, decide_eq_true_eq] at h
    obtain ⟨hg, hv⟩ := h
    simp only [hg, if_false]
    match r, hv with
    | [], hv => simp [implicitRest, rdLe32, he, HdrRes.isOk]
    | [_], hv => simp [implicitRest, rdLe32, he, HdrRes.isOk]
    | a :: b :: r1, hv =>
      simp only at hv
      cases hfb : VR.fromBinary a b with
      | none =>
        simp only [hfb, implicitRest]
        cases h32 : rdLe32 (a :: b :: r1) <;> simp [hdrOf_none_not_ok]
      | some vr =>
        simp only [hfb] at hv
        cases hd : dictV t with
        | none => simp [hd] at hv
        | some vvr =>
          simp only [hd] at hv
          simp only [hfb, hd, hv, implicitRest, if_true]
          cases h32 : rdLe32 (a :: b :: r1) <;> simp [hdrOf_none_not_ok]

/-- from any reader state, the reader over the adaptive decoder locked to explicit
VR produces exactly the run of the reader over the Explicit VR LE decoder -/
theorem run_locked_explicit (cfg : Cfg) (dictV : Tag → Option VVr) (dict : Tag → Option VR)
    (total cap : Nat) (s : RSt) :
    run cfg (adaptiveDec dictV) total cap (.explicit, s) =
      run cfg (plainDec .explicitLE dict) total cap ((), s) := by
  have := run_sim cfg (adaptiveDec dictV) (plainDec .explicitLE dict) (· = ·) goodQ_eq
    (fun d1 _ => d1 = .explicit)
    (fun s => StepRel.refl goodQ_eq _)
    (fun d1 d2 bs hR => by
      subst hR
      simp only [adaptiveDec, plainDec]
      rw [locked_explicit_eq dictV dict bs]
      exact ⟨rfl, rfl⟩)
    id (fun _ _ h => by rw [h]) total cap .explicit () s rfl
  simpa [mapOut_id] using this

/-- likewise for the Implicit VR LE decoder; the two runs are equal up to how an
end of input inside an item header is reported at the very end (`normOut`: the adaptive decoder reports
it the way the explicit decoders do, and the reader then ends gracefully inside a pixel data sequence) -/
theorem run_locked_implicit (cfg : Cfg) (dictV : Tag → Option VVr)
    (hF : ∀ t : Tag, t.group = 0xFFFE → resolveImplicitVr (relaxedDict dictV) t = .UN)
    (total cap : Nat) (s : RSt) :
    (run cfg (adaptiveDec dictV) total cap (.implicit, s)).map (mapOut normOut) =
      (run cfg (plainDec .implicitLE (relaxedDict dictV)) total cap ((), s)).map (mapOut normOut) :=
  run_sim cfg (adaptiveDec dictV) (plainDec .implicitLE (relaxedDict dictV)) OutEq goodQ_outEq
    (fun d1 _ => d1 = .implicit)
    (fun s => preHeader_graceful cfg false true false s)
    (fun d1 d2 bs hR => by
      subst hR
      simp only [adaptiveDec, plainDec]
      rw [locked_implicit_eq dictV bs hF]
      exact ⟨rfl, rfl⟩)
    normOut (fun _ _ h => h.norm) total cap .implicit () s rfl

theorem firstOk_group {dictV : Tag → Option VVr} {bs r : Bytes} {t : Tag}
    (h : explicitFirstOk dictV bs = true ∨ implicitFirstOk dictV bs = true)
    (ht : decodeTag false bs = some (t, r)) : t.group ≠ 0xFFFE := by
  rcases h with h | h
  · unfold explicitFirstOk at h
    rw [ht] at h
    split at h
    · rename_i heq; cases heq; simp at h; exact h.1
    · rename_i heq; cases heq; simpa using h
    · rename_i heq; cases heq
  · unfold implicitFirstOk at h
    rw [ht] at h
    simp at h
    exact h.1

theorem nogo_of_firstOk (cfg : Cfg) {dictV : Tag → Option VVr} {bs : Bytes}
    (h : explicitFirstOk dictV bs = true ∨ implicitFirstOk dictV bs = true) (s s' : RSt) :
    headerStep cfg (adaptiveHeader dictV .unknown bs).1 s ≠ .go s' := by
  intro hgo
  obtain ⟨h0, n, rest, hr, htag, _⟩ := headerStep_go hgo
  obtain ⟨r, hdt, _⟩ := adaptiveHeader_ok (Prod.ext hr rfl)
  exact firstOk_group h hdt (by rw [htag]; rfl)

section
variable {σ1 σ2 : Type}

/-- a stray item delimitation item: the tag (FFFE,E00D) and any four length bytes -/
def stray (a b c d : Nat) : Bytes := [0xFE, 0xFF, 0x0D, 0xE0, a, b, c, d]

/-- `k` stray item delimitation items (their length bytes taken from `ls`) in front of `bs` -/
def strays : List (Nat × Nat × Nat × Nat) → Bytes → Bytes
  | [], bs => bs
  | (a, b, c, d) :: ls, bs => stray a b c d ++ strays ls bs

/-- the reader at the top level of a data set, between elements, nothing open -/
structure Fresh (s : RSt) : Prop where
  hardBreak : s.hardBreak = false
  pending : s.pending = false
  inSeq : s.inSeq = false
  last : s.last = none
  stack : s.stack = []

theorem Fresh.pre {cfg : Cfg} {be g : Bool} {s : RSt} (h : Fresh s) : preHeader cfg be g s = .go s :=
  preHeader_idle h.pending h.inSeq h.last (by rw [h.stack]; nofun)

theorem headerStep_stray (cfg : Cfg) (s : RSt) (len : Nat) (rest : Bytes) (h : Fresh s) :
    headerStep cfg (.ok ⟨Tag.itemDelim, .UN, len⟩ 8 rest) s = .go { s with src := rest, pos := s.pos + 8 } := by
  simp only [headerStep]
  -- with or without the VR override, the header is that of an item delimiter and not of a sequence
  generalize hh : (if s.signedPix = some true ∧ cfg.isXs Tag.itemDelim = true
    then ({ tag := Tag.itemDelim, vr := VR.SS, len := len } : ElemHeader) else ⟨Tag.itemDelim, .UN, len⟩) = hd
  have hd2 : hd.vr ≠ .SQ ∧ hd.tag = Tag.itemDelim := by
    rw [← hh]; split <;> exact ⟨nofun, rfl⟩
  rw [if_neg hd2.1, if_pos hd2.2, if_pos (by rw [h.stack]; rfl)]

theorem Fresh.skip {s : RSt} (h : Fresh s) (rest : Bytes) (p : Nat) : Fresh { s with src := rest, pos := p } :=
  ⟨h.hardBreak, h.pending, h.inSeq, h.last, h.stack⟩

/- two decoders that both read a stray item delimitation item as `(FFFE,E00D) UN len` / 8 bytes without
changing state, that agree on the first real header, which is not skipped, and are related after it -/
variable (cfg : Cfg) (D1 : Dec σ1) (D2 : Dec σ2) (d1 : σ1) (d2 : σ2) (R : σ1 → σ2 → Prop) (bs : Bytes)
    (hs1 : ∀ a b c d rest, ∃ len, D1.header d1 (stray a b c d ++ rest) = (.ok ⟨Tag.itemDelim, .UN, len⟩ 8 rest, d1) ∧
      (D2.header d2 (stray a b c d ++ rest)) = (.ok ⟨Tag.itemDelim, .UN, len⟩ 8 rest, d2))
    (hr : (D1.header d1 bs).1 = (D2.header d2 bs).1)
    (hnogo : ∀ s s', Fresh s → headerStep cfg (D1.header d1 bs).1 s ≠ .go s')
    (hR : (D1.header d1 bs).1.isOk = true → R (D1.header d1 bs).2 (D2.header d2 bs).2)
include hs1 hr hnogo hR

/-- lock-step over leading stray delimiters: such decoders make the reader take the same step from any
fresh state whose source is `strays ls bs` -/
theorem next_strays_sim :
    ∀ (ls : List (Nat × Nat × Nat × Nat)) (f : Nat) (s : RSt), Fresh s → s.src = strays ls bs →
      (next cfg D1 f (d1, s)).1 = (next cfg D2 f (d2, s)).1 ∧
      (next cfg D1 f (d1, s)).2.2 = (next cfg D2 f (d2, s)).2.2 ∧
      ((next cfg D1 f (d1, s)).1.isTok = true → R (next cfg D1 f (d1, s)).2.1 (next cfg D2 f (d2, s)).2.1) := by
  intro ls
  induction ls with
  | nil =>
    intro f s hf hsrc
    simp only [strays] at hsrc
    cases f with
    | zero => simp [next, Out.isTok]
    | succ f =>
      simp only [next_of_go hf.hardBreak hf.pre, hsrc]
      rw [← hr]
      cases hstep : headerStep cfg (D1.header d1 bs).1 s with
      | go s' => exact absurd hstep (hnogo s s' hf)
      | ret o s' =>
        simp only
        refine ⟨trivial, trivial, ?_⟩
        intro ht
        cases o with
        | tok t => exact hR (headerStep_tok_isOk hstep)
        | err e => simp [Out.isTok] at ht
        | done => simp [Out.isTok] at ht
  | cons q ls ih =>
    intro f s hf hsrc
    obtain ⟨a, b, c, d⟩ := q
    simp only [strays] at hsrc
    cases f with
    | zero => simp [next, Out.isTok]
    | succ f =>
      obtain ⟨len, h1, h2⟩ := hs1 a b c d (strays ls bs)
      simp only [next_of_go hf.hardBreak hf.pre, hsrc, h1, h2, headerStep_stray cfg s len _ hf]
      exact ih f _ (hf.skip _ _) rfl

theorem run_strays_sim (f : Out → Out) (total : Nat)
    (hrest : ∀ e1 e2 s cap, R e1 e2 →
      (run cfg D1 total cap (e1, s)).map (mapOut f) = (run cfg D2 total cap (e2, s)).map (mapOut f))
    (ls : List (Nat × Nat × Nat × Nat)) (cap : Nat) (s : RSt) (hf : Fresh s) (hsrc : s.src = strays ls bs) :
    (run cfg D1 total cap (d1, s)).map (mapOut f) = (run cfg D2 total cap (d2, s)).map (mapOut f) := by
  cases cap with
  | zero => simp [run]
  | succ cap =>
    have hn := next_strays_sim cfg D1 D2 d1 d2 R bs hs1 hr hnogo hR ls (s.src.length + 1) s hf hsrc
    unfold run
    simp only
    generalize next cfg D1 (s.src.length + 1) (d1, s) = x1 at hn
    generalize next cfg D2 (s.src.length + 1) (d2, s) = x2 at hn
    obtain ⟨o1, e1, s1⟩ := x1
    obtain ⟨o2, e2, s2⟩ := x2
    simp only at hn
    obtain ⟨ho, hs, hRR⟩ := hn
    subst ho; subst hs
    cases o1 with
    | tok t => simp [mapOut, hrest e1 e2 s1 cap (hRR rfl)]
    | err e => simp [mapOut]
    | done => simp [mapOut]

end

theorem stray_adaptive (dictV : Tag → Option VVr) (st : VrState) (a b c d : Nat) (rest : Bytes) :
    adaptiveHeader dictV st (stray a b c d ++ rest) =
      (.ok ⟨Tag.itemDelim, .UN, a + 256 * b + 65536 * c + 16777216 * d⟩ 8 rest, st) := rfl

theorem stray_explicit (dict : Tag → Option VR) (a b c d : Nat) (rest : Bytes) :
    (plainDec .explicitLE dict).header () (stray a b c d ++ rest) =
      (.ok ⟨Tag.itemDelim, .UN, a + 256 * b + 65536 * c + 16777216 * d⟩ 8 rest, ()) := rfl

theorem stray_implicit (dict : Tag → Option VR) (hu : resolveImplicitVr dict Tag.itemDelim = .UN)
    (a b c d : Nat) (rest : Bytes) :
    (plainDec .implicitLE dict).header () (stray a b c d ++ rest) =
      (.ok ⟨Tag.itemDelim, .UN, a + 256 * b + 65536 * c + 16777216 * d⟩ 8 rest, ()) := by
  rw [← hu]; rfl

theorem Fresh.init (bs : Bytes) (base : Nat) : Fresh (RSt.init bs base) := ⟨rfl, rfl, rfl, rfl, rfl⟩

/-- any number of stray item delimitation items (which the
reader skips at the top level, and which leave the adaptive decoder undecided) in front of a data set whose
first element satisfies `explicitFirstOk`: flexible run = explicit run -/
theorem adaptive_eq_explicit_strays (cfg : Cfg) (dictV : Tag → Option VVr) (dict : Tag → Option VR)
    (base cap : Nat) (ls : List (Nat × Nat × Nat × Nat)) (bs : Bytes) (h : explicitFirstOk dictV bs = true) :
    readAll cfg (adaptiveDec dictV) .unknown base cap (strays ls bs) =
      readAll cfg (plainDec .explicitLE dict) () base cap (strays ls bs) := by
  have hu := unknown_explicit dictV bs h
  have := run_strays_sim cfg (adaptiveDec dictV) (plainDec .explicitLE dict) .unknown () (fun e _ => e = .explicit) bs
    (fun a b c d rest => ⟨_, stray_adaptive dictV .unknown a b c d rest, stray_explicit dict a b c d rest⟩)
    (by simp only [adaptiveDec, plainDec]; rw [hu.1, locked_explicit_eq dictV dict bs])
    (fun s s' _ => nogo_of_firstOk cfg (Or.inl h) s s')
    (fun hok => hu.2 hok)
    id (strays ls bs).length
    (fun e1 e2 s cap hR => by
      subst hR
      rw [run_locked_explicit cfg dictV dict _ cap s])
    ls cap (RSt.init (strays ls bs) base) (Fresh.init _ _) rfl
  simpa [readAll, mapOut_id] using this

/-- likewise for `implicitFirstOk` (up to `normOut`) -/
theorem adaptive_eq_implicit_strays (cfg : Cfg) (dictV : Tag → Option VVr)
    (hF : ∀ t : Tag, t.group = 0xFFFE → resolveImplicitVr (relaxedDict dictV) t = .UN)
    (base cap : Nat) (ls : List (Nat × Nat × Nat × Nat)) (bs : Bytes) (h : implicitFirstOk dictV bs = true) :
    (readAll cfg (adaptiveDec dictV) .unknown base cap (strays ls bs)).map (mapOut normOut) =
      (readAll cfg (plainDec .implicitLE (relaxedDict dictV)) () base cap (strays ls bs)).map (mapOut normOut) := by
  have hu := unknown_implicit dictV bs h
  exact run_strays_sim cfg (adaptiveDec dictV) (plainDec .implicitLE (relaxedDict dictV)) .unknown ()
    (fun e _ => e = .implicit) bs
    (fun a b c d rest => ⟨_, stray_adaptive dictV .unknown a b c d rest,
      stray_implicit _ (hF Tag.itemDelim rfl) a b c d rest⟩)
    (by simp only [adaptiveDec, plainDec]; rw [hu.1, locked_implicit_eq dictV bs hF])
    (fun s s' _ => nogo_of_firstOk cfg (Or.inr h) s s')
    (fun hok => hu.2 hok)
    normOut (strays ls bs).length
    (fun e1 e2 s cap hR => by
      subst hR
      exact run_locked_implicit cfg dictV hF _ cap s)
    ls cap (RSt.init (strays ls bs) base) (Fresh.init _ _) rfl

/-- a data set in Explicit VR LE whose first element carries a VR code that the
dictionary entry of its tag allows (or whose tag has no entry) is read, with flexible decoding, exactly
as by the explicit decoder. The hypothesis on the VR code is *needed*: see `explicit_vr_un_misread`. -/
theorem adaptive_eq_explicit (cfg : Cfg) (dictV : Tag → Option VVr) (dict : Tag → Option VR)
    (base cap : Nat) (bs : Bytes) (h : explicitFirstOk dictV bs = true) :
    readAll cfg (adaptiveDec dictV) .unknown base cap bs =
      readAll cfg (plainDec .explicitLE dict) () base cap bs :=
  adaptive_eq_explicit_strays cfg dictV dict base cap [] bs h

/-- a data set in Implicit VR LE whose first element is unambiguous (the statement's
condition) is read, with flexible decoding, as by the implicit decoder (same records, up to `normOut` on
the final one). -/
theorem adaptive_eq_implicit (cfg : Cfg) (dictV : Tag → Option VVr)
    (hF : ∀ t : Tag, t.group = 0xFFFE → resolveImplicitVr (relaxedDict dictV) t = .UN)
    (base cap : Nat) (bs : Bytes) (h : implicitFirstOk dictV bs = true) :
    (readAll cfg (adaptiveDec dictV) .unknown base cap bs).map (mapOut normOut) =
      (readAll cfg (plainDec .implicitLE (relaxedDict dictV)) () base cap bs).map (mapOut normOut) :=
  adaptive_eq_implicit_strays cfg dictV hF base cap [] bs h

/-- a two-entry dictionary: SOP Class UID is UI, Modality is CS -/
def wDict (t : Tag) : Option VVr :=
  if t = ⟨0x0008, 0x0016⟩ then some (.exact .UI) else if t = ⟨0x0008, 0x0060⟩ then some (.exact .CS) else none

def wCfg : Cfg := { odd := .accept, mode := .preserved, isXs := fun _ => false, parseOk := fun _ _ => true }

/-- Explicit VR LE: (0008,0016) written with VR UN (PS3.5 allows UN for any attribute), length 2, "1."
then (0008,0060) CS "CT" -/
def wExplicitUn : Bytes :=
  [0x08, 0x00, 0x16, 0x00, 0x55, 0x4E, 0, 0, 2, 0, 0, 0, 0x31, 0x2E,
   0x08, 0x00, 0x60, 0x00, 0x43, 0x53, 2, 0, 0x43, 0x54]

/-- The extra hypothesis of `adaptive_eq_explicit` is needed: explicit data whose first element's VR
code (here UN) disagrees with the dictionary entry (UI) is locked to implicit VR and mis-read — the
explicit decoder reads two elements, the flexible reader fails on a 20053-byte value. The statement's
ambiguity condition does not exclude this input. -/
theorem explicit_vr_un_misread :
    explicitFirstOk wDict wExplicitUn = false ∧
    (readAll wCfg (plainDec .explicitLE (relaxedDict wDict)) () 0 100 wExplicitUn).map (·.out) =
      [.tok (.elementHeader ⟨⟨0x0008, 0x0016⟩, .UN, 2⟩), .tok (.primitiveValue (.u8 [0x31, 0x2E])),
       .tok (.elementHeader ⟨⟨0x0008, 0x0060⟩, .CS, 2⟩), .tok (.primitiveValue (.strs [[0x43, 0x54]])), .done] ∧
    (readAll wCfg (adaptiveDec wDict) .unknown 0 100 wExplicitUn).map (·.out) =
      [.tok (.elementHeader ⟨⟨0x0008, 0x0016⟩, .UI, 20053⟩), .err .readValue] := by
  decide

/-- Implicit VR LE: (0008,0060) Modality with declared length 0x00005343 — its two low bytes spell "CS",
the dictionary VR of the attribute (stream cut after 4 value bytes) -/
def wImplicitAmbiguous : Bytes := [0x08, 0x00, 0x60, 0x00, 0x43, 0x53, 0, 0, 0x43, 0x54, 0x20, 0x20]

/-- The statement's ambiguity condition is needed: an ambiguous first element of implicit data is
taken for explicit VR. -/
theorem ambiguous_implicit_misread :
    unambiguous wDict wImplicitAmbiguous = false ∧
    (readAll wCfg (plainDec .implicitLE (relaxedDict wDict)) () 0 100 wImplicitAmbiguous).map (·.out) =
      [.tok (.elementHeader ⟨⟨0x0008, 0x0060⟩, .CS, 21315⟩), .err .readValue] ∧
    ((readAll wCfg (adaptiveDec wDict) .unknown 0 100 wImplicitAmbiguous).map (·.out)).head? =
      some (.tok (.elementHeader ⟨⟨0x0008, 0x0060⟩, .CS, 0⟩)) := by
  decide

/-- `hF` cannot be dropped from `locked_implicit_eq`: the standard dictionary answers (FFFE,0000) with its
generic group length entry (UL), the adaptive decoder says UN for every tag of group FFFE -/
theorem fffe_group_length_differs :
    let d : Tag → Option VVr := fun t => if t.elem = 0 then some (.exact .UL) else none
    let bs : Bytes := [0xFE, 0xFF, 0x00, 0x00, 4, 0, 0, 0]
    (adaptiveHeader d .implicit bs).1 = .ok ⟨⟨0xFFFE, 0⟩, .UN, 4⟩ 8 [] ∧
    hdrOf bs (decodeHeader .implicitLE (relaxedDict d) bs) = .ok ⟨⟨0xFFFE, 0⟩, .UL, 4⟩ 8 [] := by
  decide

/-- the extracted table is the one the statement's reading assumes: an exact dictionary VR is compatible
with itself only, `Xs` with US/SS, `Ox` and `Px` with OB/OW, `Lt` with US/OW (re-checked against the source
on every run: a changed arm of `vr_compatible_with_virtual` changes `Gen/VrCompat.lean`) -/
theorem vrCompat_table (p : VR) :
    (∀ vr, vrCompat p (.exact vr) = decide (p = vr)) ∧
    vrCompat p .xs = decide (p = .US ∨ p = .SS) ∧
    vrCompat p .ox = decide (p = .OB ∨ p = .OW) ∧
    vrCompat p .px = decide (p = .OB ∨ p = .OW) ∧
    vrCompat p .lt = decide (p = .US ∨ p = .OW) := by
  refine ⟨fun vr => ?_, ?_, ?_, ?_, ?_⟩
  · -- the `Exact` arm compares the entry's VR with the probed one
    have : (vr == p) = decide (p = vr) :=
      Bool.eq_iff_iff.mpr (by rw [beq_iff_eq, decide_eq_true_iff]; exact eq_comm)
    simpa [vrCompat, compatRule, Gen.compatExact] using this
  · simp [vrCompat, compatRule, Gen.compatXs]
  · simp [vrCompat, compatRule, Gen.compatOx]
  · simp [vrCompat, compatRule, Gen.compatPx]
  · simp [vrCompat, compatRule, Gen.compatLt]

/-- the VR that the Implicit VR decoder takes from a dictionary entry is always compatible with it:
explicit data written with the dictionary's VRs satisfies `explicitFirstOk` -/
theorem vrCompat_relaxed (v : VVr) : vrCompat v.relaxed v = true := by
  cases v with
  | exact vr => exact ((vrCompat_table vr).1 vr).trans (decide_eq_true rfl)
  | _ => decide

/-- flexible decoding, data in Explicit VR LE (whatever little-endian syntax is declared) -/
theorem flexible_option_explicit (cfg : Cfg) (dictV : Tag → Option VVr) (declared : Syntax)
    (hd : declared.bigEndian = false) (cap : Nat) (bs : Bytes) (h : explicitFirstOk dictV bs = true) :
    readWithOptions cfg dictV declared true cap bs = readWithOptions cfg dictV .explicitLE false cap bs := by
  simp only [readWithOptions, hd, and_self, if_true]
  simp only [Syntax.bigEndian, Bool.false_eq_true, and_false, if_false]
  exact adaptive_eq_explicit cfg dictV _ 0 cap bs h

/-- flexible decoding, data in Implicit VR LE -/
theorem flexible_option_implicit (cfg : Cfg) (dictV : Tag → Option VVr) (declared : Syntax)
    (hd : declared.bigEndian = false)
    (hF : ∀ t : Tag, t.group = 0xFFFE → resolveImplicitVr (relaxedDict dictV) t = .UN)
    (cap : Nat) (bs : Bytes) (h : implicitFirstOk dictV bs = true) :
    (readWithOptions cfg dictV declared true cap bs).map (mapOut normOut) =
      (readWithOptions cfg dictV .implicitLE false cap bs).map (mapOut normOut) := by
  simp only [readWithOptions, hd, and_self, if_true]
  simp only [Syntax.bigEndian, Bool.false_eq_true, and_false, if_false]
  exact adaptive_eq_implicit cfg dictV hF 0 cap bs h

/-- the option has no effect on a big-endian syntax -/
theorem flexible_option_big_endian (cfg : Cfg) (dictV : Tag → Option VVr) (cap : Nat) (bs : Bytes) :
    readWithOptions cfg dictV .explicitBE true cap bs = readWithOptions cfg dictV .explicitBE false cap bs := by
  simp [readWithOptions, Syntax.bigEndian]

/-- explicit data starting with (0008,0060) CS "CT": allowed by the dictionary -/
example : explicitFirstOk wDict [0x08, 0x00, 0x60, 0x00, 0x43, 0x53, 2, 0, 0x43, 0x54] = true := by decide
/-- explicit data starting with a tag unknown to the dictionary -/
example : explicitFirstOk wDict [0x09, 0x00, 0x01, 0x10, 0x55, 0x4E, 0, 0, 0, 0, 0, 0] = true := by decide
/-- implicit data starting with (0008,0060), length 2: the bytes 02 00 spell no VR -/
example : implicitFirstOk wDict [0x08, 0x00, 0x60, 0x00, 2, 0, 0, 0, 0x43, 0x54] = true := by decide
/-- implicit data starting with (0008,0060), length 0x4E55 ("UN"): a VR code, but not CS → unambiguous -/
example : implicitFirstOk wDict [0x08, 0x00, 0x60, 0x00, 0x55, 0x4E, 0, 0] = true := by decide
/-- `hF` holds of a dictionary without entries in group FFFE -/
example : ∀ t : Tag, t.group = 0xFFFE → resolveImplicitVr (relaxedDict wDict) t = .UN := by
  intro t ht
  have h1 : t ≠ ⟨0x7FE0, 0x0010⟩ := by intro h; rw [h] at ht; simp at ht
  have h2 : ¬ (t.group / 256 = 0x60 ∧ t.elem = 0x3000) := by rw [ht]; simp
  have h3 : wDict t = none := by
    unfold wDict
    have a : t ≠ ⟨0x0008, 0x0016⟩ := by intro h; rw [h] at ht; simp at ht
    have b : t ≠ ⟨0x0008, 0x0060⟩ := by intro h; rw [h] at ht; simp at ht
    simp [a, b]
  simp [resolveImplicitVr, h1, h2, relaxedDict, h3]

/-- two stray delimiters (one with a non-zero length field) in front of explicit data: the model's runs
agree, as `adaptive_eq_explicit_strays` says -/
example :
    readAll wCfg (adaptiveDec wDict) .unknown 0 100
        (strays [(0, 0, 0, 0), (7, 0, 0, 0)] [0x08, 0x00, 0x60, 0x00, 0x43, 0x53, 2, 0, 0x43, 0x54]) =
      readAll wCfg (plainDec .explicitLE (relaxedDict wDict)) () 0 100
        (strays [(0, 0, 0, 0), (7, 0, 0, 0)] [0x08, 0x00, 0x60, 0x00, 0x43, 0x53, 2, 0, 0x43, 0x54]) :=
  adaptive_eq_explicit_strays wCfg wDict _ 0 100 _ _ (by decide)

end Dicom.Rd
