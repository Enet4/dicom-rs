import DicomModel.Model.Meta
import DicomModel.Lemmas.Bytes
import DicomModel.Lemmas.Header
/-
C09 — file meta group integrity and preamble handling.

`Inv t`: the recorded group length is what `calculate_information_group_length` gives. The written
group has exactly that length and reads back (up to padding); every attribute operation keeps `Inv`,
and a failing one changes nothing; the 128-byte preamble makes no difference to what is read.
-/
namespace Dicom.Meta

def Inv (t : Table) : Prop := t.igl = calcLen t
instance (t : Table) : Decidable (Inv t) := by unfold Inv; infer_instance

theorem evenLen_small {n : Nat} (h : n + 1 < U32) : evenLen n = (n + 1) / 2 * 2 := by
  simp only [evenLen, U32] at *; omega

theorem padded_length (p : Nat) (s : Bytes) : (padded p s).length = (s.length + 1) / 2 * 2 := by
  unfold padded; split
  · simp; omega
  · omega

theorem padded_even (p : Nat) (s : Bytes) : (padded p s).length % 2 = 0 := by
  rw [padded_length]; omega

theorem padded_of_even (p : Nat) (s : Bytes) (h : s.length % 2 = 0) : padded p s = s := by
  unfold padded; split
  · omega
  · rfl

theorem padded_idem (p q : Nat) (s : Bytes) : padded q (padded p s) = padded p s :=
  padded_of_even _ _ (padded_even p s)

def hdrSize (vr : VR) : Nat := if Gen.encLeShort.contains vr then 8 else 12

theorem hdrSize_OB : hdrSize .OB = 12 := rfl

theorem dec_enc_short : Gen.decLeShort = Gen.encLeShort := by decide

/-- the length field of the header is the length of the padded value -/
theorem hdrLen_evened (x : MElem) (hs : x.raw.length < 2147483648) :
    (if x.hdrLen = undefinedLen then x.hdrLen else evenLen x.hdrLen) = x.body.length := by
  have hbl : x.body.length = (x.raw.length + 1) / 2 * 2 := padded_length _ _
  -- either way `hdrLen` is a number `n` with `(n + 1) / 2 * 2 = x.body.length`, far below 2^32
  -- (2147483650 = 2^31 + 2 bounds a padded value below 2 GiB)
  have key : ∀ n, n < 2147483650 → (n + 1) / 2 * 2 = x.body.length →
      (if n % U32 = undefinedLen then n % U32 else evenLen (n % U32)) = x.body.length := by
    intro n hn he
    rw [Nat.mod_eq_of_lt (by simp only [U32]; omega), if_neg (by simp only [undefinedLen]; omega), ← he]
    simp only [evenLen, U32]; omega
  unfold MElem.hdrLen
  split
  · exact key _ (by omega) hbl.symm
  · exact key _ (by omega) (by omega)

/-- shape of one written element: a header of 8 or 12 bytes that decodes to the padded value length,
followed by the padded value -/
theorem encElem_shape (x : MElem) (he : x.e < 65536) (hs : x.raw.length < 2147483648)
    (bs : Bytes) (h : encElem x = .ok bs) :
    ∃ hd, bs = hd ++ x.body ∧ hd.length = hdrSize x.vr ∧
      (Gen.encLeShort.contains x.vr = true → x.body.length < 65536) ∧
      ∀ r, decodeHeader .explicitLE noDict (hd ++ r) = some (⟨⟨2, x.e⟩, x.vr, x.body.length⟩, hdrSize x.vr, r) := by
  unfold encElem header at h
  rw [hdrLen_evened x hs] at h
  have hbl : x.body.length < 4294967296 := by
    have : x.body.length = (x.raw.length + 1) / 2 * 2 := padded_length _ _
    omega
  split at h
  · rename_i hd hh
    injection h with h
    split at hh
    · rename_i hb n henc
      injection hh with hh
      subst hh
      have hdec := fun r => decodeExplicitWith_encode Gen.encLeShort false
        ⟨tagOf x.e, x.vr, x.body.length⟩ ⟨by simp [tagOf], by simpa [tagOf] using he⟩ (by simp [tagOf])
        hbl r hb n henc
      have hn : n = hdrSize x.vr ∧ (Gen.encLeShort.contains x.vr = true → x.body.length < 65536) := by
        unfold hdrSize
        rcases encodeExplicitWith_ok henc with ⟨hc, hl, rfl, _⟩ | ⟨hc, rfl, _⟩
        · exact ⟨by rw [if_pos (List.contains_iff_mem.mpr hc)], fun _ => Nat.lt_succ_of_le hl⟩
        · exact ⟨by rw [if_neg (mt List.contains_iff_mem.mp hc)], fun h => absurd (List.contains_iff_mem.mp h) hc⟩
      refine ⟨hb, h.symm, ?_, hn.2, ?_⟩
      · rw [← (hdec []).2]; exact hn.1
      · intro r
        simp only [decodeHeader, dec_enc_short]
        rw [(hdec r).1, hn.1]; rfl
    · cases hh
  · cases h

/-! ### the whole group -/

/-- what `calculate_information_group_length` counts for an element -/
def dsize (x : MElem) : Nat := hdrSize x.vr + evenLen x.raw.length

/-- what writer and reader need of an element (the reader insists on two bytes for the version) -/
def ElemOk (x : MElem) : Prop :=
  x.e < 65536 ∧ x.raw.length < 2147483648 ∧ (x.e = 1 → x.body.length = 2)

theorem dsize_eq (x : MElem) (h : x.raw.length < 2147483648) :
    dsize x = hdrSize x.vr + x.body.length := by
  rw [dsize, MElem.body, padded_length, evenLen_small (by simp only [U32]; omega)]

theorem encAll_cons_ok {x : MElem} {xs : List MElem} {bs : Bytes} (h : encAll (x :: xs) = .ok bs) :
    ∃ b bs', encElem x = .ok b ∧ encAll xs = .ok bs' ∧ bs = b ++ bs' := by
  simp only [encAll] at h
  split at h
  · cases h
  · split at h
    · cases h
    · injection h with h
      exact ⟨_, _, by assumption, by assumption, h.symm⟩

theorem encAll_facts (xs : List MElem) (hx : ∀ x ∈ xs, ElemOk x) (bs : Bytes) (h : encAll xs = .ok bs) :
    bs.length = (xs.map dsize).sum ∧
      ∀ x ∈ xs, Gen.encLeShort.contains x.vr = true → dsize x < 8 + 65536 := by
  induction xs generalizing bs with
  | nil => cases h; exact ⟨rfl, nofun⟩
  | cons x xs ih =>
    obtain ⟨b, bs', hb, hbs, rfl⟩ := encAll_cons_ok h
    obtain ⟨hx1, hxs⟩ := List.forall_mem_cons.mp hx
    obtain ⟨hd, h1, h2, h3, _⟩ := encElem_shape x hx1.1 hx1.2.1 b hb
    obtain ⟨i1, i2⟩ := ih hxs bs' hbs
    have hs : hd.length + x.body.length = dsize x := by rw [h2, dsize_eq x hx1.2.1]
    constructor
    · rw [List.map_cons, List.sum_cons, List.length_append, i1, h1, List.length_append, hs]
    · refine List.forall_mem_cons.mpr ⟨fun hc => ?_, i2⟩
      have := h3 hc
      rw [← hs, h2, hdrSize, if_pos hc]; omega

theorem forall_mem_optElem {p : MElem → Prop} (e : Nat) (vr : VR) (o : Option Bytes) :
    (∀ x ∈ optElem e vr o, p x) ↔ ∀ s ∈ o, p ⟨e, vr, s⟩ := by
  cases o <;> simp [optElem]

theorem forall_elems {p : MElem → Prop} {t : Table} : (∀ x ∈ elems t, p x) ↔
    p ⟨1, .OB, [t.ver.1, t.ver.2]⟩ ∧ p ⟨2, .UI, t.cls⟩ ∧ p ⟨3, .UI, t.inst⟩ ∧ p ⟨0x10, .UI, t.ts⟩ ∧
    p ⟨0x12, .UI, t.impl⟩ ∧ (∀ s ∈ t.ivn, p ⟨0x13, .SH, s⟩) ∧ (∀ s ∈ t.src, p ⟨0x16, .AE, s⟩) ∧
    (∀ s ∈ t.snd, p ⟨0x17, .AE, s⟩) ∧ (∀ s ∈ t.rcv, p ⟨0x18, .AE, s⟩) ∧
    (∀ s ∈ t.pic, p ⟨0x100, .UI, s⟩) ∧ (∀ s ∈ t.priv, p ⟨0x102, .OB, s⟩) := by
  simp only [elems, List.forall_mem_append, List.forall_mem_cons, forall_mem_optElem, and_assoc,
    List.not_mem_nil, false_imp_iff, implies_true, and_true]

/-- every value of the table is shorter than 2 GiB (the strings of a table the writer accepts are
shorter than 2^16 anyway; this bounds the private information) -/
def Small (t : Table) : Prop := ∀ x ∈ elems t, x.raw.length < 2147483648

theorem elems_ok (t : Table) (hs : Small t) : ∀ x ∈ elems t, ElemOk x := by
  have he : ∀ x ∈ elems t, x.e < 65536 ∧ (x.e = 1 → x.body.length = 2) := by
    simp [forall_elems, MElem.body, padded]
  exact fun x hx => ⟨(he x hx).1, hs x hx, (he x hx).2⟩

theorem dsize_lt (x : MElem) (h : x.raw.length < 2147483648) : dsize x < 12 + 2147483650 := by
  rw [dsize, evenLen_small (by simp only [U32]; omega)]
  unfold hdrSize
  split <;> omega

theorem dsize_ver (a b : Nat) : dsize ⟨1, .OB, [a, b]⟩ = 14 := by
  simp [dsize, hdrSize_OB, evenLen, U32]

theorem calcLen_eq_sum (t : Table) : calcLen t = ((elems t).map dsize).sum % U32 := by
  have ho : ∀ e vr o, hdrSize vr = 8 → ((optElem e vr o).map dsize).sum = optLen o := by
    intro e vr o h; cases o <;> simp [optElem, optLen, dsize, dicomLen, h]
  have hp : ∀ o, ((optElem 0x102 .OB o).map dsize).sum = privLen o := by
    intro o; cases o <;> simp [optElem, privLen, dsize, hdrSize_OB]
  have ht : ∀ e s, dsize ⟨e, .UI, s⟩ = 8 + dicomLen s := fun _ _ => rfl
  simp only [elems, List.map_append, List.sum_append, List.map_cons, List.sum_cons, List.map_nil,
    List.sum_nil, ho _ .SH _ rfl, ho _ .AE _ rfl, ho _ .UI _ rfl, hp, ht, dsize_ver, calcLen]
  congr 1
  omega

/-- For a table the writer accepts, the elements after the group length element take exactly
`calculate_information_group_length` bytes. -/
theorem body_length_exact (t : Table) (hs : Small t) (bs : Bytes) (h : encodeBody t = .ok bs) :
    bs.length = calcLen t := by
  obtain ⟨h1, h2⟩ := encAll_facts (elems t) (elems_ok t hs) bs h
  rw [h1, calcLen_eq_sum, Nat.mod_eq_of_lt]
  -- the sum stays below 2^32: nine text values < 2^16 (the writer accepted them), the version,
  -- and the private information < 2^31
  have ho : ∀ e vr o c, 0 < c → (∀ s ∈ o, dsize ⟨e, vr, s⟩ < c) →
      ((optElem e vr o).map dsize).sum < c := by
    intro e vr o c hc h; cases o with
    | none => simpa [optElem] using hc
    | some s => simpa [optElem] using h s rfl
  obtain ⟨_, c1, c2, c3, c4, o1, o2, o3, o4, o5, _⟩ := forall_elems.mp h2
  obtain ⟨_, _, _, _, _, _, _, _, _, _, p⟩ := forall_elems.mp fun x hx => dsize_lt x (hs x hx)
  have := c1 rfl; have := c2 rfl; have := c3 rfl; have := c4 rfl
  have := ho _ _ _ (8 + 65536) (by omega) fun s hs => o1 s hs rfl
  have := ho _ _ _ (8 + 65536) (by omega) fun s hs => o2 s hs rfl
  have := ho _ _ _ (8 + 65536) (by omega) fun s hs => o3 s hs rfl
  have := ho _ _ _ (8 + 65536) (by omega) fun s hs => o4 s hs rfl
  have := ho _ _ _ (8 + 65536) (by omega) fun s hs => o5 s hs rfl
  have := ho _ _ _ _ (by omega) p
  simp only [elems, List.map_append, List.sum_append, List.map_cons, List.sum_cons, List.map_nil,
    List.sum_nil, dsize_ver, U32]
  omega

theorem header_gl : header 0 .UL 4 = .ok [2, 0, 0, 0, 0x55, 0x4C, 4, 0] := by rfl

theorem glElem_bytes (t : Table) :
    encElem (glElem t) = .ok ([2, 0, 0, 0, 0x55, 0x4C, 4, 0] ++ le32 t.igl) := by
  have h1 : (glElem t).hdrLen = 4 := by simp [glElem, MElem.hdrLen, U32]
  have h2 : (glElem t).body = le32 t.igl := by simp [glElem, MElem.body, padded]
  simp only [encElem, h1, h2]
  show (match header 0 .UL 4 with | .ok h => Except.ok (h ++ le32 t.igl) | .error e => .error e) = _
  rw [header_gl]

theorem group_length_exact (t : Table) (hs : Small t) (bs : Bytes)
    (h : encodeMeta t = .ok bs) :
    ∃ body, bs = [2, 0, 0, 0, 0x55, 0x4C, 4, 0] ++ le32 t.igl ++ body ∧ encodeBody t = .ok body ∧
      body.length = calcLen t ∧ bs.length = 12 + calcLen t := by
  obtain ⟨b, body, hb, hbody, rfl⟩ := encAll_cons_ok h
  cases (glElem_bytes t).symm.trans hb
  have := body_length_exact t hs body hbody
  exact ⟨body, rfl, hbody, this, by simp [this]; omega⟩

/-- **The written group is self-consistent**: the value recorded in (0002,0000) is the number of
bytes that follow that element, for every table satisfying the invariant. -/
theorem written_self_consistent (t : Table) (hi : Inv t) (hs : Small t) (bs : Bytes)
    (h : encodeMeta t = .ok bs) :
    ∃ body, bs = [2, 0, 0, 0, 0x55, 0x4C, 4, 0] ++ le32 t.igl ++ body ∧ body.length = t.igl := by
  obtain ⟨body, h1, _, h3, _⟩ := group_length_exact t hs bs h
  exact ⟨body, h1, by rw [h3, hi]⟩

/-! ### attribute operations keep the invariant -/

theorem calcLen_update (t : Table) : calcLen (update t) = calcLen t := rfl

theorem update_inv (t : Table) : Inv (update t) := by
  simp only [Inv, calcLen_update]; rfl

theorem applyRequired_failed (a : Action) (s : Bytes) (h : (applyRequired a s).2 ≠ none) :
    (applyRequired a s).1 = s := by
  cases a <;> simp_all [applyRequired] <;> (split <;> simp_all)

theorem applyOptional_failed (a : Action) (o : Option Bytes) (h : (applyOptional a o).2 ≠ none) :
    (applyOptional a o).1 = o := by
  cases a <;> simp_all [applyOptional] <;> (repeat' split) <;> simp_all

theorem set_ts (t : Table) : { t with ts := t.ts } = t := rfl

/-- what the branches of `apply` have in common -/
inductive Step (t : Table) : Table × Option AErr → Prop
  | unsupported : Step t (t, some .unsupportedAttribute)
  | finish (t' : Table) (r : Option AErr) (h : r ≠ none → t' = t) : Step t (finish (t', r))

theorem Step.ite {t : Table} {c : Prop} [Decidable c] {p q : Table × Option AErr}
    (hp : Step t p) (hq : Step t q) : Step t (if c then p else q) := by
  split
  · exact hp
  · exact hq

theorem apply_step (t : Table) (s : Sel) (a : Action) : Step t (apply t s a) := by
  cases s with
  | nested => exact .unsupported
  | tag tg =>
    -- one goal per branch of the `if` chain, in the order of the definition: four required UIDs,
    -- five optional strings, the tags on which remove/empty/truncate do nothing, any other tag
    repeat' apply Step.ite
    iterate 4 exact .finish _ _ fun h => by rw [applyRequired_failed a _ h]
    iterate 5 exact .finish _ _ fun h => by rw [applyOptional_failed a _ h]
    · exact .finish _ _ fun h => absurd rfl h
    · exact .unsupported

theorem Step.err {t : Table} {p : Table × Option AErr} (hp : Step t p) (e : AErr)
    (h : p.2 = some e) : p.1 = t := by
  cases hp with
  | unsupported => rfl
  | finish t' r hr =>
    cases r with
    | none => cases h
    | some e' => exact hr nofun

theorem Step.ok {t : Table} {p : Table × Option AErr} (hp : Step t p) (h : p.2 = none) :
    Inv p.1 := by
  cases hp with
  | unsupported => cases h
  | finish t' r hr =>
    cases r with
    | none => exact update_inv t'
    | some e => cases h

/-- a failing operation leaves the table as it was (no partial update) -/
theorem apply_err_unchanged (t : Table) (s : Sel) (a : Action) (e : AErr) :
    (apply t s a).2 = some e → (apply t s a).1 = t :=
  (apply_step t s a).err e

/-- a successful operation ends with `update_information_group_length` -/
theorem apply_ok_inv (t : Table) (s : Sel) (a : Action) :
    (apply t s a).2 = none → Inv (apply t s a).1 :=
  (apply_step t s a).ok

/-- **Every operation preserves the invariant** (recorded group length = computed one) -/
theorem ops_preserve (t : Table) (hi : Inv t) (s : Sel) (a : Action) : Inv (apply t s a).1 := by
  cases h : (apply t s a).2 with
  | none => exact apply_ok_inv t s a h
  | some e => rw [apply_err_unchanged t s a e h]; exact hi

/-- … hence after any history of operations -/
theorem history_preserves (t : Table) (hi : Inv t) (ops : List (Sel × Action)) :
    Inv (applyAll t ops) := by
  induction ops generalizing t with
  | nil => exact hi
  | cons op ops ih => exact ih _ (ops_preserve t hi op.1 op.2)

/-- tables made by the builder (and therefore by the reader) satisfy the invariant -/
theorem build_inv (d : Defaults) (b : Builder) (t : Table) (h : b.build d = some t) : Inv t := by
  unfold Builder.build at h
  split at h
  · cases h
  · injection h with h; rw [← h]; exact update_inv _

/-! ### reading the written group back -/

def setB (b : Builder) (x : MElem) : Builder :=
  if x.e = 1 then { b with ver := some (x.body.getD 0 0, x.body.getD 1 0) } else setField b x.e x.body

theorem loop_step (x : MElem) (hx : ElemOk x) (bs : Bytes)
    (henc : encElem x = .ok bs) (f total gl : Nat) (b : Builder) (r : Bytes)
    (hle : total + bs.length ≤ gl) (hgl : gl < U32) :
    0 < bs.length ∧
      loop (f + 1) total gl b (bs ++ r) = loop f (total + bs.length) gl (setB b x) r := by
  obtain ⟨hd, e1, e2, _, e4⟩ := encElem_shape x hx.1 hx.2.1 bs henc
  have hev : x.body.length % 2 = 0 := padded_even _ _
  have hdec := e4 (x.body ++ r)
  have hbs : bs ++ r = hd ++ (x.body ++ r) := by rw [e1, List.append_assoc]
  have hlen : bs.length = hdrSize x.vr + x.body.length := by rw [e1, List.length_append, e2]
  have hund : x.body.length ≠ undefinedLen := by simp only [undefinedLen]; omega
  have htag : ((⟨2, x.e⟩ : Tag) = ⟨2, 1⟩) ↔ x.e = 1 := by simp
  have hh : 8 ≤ hdrSize x.vr ∧ hdrSize x.vr ≤ 12 := by unfold hdrSize; split <;> omega
  have hsat : satAdd (satAdd total (hdrSize x.vr)) x.body.length = total + bs.length := by
    unfold satAdd
    have a1 : total + hdrSize x.vr < U32 := by omega
    rw [if_pos a1, if_pos (by omega)]; omega
  refine ⟨by omega, ?_⟩
  rw [loop, if_pos (by omega), hbs, hdec]
  simp only [hund, if_false, htag, takeN_append, hsat]
  by_cases he : x.e = 1
  · simp [he, hx.2.2 he, setB]
  · simp [he, setB]

theorem loop_elems (xs : List MElem) (hx : ∀ x ∈ xs, ElemOk x) (bs : Bytes) (henc : encAll xs = .ok bs)
    (fuel total gl : Nat) (b : Builder) (r : Bytes) (hf : bs.length ≤ fuel)
    (hle : total + bs.length = gl) (hgl : gl < U32) :
    loop (fuel + 1) total gl b (bs ++ r) = .ok (xs.foldl setB b, r) := by
  induction xs generalizing bs fuel total b with
  | nil =>
    cases henc
    obtain rfl : total = gl := hle
    rw [loop, if_neg (Nat.lt_irrefl _)]; rfl
  | cons x xs ih =>
    obtain ⟨b1, bs', hb1, hbs', rfl⟩ := encAll_cons_ok henc
    obtain ⟨hx1, hxs⟩ := List.forall_mem_cons.mp hx
    rw [List.length_append] at hle hf
    have hstep := fun f => loop_step x hx1 b1 hb1 f total gl b (bs' ++ r) (by omega) hgl
    -- every element takes at least one byte, so one unit of fuel per byte is enough
    have hpos := (hstep 0).1
    cases fuel with
    | zero => omega
    | succ f =>
      rw [List.append_assoc, (hstep (f + 1)).2,
        ih hxs bs' hbs' f (total + b1.length) (setB b x) (by omega) (by omega)]
      rfl

/-- the table with its strings padded the way the builder setters (`ui_padded`, `txt_padded`) do -/
def padTable (t : Table) : Table :=
  { t with cls := uiPadded t.cls, inst := uiPadded t.inst, ts := uiPadded t.ts, impl := uiPadded t.impl,
           ivn := t.ivn.map txtPadded, src := t.src.map txtPadded, snd := t.snd.map txtPadded,
           rcv := t.rcv.map txtPadded, pic := t.pic.map uiPadded, priv := t.priv.map (padded 0) }

theorem padded_pair (p a b : Nat) : padded p [a, b] = [a, b] := by simp [padded]

/-- `set` is the setter of the element's own field, which was `none` until then -/
theorem fold_opt (e : Nat) (vr : VR) (set : Builder → Option Bytes → Builder)
    (hset : ∀ b s, setB b ⟨e, vr, s⟩ = set b (some (padded (padByte vr) s))) (o : Option Bytes)
    (b : Builder) (hb : set b none = b) :
    (optElem e vr o).foldl setB b = set b (o.map (padded (padByte vr))) := by
  cases o with
  | none => exact hb.symm
  | some s => exact hset b s

/-- the builder state after the reader has consumed all elements of a written table -/
theorem fold_elems (t : Table) (g : Option Nat) :
    (elems t).foldl setB { gl := g } =
      { gl := g, ver := some t.ver, cls := some (uiPadded t.cls), inst := some (uiPadded t.inst),
        ts := some (uiPadded t.ts), impl := some (uiPadded t.impl), ivn := t.ivn.map txtPadded,
        src := t.src.map txtPadded, snd := t.snd.map txtPadded, rcv := t.rcv.map txtPadded,
        pic := t.pic.map uiPadded, priv := t.priv.map (padded 0) } := by
  simp only [elems, List.foldl_append]
  rw [fold_opt 0x13 .SH (fun b o => { b with ivn := o.map txtPadded }) (fun _ _ => rfl) t.ivn,
      fold_opt 0x16 .AE (fun b o => { b with src := o.map txtPadded }) (fun _ _ => rfl) t.src,
      fold_opt 0x17 .AE (fun b o => { b with snd := o.map txtPadded }) (fun _ _ => rfl) t.snd,
      fold_opt 0x18 .AE (fun b o => { b with rcv := o.map txtPadded }) (fun _ _ => rfl) t.rcv,
      fold_opt 0x100 .UI (fun b o => { b with pic := o.map uiPadded }) (fun _ _ => rfl) t.pic,
      fold_opt 0x102 .OB (fun b o => { b with priv := o }) (fun _ _ => rfl) t.priv]
  -- the setters pad values that the writer has padded already
  · have hpp : ∀ p, padded p ∘ padded p = padded p := fun p => funext (padded_idem p p)
    simp [setB, setField, MElem.body, padByte, uiPadded, txtPadded, padded_idem, padded_pair, hpp]
  all_goals rfl

theorem elems_padTable (t : Table) :
    elems (padTable t) = (elems t).map fun x => ⟨x.e, x.vr, x.body⟩ := by
  have ho : ∀ e vr o, (optElem e vr o).map (fun x => (⟨x.e, x.vr, x.body⟩ : MElem)) =
      optElem e vr (o.map (padded (padByte vr))) := by
    intro e vr o; cases o <;> rfl
  simp only [elems, List.map_append, ho]
  simp [padTable, MElem.body, padByte, uiPadded, txtPadded, padded_pair]

theorem calcLen_padTable (t : Table) (hs : Small t) : calcLen (padTable t) = calcLen t := by
  rw [calcLen_eq_sum, calcLen_eq_sum, elems_padTable, List.map_map]
  congr 2
  refine List.map_congr_left fun x hx => ?_
  have := hs x hx
  simp only [Function.comp, dsize, MElem.body, padded_length]
  rw [evenLen_small (by simp only [U32]; omega), evenLen_small (by simp only [U32]; omega)]; omega

theorem trimEnd_padded (p : Nat) (hp : isTrim p = true) (s : Bytes) : trimEnd (padded p s) = trimEnd s := by
  unfold padded; split
  · simp [trimEnd, hp]
  · rfl

theorem stripPad_padded (v : Bytes) : stripPad (padded 0 v) = stripPad v := by
  unfold padded
  split
  · rename_i h
    have h1 : stripPad v = v := by unfold stripPad; rw [if_neg (by omega)]
    rw [h1]; unfold stripPad
    rw [if_pos ⟨by simp; omega, by simp⟩]; simp
  · rfl

/-- the padded table equals the original under `PartialEq for FileMetaTable` -/
theorem tableEq_padTable (t : Table) : tableEq (padTable t) t = true := by
  have h0 : isTrim 0 = true := by decide
  have h20 : isTrim 0x20 = true := by decide
  have om : ∀ (p : Nat) (hp : isTrim p = true) (o : Option Bytes),
      (o.map (padded p)).map trimEnd = o.map trimEnd := by
    intro p hp o; cases o <;> simp [trimEnd_padded p hp]
  simp only [tableEq, padTable, uiPadded, txtPadded, trimEnd_padded 0 h0, om 0 h0, om 0x20 h20,
    beq_self_eq_true, Bool.and_self, Bool.true_and]
  cases t.priv with
  | none => rfl
  | some v => simp [bytesEqNoPad, stripPad_padded]

theorem magic_len : magic.length = 4 := rfl

theorem decode_gl (r : Bytes) :
    decodeHeader .explicitLE noDict ([2, 0, 0, 0, 0x55, 0x4C, 4, 0] ++ r) = some (⟨⟨2, 0⟩, .UL, 4⟩, 8, r) := by
  rfl

/-- **Round trip of the written group**: reading `DICM ++ written ++ rest` yields the table with its
strings padded — equal to the original under the table's own equality — and leaves `rest`. -/
theorem meta_rt (d : Defaults) (t : Table) (hi : Inv t) (hs : Small t) (bs : Bytes)
    (h : encodeMeta t = .ok bs) (r : Bytes) :
    readMeta d (magic ++ bs ++ r) = .ok (padTable t, r) ∧ tableEq (padTable t) t = true := by
  refine ⟨?_, tableEq_padTable t⟩
  obtain ⟨body, h1, h2, h3, _⟩ := group_length_exact t hs bs h
  have higl : t.igl < 4294967296 := by
    rw [hi]; unfold calcLen; exact Nat.mod_lt _ (by simp [U32])
  have hlen : body.length = t.igl := by rw [h3, hi]
  have hloop := loop_elems (elems t) (elems_ok t hs) body h2 (body ++ r).length 0 t.igl
    { gl := some t.igl } r (by rw [List.length_append]; omega) (by omega) higl
  -- `build` recomputes the group length, which the padding has not changed
  have hb : Builder.build d ((elems t).foldl setB { gl := some t.igl }) = some (update (padTable t)) := by
    rw [fold_elems]; rfl
  have hu : update (padTable t) = padTable t := by
    have hi' : t.igl = calcLen t := hi
    unfold update; rw [calcLen_padTable t hs, ← hi']; rfl
  have hm : ∀ x, takeN 4 (magic ++ x) = some (magic, x) := takeN_append magic
  subst h1
  simp only [readMeta, List.append_assoc, hm, decode_gl, rdLe32_le32 _ higl, hloop, hb, hu, ne_eq,
    not_true_eq_false, if_false]

/-! ### preamble -/

theorem take4_len {f : Bytes} (hf : f.take 4 = magic) : 4 ≤ f.length := by
  have := congrArg List.length hf
  simp only [List.length_take, magic_len] at this; omega

/-- a window of the first buffer fill is the same window of the source -/
theorem window (f : Bytes) (cap n : Nat) (h : n + 4 ≤ cap) :
    ((f.take cap).drop n).take 4 = (f.drop n).take 4 := by
  rw [List.drop_take, List.take_take]
  have : min 4 (cap - n) = 4 := by omega
  rw [this]

theorem detectPreamble_take (f : Bytes) (cap : Nat) (hcap : 136 ≤ cap) :
    detectPreamble (f.take cap) = detectPreamble f := by
  have hl : ∀ n, n ≤ 136 → (n ≤ (f.take cap).length ↔ n ≤ f.length) := fun n hn => by
    rw [List.length_take]; omega
  have w0 : (f.take cap).take 4 = f.take 4 := window f cap 0 (by omega)
  unfold detectPreamble
  simp only [← Nat.not_le, ge_iff_le, hl, Nat.reduceLeDiff, w0, window f cap 4 (by omega),
    window f cap 128 (by omega), window f cap 132 (by omega)]

/-- the start of a written file without preamble: `DICM`, then the tag (0002,0000) -/
def StartsLikeMeta (f : Bytes) : Prop := f.take 4 = magic ∧ (f.drop 4).take 4 = glTag

theorem startsLikeMeta_len {f : Bytes} (h : StartsLikeMeta f) : 8 ≤ f.length := by
  have := congrArg List.length h.2
  simp only [List.length_take, List.length_drop, glTag, List.length_cons, List.length_nil] at this; omega

/-- **With the preamble**: whatever the 128 preamble bytes are, by path or from a byte source, the
preamble is detected and skipped (first buffer fill of at least 136 bytes). -/
theorem preamble_skipped (d : Defaults) (byPath : Bool) (cap : Nat) (hcap : 136 ≤ cap)
    (P f : Bytes) (hP : P.length = 128) (hf : StartsLikeMeta f) :
    openMeta d byPath cap (P ++ f) = readMeta d f := by
  have h8 := startsLikeMeta_len hf
  have hlen : (P ++ f).length ≥ 136 := by rw [List.length_append, hP]; omega
  have d128 : (P ++ f).drop 128 = f := by rw [← hP, List.drop_left]
  have d132 : (P ++ f).drop 132 = f.drop 4 := by
    rw [show 132 = 128 + 4 from rfl, ← List.drop_drop, d128]
  unfold openMeta
  rw [detectPreamble_take _ _ hcap]
  unfold detectPreamble
  rw [if_neg (by omega), if_pos ⟨by omega, by rw [d128]; exact hf.1⟩,
    if_neg fun ⟨_, hn⟩ => hn ⟨hlen, by rw [d132]; exact hf.2⟩]
  simp only [true_or, if_true]
  rw [← hP, takeN_append]

/-- **Without the preamble**: the file is read from its first byte — also when bytes 128..132 of the
file itself spell `DICM` (inside a value), unless they are even followed by the group length tag. -/
theorem no_preamble_read (d : Defaults) (byPath : Bool) (cap : Nat) (hcap : 136 ≤ cap)
    (f : Bytes) (hf : StartsLikeMeta f)
    (hamb : ¬ (136 ≤ f.length ∧ (f.drop 128).take 4 = magic ∧ (f.drop 132).take 4 = glTag)) :
    openMeta d byPath cap f = readMeta d f := by
  have h8 := startsLikeMeta_len hf
  have hnever : detectPreamble f = some .never := by
    unfold detectPreamble
    rw [if_neg (by omega)]
    by_cases h128 : f.length ≥ 132 ∧ (f.drop 128).take 4 = magic
    · rw [if_pos h128, if_pos ⟨hf, fun ⟨h1, h2⟩ => hamb ⟨h1, h128.2, h2⟩⟩]
    · rw [if_neg h128, if_pos hf.1]
  unfold openMeta
  rw [detectPreamble_take _ _ hcap, hnever]
  simp

theorem written_starts_like_meta (t : Table) (hs : Small t) (mb : Bytes) (hw : encodeMeta t = .ok mb)
    (ds : Bytes) : StartsLikeMeta (magic ++ mb ++ ds) := by
  obtain ⟨body, h1, _⟩ := group_length_exact t hs mb hw
  subst h1
  exact ⟨by simp [magic], by simp [magic, glTag]⟩

/-- **Preamble irrelevant**: a complete file `preamble ++ DICM ++ meta group ++ data set` and the
same file without its preamble give the same table and the same data set bytes, by path and from a
byte source alike. (Excluded: a file without preamble that has `DICM` *and* the group length tag at
offset 128 — it is indistinguishable from a file with a preamble.) -/
theorem preamble_irrelevant (d : Defaults) (cap : Nat) (hcap : 136 ≤ cap) (t : Table) (hi : Inv t)
    (hs : Small t) (mb : Bytes) (hw : encodeMeta t = .ok mb) (P ds : Bytes) (hP : P.length = 128)
    (hamb : ¬ (136 ≤ (magic ++ mb ++ ds).length ∧ ((magic ++ mb ++ ds).drop 128).take 4 = magic ∧
               ((magic ++ mb ++ ds).drop 132).take 4 = glTag))
    (byPath : Bool) :
    openMeta d byPath cap (P ++ (magic ++ mb ++ ds)) = .ok (padTable t, ds) ∧
    openMeta d byPath cap (magic ++ mb ++ ds) = .ok (padTable t, ds) := by
  have hf := written_starts_like_meta t hs mb hw ds
  have hr := (meta_rt d t hi hs mb hw ds).1
  exact ⟨by rw [preamble_skipped d byPath cap hcap P _ hP hf, hr],
         by rw [no_preamble_read d byPath cap hcap _ hf hamb, hr]⟩

/-- the unrepaired code took a file without preamble whose bytes 128..132 are `DICM` for a file with
a preamble (executed on the implementation as class `dicm-at-128-without-preamble`); the repaired
detection reads it from the start -/
theorem ambiguous_old_vs_repaired :
    let f := magic ++ glTag ++ List.replicate 120 0x41 ++ magic ++ [0x41, 0x42, 0, 0]
    detectPreambleOld f = some .always ∧ detectPreamble f = some .never := by decide +kernel

/-! ### media storage UIDs filled in from the data set -/

def zeroTable : Table :=
  { igl := 0, ver := (0, 0), cls := [], inst := [], ts := [], impl := [], ivn := none
    src := none, snd := none, rcv := none, pic := none, priv := none }

/-- the repaired inference keeps the invariant … -/
theorem inferSop_inv (t : Table) (c i : Option Bytes) : Inv (inferSop t c i) := update_inv _

/-- … the unrepaired code did not: the class UID is filled in, the recorded length stays -/
theorem inferSopOld_breaks_inv :
    let t := update { zeroTable with ts := [0x31] }
    Inv t ∧ ¬ Inv (inferSopOld t (some [0x31, 0x2e, 0x32]) none) := by decide

set_option maxRecDepth 100000 in
/-- a concrete table (odd-length UIDs, one optional field, odd private information) satisfies the
hypotheses of the theorems; its group is 104 bytes after the group length element, and it reads back -/
example :
    let t : Table := update {
      igl := 0
      ver := (0, 1)
      cls := [0x31, 0x2e, 0x32]
      inst := [0x31, 0x2e, 0x33, 0x34]
      ts := [0x31, 0x2e, 0x32, 0x2e, 0x38]
      impl := [0x32, 0x2e, 0x35]
      ivn := none
      src := some [0x41, 0x45, 0x31]
      snd := none
      rcv := none
      pic := some [0x31, 0x2e, 0x39]
      priv := some [1, 2, 3] }
    t.igl = 104 ∧ (encodeMeta t).toOption.map List.length = some 116 ∧
    (match encodeMeta t with
     | .ok bs => (match readMeta ⟨[], []⟩ (magic ++ bs ++ [7, 7]) with
        | .ok (t', r) => tableEq t' t && r == [7, 7]
        | .error _ => false)
     | .error _ => false) = true := by decide

end Dicom.Meta
