import DicomModel.Model.Header
import DicomModel.Lemmas.Header
/-
C03 — Element and item headers follow the PS3.5 §7.1 wire layout.

All statements are about the model `Model/Header.lean`, whose VR tables and 16-bit-length VR lists
are regenerated from the dicom-rs source on every check (`Gen/VrTables.lean`). The statements are
unbounded in tag, VR and length (`Nat` fields under the `u16`/`u32` range conditions that the Rust
types impose).
-/
namespace Dicom.C03

/-- The PS3.5 §7.1.2 list, spelled out here independently of model and code. -/
def ps35 : List VR :=
  [VR.AE, VR.AS, VR.AT, VR.CS, VR.DA, VR.DS, VR.DT, VR.FL, VR.FD, VR.IS, VR.LO, VR.LT, VR.PN,
   VR.SH, VR.SL, VR.SS, VR.ST, VR.TM, VR.UI, VR.UL, VR.US]

/-- membership in a list (as the code's `match` does), order-insensitive comparison of two lists -/
def sameSet (a b : List VR) : Bool := VR.all.all fun v => a.contains v == b.contains v

theorem encLe_ps35 : sameSet Gen.encLeShort ps35 = true := by decide +kernel
theorem encBe_ps35 : sameSet Gen.encBeShort ps35 = true := by decide +kernel
theorem decLe_ps35 : sameSet Gen.decLeShort ps35 = true := by decide +kernel
theorem decBe_ps35 : sameSet Gen.decBeShort ps35 = true := by decide +kernel
theorem adaptive_ps35 : sameSet Gen.adaptiveShort ps35 = true := by decide +kernel

/-- Each of the five match-arm lists extracted from the source denotes exactly the PS3.5 set
(a VR moved between the two classes in any one file breaks this at build time), and so does the
model's own specification constant `VR.ps35Short`. -/
theorem short_list_is_ps35 :
    sameSet Gen.encLeShort ps35 = true ∧ sameSet Gen.encBeShort ps35 = true ∧
    sameSet Gen.decLeShort ps35 = true ∧ sameSet Gen.decBeShort ps35 = true ∧
    sameSet Gen.adaptiveShort ps35 = true ∧ sameSet VR.ps35Short ps35 = true :=
  ⟨encLe_ps35, encBe_ps35, decLe_ps35, decBe_ps35, adaptive_ps35, by decide +kernel⟩

theorem sameSet_contains {a b : List VR} (h : sameSet a b = true) (v : VR) :
    a.contains v = b.contains v := by
  have := (List.all_eq_true.mp h) v (VR.mem_all v)
  simpa using this

theorem encShort_mem (ts : Syntax) (hts : ts.explicit = true) (v : VR) : v ∈ ts.encShort ↔ v ∈ ps35 := by
  rw [← List.contains_iff_mem, ← List.contains_iff_mem]
  cases ts
  · cases hts
  · rw [Syntax.encShort, sameSet_contains encLe_ps35]
  · rw [Syntax.encShort, sameSet_contains encBe_ps35]

theorem encodeHeader_explicit (ts : Syntax) (hts : ts.explicit = true) (h : ElemHeader) :
    encodeHeader ts h = encodeExplicitWith ts.encShort ts.bigEndian h := by
  cases ts
  · cases hts
  · rfl
  · rfl

/-- the decoder sees its list only through membership tests -/
theorem decodeExplicitWith_sameSet {s₁ s₂ : List VR} (h₁ : sameSet s₁ ps35 = true)
    (h₂ : sameSet s₂ ps35 = true) (be : Bool) (bs : Bytes) :
    decodeExplicitWith s₁ be bs = decodeExplicitWith s₂ be bs := by
  unfold decodeExplicitWith
  simp only [sameSet_contains h₁, sameSet_contains h₂]

/-- in an explicit VR syntax the decoder is the generic one over the *encoder's* list -/
theorem decodeHeader_explicit (ts : Syntax) (hts : ts.explicit = true) (dict : Tag → Option VR) (bs : Bytes) :
    decodeHeader ts dict bs = decodeExplicitWith ts.encShort ts.bigEndian bs := by
  cases ts
  · cases hts
  · exact decodeExplicitWith_sameSet decLe_ps35 encLe_ps35 _ _
  · exact decodeExplicitWith_sameSet decBe_ps35 encBe_ps35 _ _

/-! ### VR codes -/

/-- the `enum VR` of the source has exactly the model's 34 constructors, in the same order -/
theorem vr_enum_matches : Gen.vrAll = VR.ctors := by decide

/-- every VR has a two-byte code (the indexing in `to_bytes` never panics) and both are bytes -/
theorem to_bytes_total (v : VR) : v.toBytes? = some v.toBytes ∧ v.toBytes.1 < 256 ∧ v.toBytes.2 < 256 :=
  ⟨VR.toBytes?_eq v, VR.toBytes_lt v⟩

/-- the VR code table is complete: all 34 VRs are listed -/
theorem vr_all_complete (v : VR) : v ∈ VR.all := VR.mem_all v

theorem fromStr_codes : ∀ p ∈ Gen.vrFromStr, [p.2.toBytes.1, p.2.toBytes.2] = p.1 := by decide +kernel

/-- A two-byte code is recognised as `v` if and only if it is `v`'s code — for **all** pairs of
bytes (indeed all pairs of naturals), not a sample. -/
theorem from_binary_iff (a b : Nat) (v : VR) : VR.fromBinary a b = some v ↔ v.toBytes = (a, b) := by
  constructor
  · intro h
    unfold VR.fromBinary at h
    split at h
    · obtain ⟨l₁, l₂, hl, _⟩ := List.lookup_eq_some_iff.mp h
      have code : [v.toBytes.1, v.toBytes.2] = [a, b] :=
        fromStr_codes ([a, b], v) (hl ▸ List.mem_append_right _ List.mem_cons_self)
      exact Prod.ext (List.cons.inj code).1 (List.cons.inj (List.cons.inj code).2).1
    · cases h
  · intro h
    have := VR.fromBinary_toBytes v
    rw [h] at this
    exact this

/-- a code is recognised iff it is the code of one of the defined VRs -/
theorem from_binary_recognised_iff (a b : Nat) :
    (VR.fromBinary a b).isSome = true ↔ ∃ v ∈ VR.all, v.toBytes = (a, b) := by
  constructor
  · intro h
    match hv : VR.fromBinary a b with
    | some v => exact ⟨v, VR.mem_all v, (from_binary_iff a b v).mp hv⟩
    | none => simp [hv] at h
  · rintro ⟨v, _, hv⟩
    simp [(from_binary_iff a b v).mpr hv]

/-- codes are pairwise distinct -/
theorem to_bytes_injective (v w : VR) (h : v.toBytes = w.toBytes) : v = w := by
  have h1 := (from_binary_iff w.toBytes.1 w.toBytes.2 v).mpr (by rw [h])
  have h2 := VR.fromBinary_toBytes w
  rw [h1] at h2
  exact Option.some.inj h2

/-! ### layout -/

/-- explicit byte layout of a 16/32-bit field in the two byte orders -/
def u16Bytes (be : Bool) (n : Nat) : Bytes :=
  if be then [n / 256 % 256, n % 256] else [n % 256, n / 256 % 256]
def u32Bytes (be : Bool) (n : Nat) : Bytes :=
  if be then [n / 16777216 % 256, n / 65536 % 256, n / 256 % 256, n % 256]
  else [n % 256, n / 256 % 256, n / 65536 % 256, n / 16777216 % 256]

theorem enc16_eq (be : Bool) (n : Nat) : enc16 be n = u16Bytes be n := by cases be <;> rfl
theorem enc32_eq (be : Bool) (n : Nat) : enc32 be n = u32Bytes be n := by cases be <;> rfl

/-- **Layout, explicit VR, 16-bit form**: used for exactly the PS3.5 VRs (with `header_layout_long`),
bytes are tag ‖ VR ‖ len16 in the syntax's byte order, reported count 8. -/
theorem header_layout_short (ts : Syntax) (hts : ts.explicit = true) (h : ElemHeader)
    (hv : h.vr ∈ ps35) (hl : h.len ≤ 0xFFFF) :
    encodeHeader ts h = .ok
      (u16Bytes ts.bigEndian h.tag.group ++ u16Bytes ts.bigEndian h.tag.elem ++
        [h.vr.toBytes.1, h.vr.toBytes.2] ++ u16Bytes ts.bigEndian h.len, 8) := by
  rw [encodeHeader_explicit ts hts, encodeExplicitWith_short _ ((encShort_mem ts hts _).mpr hv) hl]
  simp only [encodeTag, enc16_eq]

/-- **Layout, explicit VR, 32-bit form**: every other VR — tag ‖ VR ‖ 00 00 ‖ len32, count 12. -/
theorem header_layout_long (ts : Syntax) (hts : ts.explicit = true) (h : ElemHeader)
    (hv : h.vr ∉ ps35) :
    encodeHeader ts h = .ok
      (u16Bytes ts.bigEndian h.tag.group ++ u16Bytes ts.bigEndian h.tag.elem ++
        [h.vr.toBytes.1, h.vr.toBytes.2] ++ [0, 0] ++ u32Bytes ts.bigEndian h.len, 12) := by
  rw [encodeHeader_explicit ts hts, encodeExplicitWith_long _ (mt (encShort_mem ts hts _).mp hv)]
  simp only [encodeTag, enc16_eq, enc32_eq]

/-- **Layout, Implicit VR LE**: tag ‖ len32, little endian, count 8, whatever the VR. -/
theorem header_layout_implicit (h : ElemHeader) :
    encodeHeader .implicitLE h = .ok
      (u16Bytes false h.tag.group ++ u16Bytes false h.tag.elem ++ u32Bytes false h.len, 8) := rfl

/-- **A 16-bit-form header whose length does not fit is rejected, never truncated.** -/
theorem short_overflow_rejected (ts : Syntax) (hts : ts.explicit = true) (h : ElemHeader)
    (hv : h.vr ∈ ps35) (hl : h.len > 0xFFFF) :
    encodeHeader ts h = .error (.headerTooLong h.len) := by
  rw [encodeHeader_explicit ts hts, encodeExplicitWith_overflow _ ((encShort_mem ts hts _).mpr hv) hl]

/-- encoding fails in no other case -/
theorem encode_ok_iff (ts : Syntax) (h : ElemHeader) :
    (∃ r, encodeHeader ts h = .ok r) ↔ ¬ (ts.explicit = true ∧ h.vr ∈ ps35 ∧ h.len > 0xFFFF) := by
  by_cases hts : ts.explicit = true
  · by_cases hv : h.vr ∈ ps35
    · by_cases hl : h.len > 0xFFFF
      · simp [short_overflow_rejected ts hts h hv hl, hts, hv, hl]
      · simp [header_layout_short ts hts h hv (by omega), hl]
    · simp [header_layout_long ts hts h hv, hv]
  · cases ts <;> simp_all [Syntax.explicit, header_layout_implicit]

/-- the reported byte count is the number of bytes written -/
theorem count_is_length (ts : Syntax) (h : ElemHeader) (bs : Bytes) (n : Nat)
    (he : encodeHeader ts h = .ok (bs, n)) : n = bs.length := by
  cases ts
  · cases he
    rfl
  · exact encodeExplicitWith_count he
  · exact encodeExplicitWith_count he

/-- items and delimiters are tag ‖ 32-bit length -/
theorem item_layout (be : Bool) (len : Nat) :
    encodeItemHeader be len = u16Bytes be 0xFFFE ++ u16Bytes be 0xE000 ++ u32Bytes be len ∧
    encodeItemDelimiter be = u16Bytes be 0xFFFE ++ u16Bytes be 0xE00D ++ [0, 0, 0, 0] ∧
    encodeSeqDelimiter be = u16Bytes be 0xFFFE ++ u16Bytes be 0xE0DD ++ [0, 0, 0, 0] := by
  cases be <;> exact ⟨rfl, rfl, rfl⟩

/-! ### round trip with exact byte count -/

/-- **Explicit VR**: decoding an encoded header followed by anything returns the same tag, VR and
length, reports exactly the number of bytes of the layout, and leaves the rest untouched.
(Group 0xFFFE is the item/delimiter space: such tags are read as tag ‖ len32 — see
`explicit_group_fffe`.) -/
theorem header_rt_explicit (ts : Syntax) (hts : ts.explicit = true) (dict : Tag → Option VR)
    (h : ElemHeader) (ht : h.tag.Valid) (hg : h.tag.group ≠ 0xFFFE) (hl : h.len < 4294967296)
    (bs : Bytes) (n : Nat) (he : encodeHeader ts h = .ok (bs, n)) (rest : Bytes) :
    decodeHeader ts dict (bs ++ rest) = some (h, bs.length, rest) := by
  rw [decodeHeader_explicit ts hts]
  rw [encodeHeader_explicit ts hts] at he
  obtain ⟨h1, h2⟩ := decodeExplicitWith_encode ts.encShort ts.bigEndian h ht hg hl rest bs n he
  rw [h1, h2]

/-- **Implicit VR LE**: same tag and length, 8 bytes; the VR is the dictionary's (the property's
documented normalisation), `OW` for Pixel Data and Overlay Data. -/
theorem header_rt_implicit (dict : Tag → Option VR) (h : ElemHeader) (ht : h.tag.Valid)
    (hl : h.len < 4294967296) (bs : Bytes) (n : Nat)
    (he : encodeHeader .implicitLE h = .ok (bs, n)) (rest : Bytes) :
    decodeHeader .implicitLE dict (bs ++ rest)
      = some (⟨h.tag, resolveImplicitVr dict h.tag, h.len⟩, bs.length, rest) ∧ bs.length = 8 := by
  simp only [encodeHeader] at he
  injection he with he; injection he with h1 h2; subst h1; subst h2
  have := decodeTag_encodeTag false h.tag ht (le32 h.len ++ rest)
  simp [decodeHeader, List.append_assoc, this, rdLe32_le32 _ hl]

/-- a tag of group 0xFFFE met by the explicit VR element decoder is read as tag ‖ len32 (8 bytes, VR
reported UN) — this is how item headers and delimiters inside data sets are read -/
theorem explicit_group_fffe (ts : Syntax) (hts : ts.explicit = true) (dict : Tag → Option VR)
    (e len : Nat) (he : e < 65536) (hl : len < 4294967296) (rest : Bytes) :
    decodeHeader ts dict (encodeTag ts.bigEndian ⟨0xFFFE, e⟩ ++ enc32 ts.bigEndian len ++ rest)
      = some (⟨⟨0xFFFE, e⟩, .UN, len⟩, 8, rest) := by
  rw [decodeHeader_explicit ts hts]
  have hv : (Tag.mk 0xFFFE e).Valid := ⟨(by decide : 0xFFFE < 65536), he⟩
  simp [decodeExplicitWith, List.append_assoc, decodeTag_encodeTag _ _ hv, rd32_enc32 _ _ hl]

/-- item header and delimiters decode back, consuming exactly their 8 bytes -/
theorem item_rt (be : Bool) (len : Nat) (hl : len < 4294967296) (rest : Bytes) :
    decodeItemHeader be (encodeItemHeader be len ++ rest) = .ok (.item len, rest) ∧
    decodeItemHeader be (encodeItemDelimiter be ++ rest) = .ok (.itemDelim, rest) ∧
    decodeItemHeader be (encodeSeqDelimiter be ++ rest) = .ok (.seqDelim, rest) :=
  ⟨decodeItemHeader_item be len hl rest, decodeItemHeader_itemDelim be rest,
   decodeItemHeader_seqDelim be rest⟩

/-- the explicit-locked path of the adaptive decoder is the Explicit VR LE decoder -/
theorem adaptive_explicit_eq (bs : Bytes) :
    decodeExplicitWith Gen.adaptiveShort false bs = decodeExplicitWith Gen.decLeShort false bs :=
  decodeExplicitWith_sameSet adaptive_ps35 decLe_ps35 _ _

/-- a truncated header is an error (EOF), never a header: every strict prefix of an encoded header
fails to decode (explicit VR) -/
theorem header_prefix_incomplete (ts : Syntax) (hts : ts.explicit = true) (dict : Tag → Option VR)
    (h : ElemHeader) (ht : h.tag.Valid) (hg : h.tag.group ≠ 0xFFFE)
    (bs : Bytes) (n : Nat) (he : encodeHeader ts h = .ok (bs, n)) (k : Nat) (hk : k < bs.length) :
    decodeHeader ts dict (bs.take k) = none := by
  rw [decodeHeader_explicit ts hts]
  rw [encodeHeader_explicit ts hts] at he
  exact decodeExplicitWith_prefix ts.encShort ts.bigEndian h ht hg bs n he k hk

/-! ### non-vacuity and the excluded points -/

example : encodeHeader .explicitLE ⟨⟨0x0010, 0x0010⟩, .PN, 8⟩
    = .ok ([0x10, 0, 0x10, 0, 80, 78, 8, 0], 8) := by rfl
example : encodeHeader .explicitBE ⟨⟨0x7FE0, 0x0010⟩, .OW, 0xFFFFFFFF⟩
    = .ok ([0x7F, 0xE0, 0, 0x10, 79, 87, 0, 0, 255, 255, 255, 255], 12) := by rfl
example : encodeHeader .explicitLE ⟨⟨0x0010, 0x0010⟩, .PN, 0x10000⟩ = .error (.headerTooLong 0x10000) := by rfl
/-- lower-case or unknown codes are not VRs -/
example : VR.fromBinary 97 101 = none ∧ VR.fromBinary 0 0 = none ∧ VR.fromBinary 0xC3 0xA9 = none := by decide +kernel

end Dicom.C03
