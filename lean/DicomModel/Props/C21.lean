import DicomModel.Model.NativeFrames
/-
C21 — Native pixel data frames are extracted exactly.

Model: `Dicom.Native.decodeWhole / decodeFrame / frameData` (pixeldata/src/lib.rs, native arms).
A native image is *well formed* when its stored value has at least the exact number of bytes
(`Img.exactBytes`; real files pad the value to even length, and the pad byte is not returned
as a sample — finding `padded-odd-length-whole-len`, repaired).
-/
namespace Dicom.Native

/-- a well-formed native image: the stored value has at least the exact number of bytes
(a trailing pad byte, or anything else beyond the last frame, is allowed) -/
def WellFormed (I : Img) (data : Bytes) : Prop := I.exactBytes ≤ data.length

theorem bitsOf_length (b : Nat) : (bitsOf b).length = 8 := by simp [bitsOf]

/-- sample `i` of the expansion is bit `i mod 8` (least significant first) of byte `i / 8`,
as 0 or 255 -/
theorem expandBits_getElem? (bs : Bytes) (i : Nat) :
    (expandBits bs)[i]? = bs[i / 8]?.map (fun b => b / 2 ^ (i % 8) % 2 * 255) := by
  induction bs generalizing i with
  | nil => rfl
  | cons b rest ih =>
    rw [expandBits, List.flatMap_cons]
    by_cases h : i < 8
    · rw [List.getElem?_append_left (by rw [bitsOf_length]; exact h), Nat.div_eq_of_lt h, Nat.mod_eq_of_lt h]
      simp [bitsOf, h]
    · have ⟨e1, e2⟩ : i / 8 = (i - 8) / 8 + 1 ∧ (i - 8) % 8 = i % 8 := by omega
      rw [List.getElem?_append_right (by rw [bitsOf_length]; omega), bitsOf_length, ← expandBits, ih, e1, e2]
      rfl

theorem expandBits_length (bs : Bytes) : (expandBits bs).length = 8 * bs.length := by
  induction bs with
  | nil => rfl
  | cons b r ih => simp only [expandBits, List.flatMap_cons, List.length_append, bitsOf_length, List.length_cons] at ih ⊢; omega

theorem getRange_some {data : Bytes} {a b : Nat} (hab : a ≤ b) (hb : b ≤ data.length) :
    getRange data a b = some ((data.drop a).take (b - a)) := by
  simp [getRange, hab, hb]

theorem take_eq_map_range {l : List Nat} {n : Nat} {g : Nat → Nat} (h : ∀ k, k < n → l[k]? = some (g k)) :
    l.take n = (List.range n).map g := by
  apply List.ext_getElem?
  intro k
  by_cases hk : k < n
  · rw [List.getElem?_take_of_lt hk, h k hk, List.getElem?_map, List.getElem?_range hk]; rfl
  · have hk' := Nat.not_lt.1 hk
    rw [List.getElem?_eq_none (Nat.le_trans (List.length_take_le _ _) hk'),
      List.getElem?_eq_none (by rw [List.length_map, List.length_range]; exact hk')]

theorem frame_end_le (n : Nat) {f frames : Nat} (hf : f < frames) : n * f + n ≤ n * frames :=
  Nat.mul_succ n f ▸ Nat.mul_le_mul_left n hf

/-- the bit-extraction core shared by the whole-object and per-frame 1-bit arms -/
theorem onebit_window (data : Bytes) (fb n : Nat) (hlen : (fb + n + 7) / 8 ≤ data.length) (k : Nat) (hk : k < n) :
    ((expandBits ((data.drop (fb / 8)).take ((fb + n + 7) / 8 - fb / 8))).drop (fb % 8))[k]?
      = some (bitSample data (fb + k)) := by
  have ⟨hin, e1, e2, hlt⟩ : (fb % 8 + k) / 8 < (fb + n + 7) / 8 - fb / 8 ∧
      fb / 8 + (fb % 8 + k) / 8 = (fb + k) / 8 ∧ (fb % 8 + k) % 8 = (fb + k) % 8 ∧
      (fb + k) / 8 < data.length := by omega
  rw [List.getElem?_drop, expandBits_getElem?, List.getElem?_take_of_lt hin, List.getElem?_drop, e1, e2,
    List.getElem?_eq_getElem hlt]
  simp only [bitSample, List.getD_eq_getElem?_getD, List.getElem?_eq_getElem hlt, Option.map_some, Option.getD_some]

/-- **frame_onebit**: frame `f` of a 1-bit image is bits `f·N … f·N+N-1` of the continuously
packed stream (bit `(f·N+k) mod 8` of byte `(f·N+k) / 8`), each expanded to 0 or 255 — also when
`N` is not a multiple of 8, i.e. when the frame starts and ends inside a byte. -/
theorem frame_onebit (I : Img) (data : Bytes) (f : Nat) (hb : I.bits = 1)
    (hf : f < I.frames) (hlen : I.exactBytes ≤ data.length) :
    decodeFrame I data f = some (oneBitFrame I data f) := by
  have hmul := frame_end_le I.frameSamples hf
  simp only [Img.exactBytes, hb, if_true] at hlen
  have hend : (I.frameSamples * f + I.frameSamples + 7) / 8 ≤ data.length :=
    Nat.le_trans (Nat.div_le_div_right (Nat.add_le_add_right hmul 7)) hlen
  simp only [decodeFrame, hb, if_true]
  rw [getRange_some (Nat.div_le_div_right (by omega)) hend, oneBitFrame, Nat.mul_comm f]
  exact congrArg some (take_eq_map_range (onebit_window data _ _ hend))

/-- **whole_onebit**: whole-object decoding of a 1-bit image yields exactly `N·frames` samples, sample
`i` being bit `i mod 8` of byte `i / 8` expanded to 0/255 — no bits are dropped or inserted at
frame boundaries. -/
theorem whole_onebit (I : Img) (data : Bytes) (hb : I.bits = 1)
    (hlen : I.exactBytes ≤ data.length) :
    decodeWhole I data = some ((List.range (I.frameSamples * I.frames)).map (bitSample data)) := by
  simp only [Img.exactBytes, hb, if_true] at hlen
  simp only [decodeWhole, hb, if_true]
  rw [getRange_some (Nat.zero_le _) hlen]
  refine congrArg some (take_eq_map_range fun k hk => ?_)
  have h := onebit_window data 0 (I.frameSamples * I.frames) (by rwa [Nat.zero_add]) k hk
  rwa [Nat.zero_add, Nat.zero_add] at h

theorem bytesPerSample_one (I : Img) (hb : I.bits = 1) : I.bytesPerSample = 1 := by
  simp [Img.bytesPerSample, hb]

/-- `frame_data` of the whole-object result of a 1-bit image is the per-frame result -/
theorem slice_onebit (I : Img) (data : Bytes) (f : Nat) (hb : I.bits = 1) (hf : f < I.frames) :
    frameData I ((List.range (I.frameSamples * I.frames)).map (bitSample data)) f
      = some (oneBitFrame I data f) := by
  have hmul := frame_end_le I.frameSamples hf
  have hl : I.rows * I.cols * I.spp * I.bytesPerSample = I.frameSamples := by
    rw [bytesPerSample_one I hb, Nat.mul_one]; rfl
  simp only [frameData, hl, List.length_map, List.length_range]
  rw [if_neg (Nat.not_lt.2 hmul), oneBitFrame, Nat.mul_comm f]
  refine congrArg some (take_eq_map_range fun k hk => ?_)
  rw [List.getElem?_drop, List.getElem?_map, List.getElem?_range (by omega)]; rfl

/-- **frame_bytes**: for 8/16-bit images frame `f` is the corresponding part of the stored data -/
theorem frame_bytes (I : Img) (data : Bytes) (f : Nat) (hb : I.bits ≠ 1) (hf : f < I.frames)
    (hlen : I.exactBytes ≤ data.length) :
    decodeFrame I data f = some (byteFrame I data f) := by
  have hmul := frame_end_le (I.frameSamples * I.bytesPerSample) hf
  simp only [Img.exactBytes, hb, if_false] at hlen
  simp only [decodeFrame, hb, if_false]
  rw [getRange_some (by omega) (by omega)]
  simp [byteFrame, Nat.mul_comm]

theorem slice_bytes (I : Img) (data : Bytes) (f : Nat) (hf : f < I.frames)
    (hlen : I.frameSamples * I.bytesPerSample * I.frames ≤ data.length) :
    frameData I data f = some (byteFrame I data f) := by
  have hmul := frame_end_le (I.frameSamples * I.bytesPerSample) hf
  have hl : I.rows * I.cols * I.spp * I.bytesPerSample = I.frameSamples * I.bytesPerSample := rfl
  simp only [frameData, hl]
  rw [if_neg (by omega)]
  simp [byteFrame, Nat.mul_comm]

theorem decodeWhole_bytes (I : Img) (data : Bytes) (hb : I.bits ≠ 1) (hlen : I.exactBytes ≤ data.length) :
    decodeWhole I data = some (data.take (I.frameSamples * I.bytesPerSample * I.frames)) := by
  simp only [Img.exactBytes, hb, if_false] at hlen
  simp only [decodeWhole, hb, if_false]
  rw [getRange_some (Nat.zero_le _) hlen]; simp

/-- **whole_len**: the whole-object result has frames × frame-size samples -/
theorem whole_len (I : Img) (data : Bytes) (wf : WellFormed I data) :
    ∃ w, decodeWhole I data = some w ∧ w.length = I.frameSamples * I.bytesPerSample * I.frames := by
  by_cases hb : I.bits = 1
  · exact ⟨_, whole_onebit I data hb wf, by simp [bytesPerSample_one I hb]⟩
  · refine ⟨_, decodeWhole_bytes I data hb wf, ?_⟩
    have : I.frameSamples * I.bytesPerSample * I.frames ≤ data.length := by
      simpa [WellFormed, Img.exactBytes, hb] using wf
    simp [List.length_take, Nat.min_eq_left this]

/-- **frame_exact**: every frame's samples equal the corresponding part of the stored pixel data
(1-bit: the bits `f·N …`, expanded to 0/255, continuous across frame boundaries) -/
theorem frame_exact (I : Img) (data : Bytes) (wf : WellFormed I data) (f : Nat) (hf : f < I.frames) :
    decodeFrame I data f = some (expectedFrame I data f) := by
  by_cases hb : I.bits = 1
  · simp only [expectedFrame, hb, if_true]
    exact frame_onebit I data f hb hf wf
  · simp only [expectedFrame, hb, if_false]
    exact frame_bytes I data f hb hf wf

theorem byteFrame_take (I : Img) (data : Bytes) (f : Nat) (hf : f < I.frames) :
    byteFrame I (data.take (I.frameSamples * I.bytesPerSample * I.frames)) f = byteFrame I data f := by
  have hmul := frame_end_le (I.frameSamples * I.bytesPerSample) hf
  unfold byteFrame
  rw [List.drop_take, List.take_take, Nat.min_eq_left (by rw [Nat.mul_comm f]; omega)]

/-- **frame_eq_slice**: decoding a single frame yields the same samples as slicing that frame
(`frame_data`) from the whole-object result -/
theorem frame_eq_slice (I : Img) (data : Bytes) (wf : WellFormed I data) (f : Nat) (hf : f < I.frames)
    (w : Bytes) (hw : decodeWhole I data = some w) :
    frameData I w f = decodeFrame I data f := by
  rw [frame_exact I data wf f hf]
  by_cases hb : I.bits = 1
  · rw [whole_onebit I data hb wf] at hw
    cases hw
    rw [slice_onebit I data f hb hf, expectedFrame, if_pos hb]
  · have hlen : I.frameSamples * I.bytesPerSample * I.frames ≤ data.length := by
      simpa [WellFormed, Img.exactBytes, hb] using wf
    rw [decodeWhole_bytes I data hb wf] at hw
    cases hw
    rw [slice_bytes I _ f hf (by rw [List.length_take, Nat.min_eq_left hlen]; exact Nat.le_refl _),
      byteFrame_take I data f hf, expectedFrame, if_neg hb]

/-- **onebit_sample**: sample `k` of frame `f` of a 1-bit image is bit `(f·N + k) mod 8` of byte
`(f·N + k) / 8`, expanded to 0 or 255 -/
theorem onebit_sample (I : Img) (data : Bytes) (hb : I.bits = 1)
    (hlen : I.exactBytes ≤ data.length) (f : Nat) (hf : f < I.frames) (k : Nat) (hk : k < I.frameSamples)
    (fr : Bytes) (hfr : decodeFrame I data f = some fr) :
    fr[k]? = some (data.getD ((f * I.frameSamples + k) / 8) 0 / 2 ^ ((f * I.frameSamples + k) % 8) % 2 * 255) := by
  rw [frame_onebit I data f hb hf hlen] at hfr
  simp only [Option.some.injEq] at hfr
  rw [← hfr]; simp [oneBitFrame, hk, bitSample]

/-! ### Non-vacuity -/

/-- defect #12's input: 1-bit 3×3, 2 frames, 18 bits in 3 bytes — well formed; the frames are
bit-continuous: frame 1 starts at bit 1 of byte 1 -/
example : WellFormed ⟨1, 1, 3, 3, 2⟩ [0xff, 0x01, 0x02] := by unfold WellFormed; decide

example : decodeFrame ⟨1, 1, 3, 3, 2⟩ [0xff, 0x01, 0x02] 1 = some [0, 0, 0, 0, 0, 0, 0, 0, 255] := by decide

example : decodeWhole ⟨1, 1, 3, 3, 2⟩ [0xff, 0x01, 0x02]
    = some [255, 255, 255, 255, 255, 255, 255, 255, 255, 0, 0, 0, 0, 0, 0, 0, 0, 255] := by decide

/-- 1-bit with 3 samples per pixel: all six samples of the two pixels are produced -/
example : decodeWhole ⟨1, 3, 1, 2, 1⟩ [0x2d] = some [255, 0, 255, 255, 0, 255] := by decide

/-- finding `padded-odd-length-whole-len`, repaired: an 8-bit 3×3 frame stored in a file carries a
pad byte, which is not returned -/
example : decodeWhole ⟨8, 1, 3, 3, 1⟩ [1, 2, 3, 4, 5, 6, 7, 8, 9, 0] = some [1, 2, 3, 4, 5, 6, 7, 8, 9] := by
  decide

end Dicom.Native
