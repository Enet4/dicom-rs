import DicomModel.Lemmas.PData
import DicomModel.Lemmas.PDataAsync
import DicomModel.Lemmas.PDataReader
/-
C26 — P-DATA fragmentation and reassembly preserve the message under any schedule.

Model: `DicomModel/Model/PData.lean` (sync writer under `write_all`, async writer against a scripted
transport, reader over a segmented source). `parseFrags`/`specOk` is the independent parser the
correspondence run applies to the bytes the real writers emit.
-/
namespace Dicom.PData
open Dicom.Gen.Ul

/-- **Synchronous writer.** For any presentation context, any maximum PDU length from 7 up to
`MAXIMUM_PDU_SIZE` (so in particular any length ≥ `MINIMUM_PDU_SIZE`) and any sequence of write
chunks, the session succeeds and the emitted bytes parse as P-DATA-TF PDUs with one value each,
PDU length ≤ max, the given context id, message control 0 (data, not last) on all but the final
PDU and 2 (data, last) on the final one, payloads concatenating to the input. -/
theorem sync_output_spec (max ctx : Nat) (chunks : List Bytes) (hm : 6 < max)
    (hM : max ≤ maximumPduSize) :
    (runSync max ctx chunks).2 = .ok ∧
    ∃ fs, parseFrags (runSync max ctx chunks).1 = some fs ∧
      specOk max ctx chunks.flatten fs = true := by
  obtain ⟨blocks, tail, hb, ht, hcat, hrun⟩ := runSync_form (ctx := ctx) hm hM chunks
  have hu := maximumPduSize_lt
  rw [hrun, ← hcat]
  refine ⟨rfl, _, parseFrags_stream ctx blocks tail ?_ (by omega),
    specOk_stream max ctx blocks tail ?_ (by omega)⟩
  · intro b hb'; have := hb b hb'; omega
  · intro b hb'; have := hb b hb'; omega

/-- the statement's range: every maximum length from the minimum negotiable one -/
theorem sync_output_spec_from_minimum (max ctx : Nat) (chunks : List Bytes)
    (hm : minimumPduSize ≤ max) (hM : max ≤ maximumPduSize) :
    (runSync max ctx chunks).2 = .ok ∧
    ∃ fs, parseFrags (runSync max ctx chunks).1 = some fs ∧
      specOk max ctx chunks.flatten fs = true :=
  sync_output_spec max ctx chunks (by simp only [minimumPduSize_eq] at hm; omega) hM

/-- The bytes emitted for one way of cutting the payload meet the specification stated with another. -/
theorem sync_output_chunking_independent (max ctx : Nat) (chunks chunks' : List Bytes) (hm : 6 < max)
    (hM : max ≤ maximumPduSize) (h : chunks.flatten = chunks'.flatten) :
    ∃ fs, parseFrags (runSync max ctx chunks).1 = some fs ∧ specOk max ctx chunks'.flatten fs = true := by
  obtain ⟨_, fs, h1, h2⟩ := sync_output_spec max ctx chunks hm hM
  exact ⟨fs, h1, h ▸ h2⟩

/-- The lower bound on the maximum length is needed: below the PDV header size the writer panics
(`total_len - buffer.len()` underflows) … -/
theorem below_header_panics : (runSync 5 1 [[7]]).2 = .panic := by
  decide +kernel

/-- … and at exactly the header size no byte is ever accepted (`Ok(0)` → `WriteZero`). -/
theorem at_header_size_no_progress : (runSync 6 1 [[7]]).2 = .writeZero := by
  decide +kernel

/-- **Asynchronous writer.** Against every transport script without `Err` and without a
zero-length write — any pattern of partial writes and `Pending` answers; once the script is used up
the transport accepts everything, i.e. it eventually makes progress — the bytes accepted by the
transport and the status of the session equal those of the synchronous writer. No condition on the
maximum length or the chunking is needed: the two writers also fail alike. -/
theorem async_eq_sync (max ctx : Nat) (chunks : List Bytes) (script : List Ev)
    (hnf : NoFault script) :
    (runAsync max ctx chunks script).1 = (runSync max ctx chunks).1 ∧
    (runAsync max ctx chunks script).2.1 = (runSync max ctx chunks).2 := by
  obtain ⟨s1, h1, h2⟩ := writeChunksA_sim max chunks ⟨initBuf ctx, []⟩ script hnf
  unfold runAsync runSync
  rw [show writeChunksA max ⟨initBuf ctx, none, []⟩ chunks script = _ from h2]
  rcases writeChunks max ⟨initBuf ctx, []⟩ chunks with ⟨sw, r⟩
  obtain ⟨hsome, hnone⟩ := finishA_sim sw s1 h1
  simp only [lift, liftW] at hsome hnone ⊢
  cases hf : finishImpl sw with
  | some sw' =>
    obtain ⟨s2, _, h4⟩ := hsome sw' hf
    cases r <;> simp [h4, dropStatus]
  | none =>
    have h4 := hnone hf
    cases r <;> simp [h4, dropStatus]

/-- the asynchronous writer meets the output specification under any such schedule -/
theorem async_output_spec (max ctx : Nat) (chunks : List Bytes) (script : List Ev)
    (hnf : NoFault script) (hm : 6 < max) (hM : max ≤ maximumPduSize) :
    (runAsync max ctx chunks script).2.1 = .ok ∧
    ∃ fs, parseFrags (runAsync max ctx chunks script).1 = some fs ∧
      specOk max ctx chunks.flatten fs = true := by
  obtain ⟨h1, h2⟩ := async_eq_sync max ctx chunks script hnf
  rw [h1, h2]
  exact sync_output_spec max ctx chunks hm hM

/-- The hypothesis on the script is needed: after a transport error mid-PDU the `Drop` of the
writer sends the whole buffered PDU again — the stream differs from the synchronous one. -/
theorem transport_error_breaks_equality :
    (runAsync 7 1 [[9, 8]] [.ready 1, .err]).1 ≠ (runSync 7 1 [[9, 8]]).1 := by
  decide +kernel

/-- **Reader.** `pdus` is any message (well-formed P-DATA-TF PDUs, data in every PDU before the
final one, only the final PDU's final value marked last), followed in the byte stream by `rest`.
However the stream is split between what is already in the shared buffer (`rb0`) and the non-empty
segments the source delivers (`segs`), and whatever buffer sizes ≥ 1 the caller reads with (enough
reads to reach the end), the reads return exactly the payload, end of stream is reported, and
exactly `rest` is left — shared buffer plus undelivered segments — for the next receive. -/
theorem reader_spec (max : Nat) (hmin : minimumPduSize ≤ max) (hmax : max ≤ maximumPduSize)
    (pdus : List (List Pdv)) (hmsg : MsgOk pdus) (rest rb0 : Bytes) (segs : List Bytes)
    (ks : List Nat) (hsplit : rb0 ++ segs.flatten = encMsg pdus ++ rest)
    (hsegs : ∀ seg ∈ segs, seg ≠ []) (hks : ∀ k ∈ ks, 1 ≤ k)
    (hlen : (msgData pdus).length + pdus.length < ks.length) :
    ∃ rb' src', readLoop max ⟨[], false, rb0, segs⟩ ks []
        = (⟨[], true, rb', src'⟩, msgData pdus, .eof) ∧ rb' ++ src'.flatten = rest := by
  obtain ⟨rb', src', h1, h2, _⟩ := readLoop_spec hmin hmax rest ks [] false rb0 segs pdus [] hks hsegs
    (.inr ⟨rfl, hmsg⟩) hsplit (by simpa using hlen)
  exact ⟨rb', src', by simpa using h1, h2⟩

theorem msgOk_writer (ctx : Nat) (blocks : List Bytes) (tail : Bytes)
    (hb : ∀ b ∈ blocks, b ≠ [] ∧ List.length b + 6 < u32) (ht : tail.length + 6 < u32) :
    MsgOk (blocks.map (fun b => [(⟨ctx, 0, b⟩ : Pdv)]) ++ [[⟨ctx, 2, tail⟩]]) := by
  have wf : ∀ (c : Nat) (d : Bytes), d.length + 6 < u32 → WfPdu [⟨ctx, c, d⟩] := by
    intro c d hd
    constructor
    · intro v hv
      rw [List.mem_singleton.mp hv]
      show d.length + 2 < u32
      omega
    · simp [encPdv]; omega
  induction blocks with
  | nil => exact ⟨wf 2 tail ht, ⟨ctx, 2, tail⟩, rfl, by simp [Pdv.isLast]⟩
  | cons b bs ih =>
    have h1 := hb b (by simp)
    have h2 := ih (fun x hx => hb x (by simp [hx]))
    cases bs with
    | nil =>
      exact ⟨wf 0 b h1.2, ⟨⟨ctx, 0, b⟩, rfl, by simp [Pdv.isLast]⟩, by simpa [pduData] using h1.1, h2⟩
    | cons b2 bs =>
      exact ⟨wf 0 b h1.2, ⟨⟨ctx, 0, b⟩, rfl, by simp [Pdv.isLast]⟩, by simpa [pduData] using h1.1, h2⟩

/-- **Writer then reader.** What the synchronous writer emits for any chunking (hence, by
`async_eq_sync`, what the asynchronous writer emits under any schedule), followed by anything,
delivered under any segmentation, is read back as exactly the payload, and what followed is left
for the next receive (`2 * payload + 1` reads: one per byte, one per PDU, one returning 0). -/
theorem writer_then_reader (wmax ctx : Nat) (chunks : List Bytes) (hm : 6 < wmax)
    (hM : wmax ≤ maximumPduSize) (max : Nat) (hmin : minimumPduSize ≤ max)
    (hmax : max ≤ maximumPduSize) (rest rb0 : Bytes) (segs : List Bytes) (ks : List Nat)
    (hsplit : rb0 ++ segs.flatten = (runSync wmax ctx chunks).1 ++ rest)
    (hsegs : ∀ seg ∈ segs, seg ≠ []) (hks : ∀ k ∈ ks, 1 ≤ k)
    (hlen : 2 * chunks.flatten.length + 1 < ks.length) :
    ∃ rb' src', readLoop max ⟨[], false, rb0, segs⟩ ks []
        = (⟨[], true, rb', src'⟩, chunks.flatten, .eof) ∧ rb' ++ src'.flatten = rest := by
  obtain ⟨blocks, tail, hb, ht, hcat, hrun⟩ := runSync_form (ctx := ctx) hm hM chunks
  have hu := maximumPduSize_lt
  have hb' : ∀ b ∈ blocks, b ≠ [] ∧ List.length b + 6 < u32 := by
    intro b hb'
    have := hb b hb'
    exact ⟨List.ne_nil_of_length_pos (by omega), by omega⟩
  have hnum := length_le_flatten_length (fun b h => (hb' b h).1)
  have hlen' := congrArg List.length hcat
  rw [List.length_append] at hlen'
  rw [hrun, ← encMsg_writer] at hsplit
  obtain ⟨rb', src', h1, h2⟩ := reader_spec max hmin hmax _
    (msgOk_writer ctx blocks tail hb' (by omega)) rest rb0 segs ks hsplit hsegs hks
    (by rw [msgData_writer, hcat, List.length_append, List.length_map]
        simp only [List.length_cons, List.length_nil]; omega)
  rw [msgData_writer, hcat] at h1
  exact ⟨rb', src', h1, h2⟩

/-- Outside the reader's clause: a PDU without data that is not marked last makes `read` answer 0
bytes, which a caller reading to the end takes for the end of the message (the writers never emit
such a PDU: `msgOk_writer`). -/
theorem empty_fragment_ends_reading :
    (readLoop 1018 ⟨[], false, [4, 0, 0, 0, 0, 6, 0, 0, 0, 2, 1, 0,
        4, 0, 0, 0, 0, 7, 0, 0, 0, 3, 1, 2, 9], []⟩ [5, 5, 5] []).2 = ([], .eof) := by
  decide +kernel

/-- non-vacuity / sanity: a 3-byte payload written as 1+2 bytes with 2 data bytes per PDU -/
example : runSync 8 5 [[1], [2, 3]] =
    ([4, 0, 0, 0, 0, 8, 0, 0, 0, 4, 5, 0, 1, 2, 4, 0, 0, 0, 0, 7, 0, 0, 0, 3, 5, 2, 3], .ok) := by
  decide +kernel

end Dicom.PData
