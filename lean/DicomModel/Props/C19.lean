import DicomModel.Model.Transcode
import DicomModel.Lemmas.Encap
/-
C19 — Lossless transcoding preserves pixel data exactly.

Model: `DicomModel/Model/Transcode.lean` (decision table of `transcode_with_options`,
`decode_inline`, `decode_and_encode`, `UncompressedAdapter`, a per-fragment codec as parameter) on
top of `DicomModel/Model/Encap.lean` (default `PixelDataWriter::encode` with NUL padding).

Compression codecs are parameters; the only thing assumed of a lossless codec is
`dec (padEven (enc x)) = some x` for every byte string `x` (decoding what was encoded — including
the pad byte the encoder may have appended — gives the input back): `Adapter.Lossless`.
All statements hold for every image size, every number of frames (odd frame sizes included).
In `transcode o t ele`, `t` is the target syntax and `ele` stands for Explicit VR Little Endian, the
syntax `decode_inline` leaves the object in on the way to an encapsulated target.
-/
namespace Dicom.Transcode
open Dicom.Encap

/-- what is assumed of an adapter: nothing for the uncompressed one (it is modelled concretely),
decode-after-encode for a codec -/
def Adapter.Lossless : Adapter → Prop
  | .uncompressed => True
  | .perFragment enc dec => ∀ x, dec (padEven (enc x)) = some x

/-- the per-frame transformation of the adapter's writer -/
def Adapter.encOne : Adapter → Bytes → Bytes
  | .uncompressed => id
  | .perFragment enc _ => enc

/-- frame `f` of `data` for frames of `fsz` bytes -/
def slice (data : Bytes) (fsz f : Nat) : Bytes := (data.drop (fsz * f)).take fsz

theorem slice_length {data : Bytes} {fsz f : Nat} (h : fsz * (f + 1) ≤ data.length) :
    (slice data fsz f).length = fsz := by
  have : fsz * (f + 1) = fsz * f + fsz := Nat.mul_succ fsz f
  simp only [slice, List.length_take, List.length_drop]; omega

theorem slices_flatten (data : Bytes) (fsz n : Nat) :
    ((List.range n).map (slice data fsz)).flatten = data.take (fsz * n) := by
  induction n with
  | zero => simp
  | succ n ih =>
    rw [List.range_succ, List.map_append, List.flatten_append, ih]
    simp only [List.map_cons, List.map_nil, List.flatten_cons, List.flatten_nil, List.append_nil, slice]
    rw [Nat.mul_succ, List.take_add]

theorem frame_eq_slice (im : Image) (n f : Nat) (hf : f < n) (hlen : im.frameSize * n ≤ im.data.length) :
    im.frame f = some (slice im.data im.frameSize f) := by
  unfold Image.frame sliceGet
  rw [if_pos ⟨Nat.mul_le_mul_left _ (Nat.le_succ f), Nat.le_trans (Nat.mul_le_mul_left _ hf) hlen⟩,
    Nat.mul_succ, Nat.add_sub_cancel_left]
  rfl

theorem encFrame_eq (a : Adapter) (im : Image) (n f : Nat) (hf : f < n)
    (hlen : im.frameSize * n ≤ im.data.length) :
    a.encFrame im f = some (a.encOne (slice im.data im.frameSize f)) := by
  cases a with
  | uncompressed => simp [Adapter.encFrame, uncompressedFrame, Adapter.encOne, frame_eq_slice im n f hf hlen]
  | perFragment enc dec =>
    simp [Adapter.encFrame, codecFrame, Adapter.encOne, frame_eq_slice im n f hf hlen]

/-- the fragments the default encoder makes of a native image: one per frame,
the encoded frame padded to even length -/
theorem encode_fragments (a : Adapter) (im : Image) (n : Nat)
    (hlen : im.frameSize * n ≤ im.data.length) :
    ∃ table, encodeDefault (a.encFrame im) (some n) [] [] =
      some ((List.range n).map (fun f => padEven (a.encOne (slice im.data im.frameSize f))), table)
      ∧ table.length = n := by
  obtain ⟨ts, hl⟩ := encodeLoop_of_forall (a.encFrame im)
    (fun f => a.encOne (slice im.data im.frameSize f)) n 0 0
    (fun i _ hi => encFrame_eq a im n i (by omega) hlen)
  obtain ⟨h1, h2, _⟩ := encodeLoop_spec _ _ _ _ _ _ hl
  refine ⟨ts, ?_, ?_⟩
  · rw [encodeDefault_nil, Option.getD_some, hl, List.range_eq_range']
  · rw [h2, prefixOffsets_length, List.length_map, h1]

theorem mapM'_map (f : Bytes → Option Bytes) (g : Bytes → Bytes) (l : List Bytes)
    (h : ∀ x ∈ l, f (g x) = some x) : mapM' f (l.map g) = some l := by
  induction l with
  | nil => rfl
  | cons x xs ih =>
    simp [mapM', h x List.mem_cons_self, ih fun y hy => h y (List.mem_cons_of_mem _ hy)]

theorem withoutPadding_padEven {s : Bytes} {k : Nat} (hk : s.length = k) :
    withoutPadding (padEven s) (some k) = s := by
  subst hk
  unfold withoutPadding padEven
  by_cases h : s.length % 2 = 1
  · simp [h]
  · simp [Nat.mod_two_ne_one.mp h]

/-- decoding the fragments made by `encode_fragments` gives the first `n` frames back -/
theorem decode_fragments (a : Adapter) (hl : a.Lossless) (o : Obj) (data : Bytes) (n : Nat) (table : List Nat)
    (hbits : o.bits = 8 ∨ o.bits = 16)
    (hlen : o.frameSize * n ≤ data.length)
    (hpix : o.pixel = .encap table
      ((List.range n).map (fun f => padEven (a.encOne (slice data o.frameSize f))))) :
    a.decode o = some (data.take (o.frameSize * n)) := by
  have hfs : o.frameSizeOf = some o.frameSize := by
    unfold Obj.frameSizeOf
    rcases hbits with h | h <;> simp [h]
  cases a with
  | uncompressed =>
    simp only [Adapter.decode, Obj.rawFragments, hpix, Adapter.encOne, id, hfs, List.map_map]
    congr 1
    rw [← slices_flatten]
    congr 1
    apply List.map_congr_left
    intro f hf
    exact withoutPadding_padEven
      (slice_length (Nat.le_trans (Nat.mul_le_mul_left _ (List.mem_range.mp hf)) hlen))
  | perFragment enc dec =>
    simp only [Adapter.decode, Obj.rawFragments, hpix, Adapter.encOne]
    have := mapM'_map dec (fun s => padEven (enc s)) ((List.range n).map (slice data o.frameSize))
      (fun x _ => hl x)
    rw [List.map_map] at this
    simp only [Function.comp_def] at this
    rw [this, Option.map_some, slices_flatten]

/-- **native_to_native_id** — between transfer syntaxes without pixel data encapsulation nothing
but the transfer syntax changes, forth and back. -/
theorem native_to_native_id (o : Obj) (t ele : Ts)
    (ho : o.ts.isEncap = false) (ht : t.isEncap = false) (he : ele.isEncap = false) :
    ∃ o1, transcode o t ele = some o1 ∧ o1.pixel = o.pixel ∧
    ∃ o2, transcode o1 ele ele = some o2 ∧ o2.pixel = o.pixel ∧ o2.rows = o.rows ∧ o2.cols = o.cols ∧
      o2.spp = o.spp ∧ o2.bits = o.bits ∧ o2.nframes = o.nframes := by
  by_cases h1 : o.ts.uid = t.uid
  · refine ⟨o, by simp [transcode, h1], rfl, ?_⟩
    by_cases h2 : o.ts.uid = ele.uid
    · exact ⟨o, by simp [transcode, h2], rfl, rfl, rfl, rfl, rfl, rfl⟩
    · exact ⟨{ o with ts := ele }, by simp [transcode, h2, ho, he], rfl, rfl, rfl, rfl, rfl, rfl⟩
  · refine ⟨{ o with ts := t }, by simp [transcode, h1, ho, ht], rfl, ?_⟩
    by_cases h2 : t.uid = ele.uid
    · exact ⟨{ o with ts := t }, by simp [transcode, h2], rfl, rfl, rfl, rfl, rfl, rfl⟩
    · exact ⟨{ o with ts := ele }, by simp [transcode, h2, ht, he], rfl, rfl, rfl, rfl, rfl, rfl⟩

theorem decodeInline_eq {o : Obj} {d : Bytes} (ts : Ts) (hd : decodePixelData o = some d)
    (hbits : o.bits = 8 ∨ o.bits = 16) (heven : o.bits = 16 → d.length % 2 = 0) :
    decodeInline o ts = some { o with pixel := .native d, ts := ts } := by
  unfold decodeInline
  rw [hd]
  rcases hbits with h | h
  · simp [h]
  · simp [h, heven h]

theorem frameSize_mul_even {o : Obj} (h16 : o.bits = 16) (n : Nat) : o.frameSize * n % 2 = 0 := by
  unfold Obj.frameSize
  rw [h16, Nat.mul_right_comm]
  exact Nat.mul_mod_left _ 2

theorem transcode_encode (o : Obj) (t ele : Ts) (a : Adapter) (data : Bytes) (n : Nat)
    (hnat : o.ts.kind = .native) (hpix : o.pixel = .native data) (hn : o.nframes.getD 1 = n)
    (ht : t.kind = .encapsulated a true true) (hu1 : o.ts.uid ≠ t.uid)
    (hbits : o.bits = 8 ∨ o.bits = 16)
    (hlen : o.frameSize * n ≤ data.length) (heven : o.bits = 16 → data.length % 2 = 0) :
    ∃ table, table.length = n ∧
      let frs := (List.range n).map fun f => padEven (a.encOne (slice data o.frameSize f))
      transcode o t ele = some { o with pixel := .encap table frs, nframes := some table.length,
                                        totalLength := some (frs.map List.length).sum, ts := t } := by
  have hinl := decodeInline_eq ele (show decodePixelData o = some data by simp [decodePixelData, hnat, hpix])
    hbits heven
  subst hn
  obtain ⟨table, henc, htl⟩ := encode_fragments a (o.image data) _ hlen
  rw [encodeDefault_nil, Option.getD_some, ← encodeDefault_nil] at henc
  refine ⟨table, htl, ?_⟩
  unfold transcode
  rw [if_neg hu1]
  simp only [Ts.isEncap, hnat, ht]
  unfold decodeAndEncode
  simp only [ht, Bool.not_true, Bool.false_eq_true, if_false, hinl]
  show (match encodeDefault (a.encFrame (o.image data)) o.nframes [] [] with
    | none => none
    | some (frags, table) => some _) = _
  rw [henc]
  rfl

theorem transcode_decode (o : Obj) (ele : Ts) (a : Adapter) (w : Bool) (d : Bytes)
    (hk : o.ts.kind = .encapsulated a true w) (hele : ele.kind = .native) (hu : o.ts.uid ≠ ele.uid)
    (hdec : a.decode o = some d) (hbits : o.bits = 8 ∨ o.bits = 16)
    (heven : o.bits = 16 → d.length % 2 = 0) :
    transcode o ele ele = some { o with pixel := .native d, ts := ele } := by
  unfold transcode
  rw [if_neg hu]
  simp only [Ts.isEncap, hk, hele]
  exact decodeInline_eq ele (by simp [decodePixelData, hk, hdec]) hbits heven

/-- **lossless_rt** — a native image (8 or 16 bits allocated, any rows/columns/samples, `n` frames
of any size, odd sizes included) transcoded to an encapsulated transfer syntax whose adapter is
lossless, then back to Explicit VR Little Endian, has the pixel data of its `n` frames
byte for byte, and unchanged image attributes. -/
theorem lossless_rt (o : Obj) (t ele : Ts) (a : Adapter) (data : Bytes) (n : Nat)
    (hnat : o.ts.kind = .native) (hpix : o.pixel = .native data) (hn : o.nframes.getD 1 = n)
    (ht : t.kind = .encapsulated a true true) (hele : ele.kind = .native)
    (hu1 : o.ts.uid ≠ t.uid) (hu2 : t.uid ≠ ele.uid)
    (hbits : o.bits = 8 ∨ o.bits = 16)
    (hlen : o.frameSize * n ≤ data.length) (heven : o.bits = 16 → data.length % 2 = 0)
    (hcodec : a.Lossless) :
    ∃ o1, transcode o t ele = some o1 ∧ o1.ts.uid = t.uid ∧ o1.nframes = some n ∧
      (∃ tb fr, o1.pixel = .encap tb fr ∧ fr.length = n ∧ tb.length = n) ∧
    ∃ o2, transcode o1 ele ele = some o2 ∧ o2.ts.uid = ele.uid ∧
      o2.pixel = .native (data.take (o.frameSize * n)) ∧
      o2.rows = o.rows ∧ o2.cols = o.cols ∧ o2.spp = o.spp ∧ o2.bits = o.bits ∧ o2.nframes = some n := by
  obtain ⟨table, htl, h1⟩ := transcode_encode o t ele a data n hnat hpix hn ht hu1 hbits hlen heven
  refine ⟨_, h1, rfl, congrArg some htl, ⟨table, _, rfl, by rw [List.length_map, List.length_range], htl⟩, ?_⟩
  refine ⟨_, transcode_decode _ ele a true (data.take (o.frameSize * n)) ht hele hu2
    (decode_fragments a hcodec _ data n table hbits hlen rfl) hbits ?_,
    rfl, rfl, rfl, rfl, rfl, rfl, congrArg some htl⟩
  intro h16
  rw [List.length_take, Nat.min_eq_left hlen]
  exact frameSize_mul_even h16 n

/-- **encap_uncompressed_rt** — the concrete case: Encapsulated Uncompressed Explicit VR Little
Endian. No assumption at all: for every image whose pixel data has exactly
`rows·cols·spp·bytes·frames` bytes the round trip is the identity on the pixel data. -/
theorem encap_uncompressed_rt (o : Obj) (t ele : Ts) (data : Bytes)
    (hnat : o.ts.kind = .native) (hpix : o.pixel = .native data)
    (ht : t.kind = .encapsulated .uncompressed true true) (hele : ele.kind = .native)
    (hu1 : o.ts.uid ≠ t.uid) (hu2 : t.uid ≠ ele.uid)
    (hbits : o.bits = 8 ∨ o.bits = 16)
    (hlen : data.length = o.frameSize * o.nframes.getD 1) :
    ∃ o1, transcode o t ele = some o1 ∧ ∃ o2, transcode o1 ele ele = some o2 ∧
      o2.pixel = .native data := by
  obtain ⟨o1, h1, _, _, _, o2, h2, _, hp, _⟩ :=
    lossless_rt o t ele .uncompressed data _ hnat hpix rfl ht hele hu1 hu2 hbits (Nat.le_of_eq hlen.symm)
      (fun h16 => hlen ▸ frameSize_mul_even h16 _) trivial
  refine ⟨o1, h1, o2, h2, ?_⟩
  rw [hp, ← hlen, List.take_length]

/-- **attrs_consistent** — `rows·cols·spp·bytes·frames = pixel data length` holds after the round
trip whenever it held before (for any lossless adapter). -/
theorem attrs_consistent (o : Obj) (t ele : Ts) (a : Adapter) (data : Bytes)
    (hnat : o.ts.kind = .native) (hpix : o.pixel = .native data)
    (ht : t.kind = .encapsulated a true true) (hele : ele.kind = .native)
    (hu1 : o.ts.uid ≠ t.uid) (hu2 : t.uid ≠ ele.uid)
    (hbits : o.bits = 8 ∨ o.bits = 16)
    (hlen : data.length = o.frameSize * o.nframes.getD 1) (hcodec : a.Lossless) :
    ∃ o1 o2 d2, transcode o t ele = some o1 ∧ transcode o1 ele ele = some o2 ∧
      o2.pixel = .native d2 ∧ d2.length = o2.frameSize * o2.nframes.getD 1 ∧
      -- also in the intermediate object: one fragment per frame
      (∃ tb fr, o1.pixel = .encap tb fr ∧ fr.length = o1.nframes.getD 1 ∧ tb.length = o1.nframes.getD 1) := by
  obtain ⟨o1, h1, _, hn1, ⟨tb, fr, hpx, hfl, htl⟩, o2, h2, _, hp, hr, hc, hs, hb, hn2⟩ :=
    lossless_rt o t ele a data _ hnat hpix rfl ht hele hu1 hu2 hbits (Nat.le_of_eq hlen.symm)
      (fun h16 => hlen ▸ frameSize_mul_even h16 _) hcodec
  refine ⟨o1, o2, _, h1, h2, hp, ?_, ⟨tb, fr, hpx, by rw [hn1]; exact hfl, by rw [hn1]; exact htl⟩⟩
  have : o2.frameSize = o.frameSize := by unfold Obj.frameSize; rw [hr, hc, hs, hb]
  rw [this, hn2, ← hlen, List.take_length, Option.getD_some]
  exact hlen

/-- `Adapter.Lossless` is not empty talk: a codec that drops the last byte fails it -/
example : ¬ Adapter.Lossless (.perFragment (fun x => x.dropLast) some) := by
  intro h
  have := h [1]
  simp [padEven] at this

/-! ### non-vacuity: a concrete odd-sized two-frame image through the uncompressed syntax -/

def exEle : Ts := ⟨1, .native⟩
def exUnc : Ts := ⟨98, .encapsulated .uncompressed true true⟩
def exObj : Obj := ⟨exEle, 3, 1, 1, 8, some 2, .native [1, 2, 3, 4, 5, 6], none⟩

example : (transcode exObj exUnc exEle).map (·.pixel) =
    some (.encap [0, 12] [[1, 2, 3, 0], [4, 5, 6, 0]]) := by decide
example : ((transcode exObj exUnc exEle).bind fun o1 => transcode o1 exEle exEle).map (·.pixel) =
    some (.native [1, 2, 3, 4, 5, 6]) := by decide

end Dicom.Transcode
