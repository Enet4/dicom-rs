import DicomModel.Lemmas.Collector
import DicomModel.Props.C02
import DicomModel.Lemmas.LazyEager
import DicomModel.Lemmas.ReadUntil
import DicomModel.Lemmas.RefLazy
import DicomModel.Lemmas.Fragments
/-
C06 — the lazy reader and the collector agree with the eager reader.

Models: `Model/LazyReader.lean` (LazyDataSetReader::advance as a second state machine, peek, skip,
into_owned), `Model/Collector.lean` (collect_elements / collect_sequence / build_encapsulated_data of
the collector, read_dataset_up_to / to_end, read_next_fragment, read_basic_offset_table, build_object with
read_until / read_to), next to the eager reader `Model/Reader.lean` and `Model/Build.lean`.
Namespaces `Coll6`, `CW`: Lemmas/Collector.lean, Lemmas/CollWhole2.lean.
-/
namespace Dicom.C06
open Dicom.Coll6

/-! ### lazy reader = eager reader -/
open Dicom.LE in
/-- **`lazy_eq_eager`** — for EVERY byte string (no validity assumption), every transfer syntax and
dictionary: run the eager reader (`readTokens`, the run `read_dataset`/`open_file` consume) and the lazy
reader with every token materialised (`advance` + `into_owned`). Unless the eager run reaches one of the
three places where the two readers differ BY DESIGN (`LE.Anom`: an item delimitation item outside any
sequence — eager ignores it, lazy reports `ItemEnd`; the input ending inside a pixel data sequence — eager
ends gracefully, lazy reports the error; an offset table item that is cut short or whose length is not a
multiple of 4), the two runs have the same number of tokens, every token is the same (an `OffsetTable` of the
eager reader is the `ItemValue` of the same bytes), and they end the same way (end of data, or corresponding
errors — the same error of the shared decoder / reader error type).
`h`: the third component of `eagerRunA` flags a run that stopped in front of such a place (`LE.AnomStep`).
Proved as a lock-step simulation on the shared state fields (`LE.step_sim`), then by induction on the run. -/
theorem lazy_eq_eager (ts : Syntax) (dict : Tag → Option VR) (bs : Bytes) (fuel : Nat)
    (h : (eagerRunA fuel (RState.new ts dict bs)).2.2 = false) :
    readTokens fuel (RState.new ts dict bs) =
      ((eagerRunA fuel (RState.new ts dict bs)).1, (eagerRunA fuel (RState.new ts dict bs)).2.1) ∧
    ToksRel (readTokens fuel (RState.new ts dict bs)).1 (lazyTokens fuel (LState.new ts dict bs)).1 ∧
    EndRel (readTokens fuel (RState.new ts dict bs)).2 (lazyTokens fuel (LState.new ts dict bs)).2 := by
  have h1 := eagerRunA_eq fuel _ h
  have h2 := lazy_run_eq_eager_run fuel _ h
  refine ⟨h1, ?_, ?_⟩
  · rw [h1]; exact h2.1
  · rw [h1]; exact h2.2

/-- **on conforming input there is no proviso**: for the encoding of any canonical data set (any nesting
depth, explicit / undefined lengths, all VRs, encapsulated pixel data with empty or non-empty offset table
and zero-length fragments, the three uncompressed syntaxes) both the eager reader and the lazy reader with
every token materialised yield the data set's tokens and end without error (an offset table comes as the
item value of the same bytes from the lazy reader). No step of such a run is one of the designed
differences (`LE.AnomStep` is false at every step — part of `Ref.StepTo`). -/
theorem lazy_eq_eager_canonical (ts : Syntax) (dict : Tag → Option VR) (t : Elems)
    (h : Ref.canonical ts dict t = true) :
    readTokens ((Ref.encElems ts t).length + 2) (RState.new ts dict (Ref.encElems ts t)) = (t.tokens, none) ∧
    ∃ toks', lazyTokens ((Ref.encElems ts t).length + 2) (LState.new ts dict (Ref.encElems ts t)) = (toks', none) ∧
      LE.ToksRel t.tokens toks' := by
  obtain ⟨hd, hc, _⟩ := C02.canonical_parts h
  have hlen := Ref.tokens_le_elems ts t
  exact ⟨C02.reader_ref ts dict t h, Ref.lazyTokens_ref ts dict t hd hc _ (by omega)⟩

/-- the designed differences are real: an item delimitation item outside any sequence (Explicit VR LE) is
ignored by the eager reader and reported as `ItemEnd` by the lazy one, which then fails -/
theorem stray_delimiter_differs :
    readTokens 4 (RState.new .explicitLE (fun _ => none) [0xFE, 0xFF, 0x0D, 0xE0, 0, 0, 0, 0]) = ([], none) ∧
    lazyTokens 4 (LState.new .explicitLE (fun _ => none) [0xFE, 0xFF, 0x0D, 0xE0, 0, 0, 0, 0]) =
      ([.itemEnd], some (.err .eof)) := by
  constructor <;> decide +kernel

/-! ### collector portions -/

/-- reading the top-level data set in portions: `read_dataset_up_to(t)` for each stop tag in turn, then
`read_dataset_to_end`; every call continues where the previous one stopped (the elements are accumulated;
`collect_acc` below: accumulating = concatenating the portions) -/
inductive Portions : List Tag → Coll → List Elem → List Elem → Coll → Prop
  | toEnd {c c' : Coll} {acc es : List Elem} (f : Nat) :
      collectElements f false none none c acc = .ok (es, c') → Portions [] c acc es c'
  | upTo {t : Tag} {ts : List Tag} {c c1 c' : Coll} {acc es1 es : List Elem} (f : Nat) :
      collectElements f false (some t) none c acc = .ok (es1, c1) → Portions ts c1 es1 es c' →
      Portions (t :: ts) c acc es c'

/-- **Reading in portions split at arbitrary tags yields the whole read**: whenever reading the data set
to its end succeeds, then for ANY list of stop tags (ascending or not) every `read_dataset_up_to` call and the
final `read_dataset_to_end` succeed, and together they collect exactly the same elements, in the same
order, and leave the collector in the same state. For every byte string (no validity assumption). -/
theorem collector_portions (stops : List Tag) : ∀ (fuel : Nat) (c : Coll) (acc es : List Elem) (c' : Coll),
    collectElements fuel false none none c acc = .ok (es, c') → Portions stops c acc es c' := by
  induction stops with
  | nil => intro fuel c acc es c' h; exact .toEnd fuel h
  | cons t ts ih =>
    intro fuel c acc es c' h
    obtain ⟨es1, c1, f2, h1, h2⟩ := split_whole (some t) none none none (fun tag hx => by simp [stopAt] at hx)
      fuel c acc es c' h
    exact .upTo fuel h1 (ih f2 c1 es1 es c' h2)

/-- a portion read up to `t1` followed by a read up to a later tag `t2` is the read up to `t2` -/
theorem collector_portions_two (t1 t2 : Tag) (hle : Tag.le t1 t2 = true) (fuel : Nat) (c : Coll)
    (acc es : List Elem) (c2 : Coll) (h : collectElements fuel false (some t2) none c acc = .ok (es, c2)) :
    ∃ es1 c1 f2, collectElements fuel false (some t1) none c acc = .ok (es1, c1) ∧
      collectElements f2 false (some t2) none c1 es1 = .ok (es, c2) := by
  refine split_whole (some t1) none (some t2) none ?_ fuel c acc es c2 h
  intro tag hx
  simp only [stopAt, Bool.or_false, Ref.le_iff] at hx hle ⊢
  omega

/-- accumulating into `acc` is prepending `acc` to what is collected from scratch: the portions of the
real API (each call fills a fresh vector that is then `extend`ed into an object) concatenate -/
theorem collect_acc : ∀ (fuel : Nat) (inItem : Bool) (ru rt : Option Tag) (c : Coll) (acc : List Elem),
    collectElements fuel inItem ru rt c acc =
      match collectElements fuel inItem ru rt c [] with
      | .ok (es, c') => .ok (acc ++ es, c')
      | .error e => .error e := by
  intro fuel
  induction fuel with
  | zero => intro i ru rt c acc; simp [collectElements]
  | succ k ih =>
    intro i ru rt c acc
    rw [collectElements, collectElements]
    rcases c.rd.peek with ⟨r, rd1⟩
    cases r with
    | error e => rfl
    | ok o =>
      cases o with
      | none => simp
      | some tok =>
        simp only
        by_cases hie : tok = .itemEnd
        · cases i <;> simp [hie]
        · simp only [hie, if_false]
          cases tokTag tok with
          | none => rfl
          | some tag =>
            simp only
            by_cases hs : stopAt ru rt tag = true
            · simp [hs]
            · simp only [hs, Bool.false_eq_true, if_false]
              cases collectOne k tok { c with rd := rd1 } with
              | error e => rfl
              | ok p =>
                obtain ⟨e, c'⟩ := p
                simp only
                rw [ih i ru rt c' (acc ++ [e]), ih i ru rt c' ([] ++ [e])]
                cases collectElements k i ru rt c' [] with
                | error e => rfl
                | ok q => simp [List.append_assoc]

/-! ### read_until / read_to -/
open Dicom.Ref

theorem read_stop_spec (ts : Syntax) (dict : Tag → Option VR) (t : Elems) (ru rt : Option Tag)
    (h : canonical ts dict t = true) :
    readTokens ((encElems ts t).length + 2) (RState.new ts dict (encElems ts t)) = (t.tokens, none) ∧
    buildObjectS ru rt (t.tokens.length + 1) t.tokens [] =
      .ok ((toList t).filter fun e => !stopAt ru rt e.tag) := by
  obtain ⟨hd, hc, hs⟩ := C02.canonical_parts h
  exact ⟨C02.reader_ref ts dict t h,
    buildS_elems ts dict ru rt t hc _ [] (Nat.lt_succ_self _) (by simpa using sorted_pairwise t hs)⟩

/-- **`OpenFileOptions::read_until(stop)`**: on the encoding of a canonical data set (ascending tags; any
nesting, explicit or undefined lengths, pixel data) the eager reader followed by `build_object(…,
read_until = stop)` yields exactly the top-level elements with tag `<` stop, in order. -/
theorem read_until_spec (ts : Syntax) (dict : Tag → Option VR) (t : Elems) (stop : Tag)
    (h : canonical ts dict t = true) :
    readTokens ((encElems ts t).length + 2) (RState.new ts dict (encElems ts t)) = (t.tokens, none) ∧
    buildObjectS (some stop) none (t.tokens.length + 1) t.tokens [] =
      .ok ((toList t).filter fun e => e.tag.lt stop) := by
  simpa [stopAt, Tag.le] using read_stop_spec ts dict t (some stop) none h

/-- **`OpenFileOptions::read_to(stop)`**: … exactly the top-level elements with tag `≤` stop. -/
theorem read_to_spec (ts : Syntax) (dict : Tag → Option VR) (t : Elems) (stop : Tag)
    (h : canonical ts dict t = true) :
    readTokens ((encElems ts t).length + 2) (RState.new ts dict (encElems ts t)) = (t.tokens, none) ∧
    buildObjectS none (some stop) (t.tokens.length + 1) t.tokens [] =
      .ok ((toList t).filter fun e => !(stop.lt e.tag)) := by
  simpa [stopAt] using read_stop_spec ts dict t none (some stop) h

/-- when both are given and equal, `read_until` wins: the tag is excluded -/
theorem read_until_wins (stop tag : Tag) : stopAt (some stop) (some stop) tag = stopAt (some stop) none tag := by
  simp only [stopAt, Bool.or_false]
  cases h : Tag.lt stop tag
  · simp
  · have : Tag.le stop tag = true := by rw [le_iff]; rw [lt_iff] at h; omega
    simp [this]

/-! ### collector = whole file, fragments one by one (repaired code) -/
open Dicom.CW in
/-- **the collector yields the same elements as opening the whole file**: for the encoding of any canonical
data set (all depths, explicit / undefined lengths, all VRs, encapsulated pixel data with empty or non-empty
offset table and zero-length fragments, three syntaxes) the whole-file read (`readDataset` = eager reader +
`build_object`) returns the data set `t`, and `read_dataset_to_end` of the collector returns the same
elements in the same order — `cnElems t` is `t` with the recorded item lengths forgotten, which the collector
does not keep and which object equality of dicom-rs ignores. -/
theorem collector_eq_whole (ts : Syntax) (dict : Tag → Option VR) (t : Elems) (h : Ref.canonical ts dict t = true) :
    readDataset ts dict (Ref.encElems ts t) = .ok t ∧
    ∃ c', (Coll.new ts dict (Ref.encElems ts t)).readDatasetToEnd ((Ref.encElems ts t).length + 2) =
      .ok (Ref.toList (cnElems t), c') := by
  obtain ⟨hd, hc, _⟩ := C02.canonical_parts h
  exact ⟨C02.read_ref ts dict t h, collector_ref ts dict t hd hc⟩

open Dicom.CW in
/-- … and so do the portions, split at ANY stop tags: `read_dataset_up_to` for each tag in turn, then
`read_dataset_to_end`, together collect exactly the elements of the whole file -/
theorem collector_portions_eq_whole (ts : Syntax) (dict : Tag → Option VR) (t : Elems) (stops : List Tag)
    (h : Ref.canonical ts dict t = true) :
    ∃ c', Portions stops (Coll.new ts dict (Ref.encElems ts t)) [] (Ref.toList (cnElems t)) c' := by
  obtain ⟨c', hc⟩ := (collector_eq_whole ts dict t h).2
  exact ⟨c', collector_portions stops _ _ [] _ c' hc⟩

open Dicom.CW in
/-- **`fragments_one_by_one`**: for the encoding of a canonical data set `pre ++ [Pixel Data] ++ post` with an
encapsulated Pixel Data element (offset table `bot`, fragments `frags`) and no pixel data at any depth before it:
 * the whole-file read returns the data set, hence Pixel Data with exactly `bot` and `frags`;
 * `read_basic_offset_table` returns `4·|bot|` and the same table `bot` — also the empty one — and then
   `read_next_fragment` returns the same fragments one per call, in order, each with its length, zero-length
   ones included, then `None` for ever (`FragCalls`; state `PixelDataEnd`);
 * without the table call the first `read_next_fragment` returns the table's bytes, the next calls the fragments. -/
theorem fragments_one_by_one (ts : Syntax) (dict : Tag → Option VR) (pre post : Elems) (bot : List Nat)
    (frags : List Bytes)
    (h : Ref.canonical ts dict (appendElems pre (.cons (.pix bot frags) post)) = true)
    (hno : ∀ t ∈ pre.tokens, pixelStartTok t = false) :
    let t := appendElems pre (.cons (.pix bot frags) post)
    let fuel := (Ref.encElems ts t).length + 4
    readDataset ts dict (Ref.encElems ts t) = .ok t ∧
    (∃ c1, (Coll.new ts dict (Ref.encElems ts t)).readBasicOffsetTable fuel = .ok (some (4 * bot.length, bot), c1) ∧
        FragCalls fuel c1 frags) ∧
    (∃ c1, (Coll.new ts dict (Ref.encElems ts t)).readNextFragment fuel =
        .ok (some (4 * bot.length, bot.flatMap (enc32 ts.bigEndian)), c1) ∧ FragCalls fuel c1 frags) := by
  intro t fuel
  obtain ⟨hd, hc, _⟩ := C02.canonical_parts h
  exact ⟨C02.read_ref ts dict t h, fragments_ref ts dict pre post bot frags hd hc hno⟩

/-- once the pixel data has ended every further `read_next_fragment` returns `None` -/
theorem no_fragment_after_end (fuel : Nat) (c : Coll) (h : c.state = .pixelDataEnd) :
    c.readNextFragment fuel = .ok (none, c) := by
  simp [Coll.readNextFragment, h]

/-! ### regression witnesses of the three repaired collector defects (fixes 1b02116, 4dbd2d8)

Before the fixes `fragments_one_by_one` and "collector = whole file" were false; the three counterexamples
found by the correspondence run, replayed on the models of the repaired code. -/

/-- tokens of the elements a read returned (comparison form) -/
def elemsTokens (r : Except CErr (List Elem × Coll)) : Option (List Token) :=
  match r with
  | .ok (es, _) => some (elemsOfList es).tokens
  | .error _ => none

def wholeTokens (r : Except RdErr Elems) : Option (List Token) :=
  match r with
  | .ok es => some es.tokens
  | .error _ => none

/-- Explicit VR LE: Pixel Data, offset table [0], one zero-length fragment -/
def witnessZeroFragment : Bytes :=
  [0xe0, 0x7f, 0x10, 0x00, 0x4f, 0x42, 0, 0, 0xff, 0xff, 0xff, 0xff,
   0xfe, 0xff, 0x00, 0xe0, 4, 0, 0, 0, 0, 0, 0, 0,
   0xfe, 0xff, 0x00, 0xe0, 0, 0, 0, 0,
   0xfe, 0xff, 0xdd, 0xe0, 0, 0, 0, 0]

/-- was finding `collector-drops-zero-length-fragment`: the collector keeps the empty fragment like the
whole-file read -/
theorem collector_drops_zero_length_fragment_witness :
    wholeTokens (readDataset .explicitLE (fun _ => none) witnessZeroFragment) =
      some (Elems.tokens (.cons (.pix [0] [[]]) .nil)) ∧
    elemsTokens ((Coll.new .explicitLE (fun _ => none) witnessZeroFragment).readDatasetToEnd 42) =
      some (Elems.tokens (.cons (.pix [0] [[]]) .nil)) := by
  constructor <;> decide +kernel

/-- Explicit VR LE: Pixel Data, EMPTY offset table, one fragment 01 02 03 04 -/
def witnessEmptyTable : Bytes :=
  [0xe0, 0x7f, 0x10, 0x00, 0x4f, 0x42, 0, 0, 0xff, 0xff, 0xff, 0xff,
   0xfe, 0xff, 0x00, 0xe0, 0, 0, 0, 0,
   0xfe, 0xff, 0x00, 0xe0, 4, 0, 0, 0, 1, 2, 3, 4,
   0xfe, 0xff, 0xdd, 0xe0, 0, 0, 0, 0]

/-- was finding `collector-empty-offset-table-takes-first-fragment` -/
theorem collector_empty_offset_table_witness :
    wholeTokens (readDataset .explicitLE (fun _ => none) witnessEmptyTable) =
      some (Elems.tokens (.cons (.pix [] [[1, 2, 3, 4]]) .nil)) ∧
    elemsTokens ((Coll.new .explicitLE (fun _ => none) witnessEmptyTable).readDatasetToEnd 42) =
      some (Elems.tokens (.cons (.pix [] [[1, 2, 3, 4]]) .nil)) := by
  constructor <;> decide +kernel

/-- Explicit VR LE: Pixel Data (empty table, fragment 01 02) followed by (FFFC,FFFC) OB 09 09 -/
def witnessTrailing : Bytes :=
  [0xe0, 0x7f, 0x10, 0x00, 0x4f, 0x42, 0, 0, 0xff, 0xff, 0xff, 0xff,
   0xfe, 0xff, 0x00, 0xe0, 0, 0, 0, 0,
   0xfe, 0xff, 0x00, 0xe0, 2, 0, 0, 0, 1, 2,
   0xfe, 0xff, 0xdd, 0xe0, 0, 0, 0, 0,
   0xfc, 0xff, 0xfc, 0xff, 0x4f, 0x42, 0, 0, 2, 0, 0, 0, 9, 9]

/-- `read_next_fragment` called `n` times: the results -/
def fragmentCalls : Nat → Coll → List (Option (Nat × Bytes))
  | 0, _ => []
  | n + 1, c =>
    match c.readNextFragment 64 with
    | .ok (r, c') => r :: fragmentCalls n c'
    | .error _ => []

/-- was finding `fragment-after-pixeldata-end`: after the last fragment there is nothing, again and again -/
theorem fragment_after_pixeldata_end_witness :
    fragmentCalls 4 (Coll.new .explicitLE (fun _ => none) witnessTrailing) =
      [some (0, []), some (2, [1, 2]), none, none] := by
  decide +kernel

end Dicom.C06
