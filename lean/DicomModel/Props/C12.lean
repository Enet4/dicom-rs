import DicomModel.Lemmas.Partial
/-
C12 — partial dates, times and date-times: text round trip, reported length, range bounds, range text.

Model: `DicomModel/Model/Partial.lean` (constructors, `to_encoded`, the three partial parsers,
`da/tm/dt_byte_len`, `AsRange::earliest/latest`, the three range parsers, chrono's calendar).
Leap seconds (second = 60) are valid values with bounds in chrono's representation (/repo fix 011408a).
"Valid value" = a value the public constructors (and `from_hmsf`, reached through the parser)
accept (`*_valid_iff_constructible`); for a date-time additionally the offset is a DICOM offset
(whole minutes, −12:00 … +14:00: the only ones the DT text format can carry — see
`offset_seconds_not_roundtrip`, `offset_out_of_range_not_roundtrip`).

All theorems are over unbounded `Nat`/`Int` components; nothing is restricted to a sample.
-/
namespace Dicom.Partial
open Dicom.Digits

/-! ## validity is exactly constructibility -/

theorem date_valid_iff_constructible (v : DicomDate) :
    v.Valid ↔ (∃ y, DicomDate.fromY y = some v) ∨ (∃ y m, DicomDate.fromYm y m = some v) ∨
      (∃ y m d, DicomDate.fromYmd y m d = some v) := by
  constructor
  · intro hv
    cases v with
    | year y => exact Or.inl ⟨y, by simp [fromY_eq]; exact hv⟩
    | month y m => exact Or.inr (Or.inl ⟨y, m, by simp [fromYm_eq]; exact hv⟩)
    | day y m d => exact Or.inr (Or.inr ⟨y, m, d, by simp [fromYmd_eq]; exact hv⟩)
  · rintro (⟨y, h⟩ | ⟨y, m, h⟩ | ⟨y, m, d, h⟩)
    · rw [fromY_eq] at h; split at h <;> simp at h; subst h; assumption
    · rw [fromYm_eq] at h; split at h <;> simp at h; subst h; assumption
    · rw [fromYmd_eq] at h; split at h <;> simp at h; subst h; assumption

/-- every time value a constructor returns is valid, and every valid value is returned by one
(`from_hms_milli`/`from_hms_micro` return valid values only, see `fromHmsMilli_valid`) -/
theorem time_valid_iff_constructible (v : DicomTime) :
    v.Valid ↔ (∃ h, DicomTime.fromH h = some v) ∨ (∃ h m, DicomTime.fromHm h m = some v) ∨
      (∃ h m s, DicomTime.fromHms h m s = some v) ∨ (∃ h m s f fp, DicomTime.fromHmsf h m s f fp = some v) := by
  constructor
  · intro hv
    cases v with
    | hour h => exact Or.inl ⟨h, by simp [fromH_eq]; exact hv⟩
    | minute h m => exact Or.inr (Or.inl ⟨h, m, by simp [fromHm_eq]; exact hv⟩)
    | second h m s => exact Or.inr (Or.inr (Or.inl ⟨h, m, s, by simp [fromHms_eq]; exact hv⟩))
    | fraction h m s f fp => exact Or.inr (Or.inr (Or.inr ⟨h, m, s, f, fp, by simp [fromHmsf_eq]; exact hv⟩))
  · rintro (⟨h, e⟩ | ⟨h, m, e⟩ | ⟨h, m, s, e⟩ | ⟨h, m, s, f, fp, e⟩)
    · rw [fromH_eq] at e; split at e <;> simp at e; subst e; assumption
    · rw [fromHm_eq] at e; split at e <;> simp at e; subst e; assumption
    · rw [fromHms_eq] at e; split at e <;> simp at e; subst e; assumption
    · rw [fromHmsf_eq] at e; split at e <;> simp at e; subst e; assumption

theorem fromHmsMilli_eq (h m s ms : Nat) :
    DicomTime.fromHmsMilli h m s ms =
      if ms ≤ 999 ∧ h ≤ 23 ∧ m ≤ 59 ∧ s ≤ 60 then some (.fraction h m s ms 3) else none := by
  simp [DicomTime.fromHmsMilli, checkComponent, and_assoc]

theorem fromHmsMicro_eq (h m s us : Nat) :
    DicomTime.fromHmsMicro h m s us =
      if us ≤ 999999 ∧ h ≤ 23 ∧ m ≤ 59 ∧ s ≤ 60 then some (.fraction h m s us 6) else none := by
  simp [DicomTime.fromHmsMicro, checkComponent, and_assoc]

/-- the millisecond / microsecond constructors return valid values only (/repo fix 8fcd311) -/
theorem fromHmsMilli_valid {h m s ms : Nat} {v : DicomTime} (e : DicomTime.fromHmsMilli h m s ms = some v) :
    v.Valid ∧ v = .fraction h m s ms 3 := by
  rw [fromHmsMilli_eq] at e
  split at e <;> simp at e
  subst e
  simp [DicomTime.Valid]; omega

theorem fromHmsMicro_valid {h m s us : Nat} {v : DicomTime} (e : DicomTime.fromHmsMicro h m s us = some v) :
    v.Valid ∧ v = .fraction h m s us 6 := by
  rw [fromHmsMicro_eq] at e
  split at e <;> simp at e
  subst e
  simp [DicomTime.Valid]; omega

/-! ## text round trip -/

/-- every valid partial date (any precision) parses back from its encoding, nothing left over -/
theorem date_rt (v : DicomDate) (hv : v.Valid) : parseDatePartial v.toEncoded = some (v, []) := by
  simpa using parseDate_ext hv [] (Or.inr noDigitPair_nil)

/-- every valid partial time — any precision, fraction of 1 to 6 digits, second = 60 included —
parses back from its encoding -/
theorem time_rt (v : DicomTime) (hv : v.Valid) : parseTimePartial v.toEncoded = some (v, []) := by
  simpa using parseTime_ext hv [] (timeStop_nil v)

/-- every valid partial date-time (with or without time, with or without offset) parses back -/
theorem datetime_rt (v : DicomDateTime) (hv : v.Valid) : parseDateTimePartial v.toEncoded = some v := by
  obtain ⟨d, t, o⟩ := v
  obtain ⟨hd, ht, ho⟩ := hv
  simp only at hd ht ho
  cases t with
  | none =>
    cases o with
    | none =>
      simp only [DicomDateTime.toEncoded, parseDateTimePartial, date_rt d hd, parseTime_nil, parseTz_nil,
        DicomDateTime.fromDate]
    | some o =>
      have hov := ho o rfl
      have h1 := parseDate_ext hd (offsetEncoded o) (Or.inr (by simpa using noDigitPair_offset hov []))
      have h2 : parseTimePartial (offsetEncoded o) = none := by simpa using parseTime_offset hov []
      have h3 : parseTzSuffix (offsetEncoded o) = some (some o) := by simpa using parseTz_offset hov []
      simp only [DicomDateTime.toEncoded, parseDateTimePartial, h1, h2, h3, DicomDateTime.fromDateWithTimeZone]
  | some t =>
    obtain ⟨htv, hp⟩ := ht t rfl
    cases o with
    | none =>
      have h1 := parseDate_ext hd t.toEncoded (Or.inl hp)
      simp only [DicomDateTime.toEncoded, parseDateTimePartial, h1, time_rt t htv, parseTz_nil,
        DicomDateTime.fromDateAndTime, hp, if_true]
    | some o =>
      have hov := ho o rfl
      have h1 := parseDate_ext hd (t.toEncoded ++ offsetEncoded o) (Or.inl hp)
      have h2 := parseTime_ext htv (offsetEncoded o) (by simpa using timeStop_offset t hov [])
      have h3 : parseTzSuffix (offsetEncoded o) = some (some o) := by simpa using parseTz_offset hov []
      simp only [DicomDateTime.toEncoded, parseDateTimePartial, List.append_assoc, h1, h2, h3,
        DicomDateTime.fromDateAndTimeWithTimeZone, hp, if_true]

/-! ## the encoded text has the length the value reports -/

theorem date_len (v : DicomDate) (hv : v.Valid) : v.toEncoded.length = v.byteLen := by
  rw [date_enc hv]; cases v <;> simp [DicomDate.byteLen]

theorem time_len (v : DicomTime) (hv : v.Valid) : v.toEncoded.length = v.byteLen := by
  rw [time_enc hv]; cases v <;> simp [DicomTime.byteLen] <;> omega

theorem datetime_len (v : DicomDateTime) (hv : v.Valid) : v.toEncoded.length = v.byteLen := by
  obtain ⟨d, t, o⟩ := v
  obtain ⟨hd, ht, ho⟩ := hv
  simp only at hd ht ho
  cases t with
  | none =>
    cases o with
    | none => simp [DicomDateTime.toEncoded, DicomDateTime.byteLen, date_len d hd]
    | some o => simp [DicomDateTime.toEncoded, DicomDateTime.byteLen, date_len d hd, offset_enc_length (ho o rfl)]
  | some t =>
    have htv := (ht t rfl).1
    cases o with
    | none => simp [DicomDateTime.toEncoded, DicomDateTime.byteLen, date_len d hd, time_len t htv]
    | some o =>
      simp [DicomDateTime.toEncoded, DicomDateTime.byteLen, date_len d hd, time_len t htv,
        offset_enc_length (ho o rfl)]
      omega

/-- `calculate_byte_len` of a single item is its text length padded to even; of two equal items the
two items plus one separator, padded to even -/
theorem calcByteLen_single (n : Nat) : calcByteLen [n] = n + n % 2 := by
  simp [calcByteLen]; omega
theorem calcByteLen_pair (n : Nat) : calcByteLen [n, n] = 2 * n + 2 := by
  simp [calcByteLen]; omega

/-! ## range bounds: dates -/

/-- a calendar date agrees with every component the partial date knows -/
def DicomDate.Matches (v : DicomDate) (nd : NaiveDate) : Prop :=
  nd.y = v.yr ∧ (∀ m, v.mon = some m → nd.m = m) ∧ (∀ d, v.dy = some d → nd.d = d)

/-- a valid date has bounds exactly when it denotes a day (e.g. 30 February has none) -/
theorem date_bounds_iff_denotes (v : DicomDate) (hv : v.Valid) :
    (v.earliest.isSome ∧ v.latest.isSome) ↔ v.Denotes := by
  constructor
  · intro ⟨h, _⟩
    cases v with
    | day y m d =>
      simp only [DicomDate.earliest, DicomDate.yr, DicomDate.mon, DicomDate.dy, Option.getD_some, fromYmdOpt_eq] at h
      split at h
      · rename_i c; exact c.2.2.2
      · simp at h
    | _ => trivial
  · intro hd
    rw [date_earliest_eq hv hd, date_latest_eq hv hd]; simp

/-- both bounds exist, are real calendar dates, agree with the known components, and are ordered -/
theorem date_bounds (v : DicomDate) (hv : v.Valid) (hd : v.Denotes) :
    ∃ e l, v.earliest = some e ∧ v.latest = some l ∧ e.Valid ∧ l.Valid ∧
      v.Matches e ∧ v.Matches l ∧ e.le l = true := by
  refine ⟨_, _, date_earliest_eq hv hd, date_latest_eq hv hd, ?_⟩
  cases v with
  | year y =>
    simp [NaiveDate.Valid, DicomDate.Matches, DicomDate.yr, DicomDate.mon, DicomDate.dy, daysInMonth, NaiveDate.le_iff]
  | month y m =>
    simp only [DicomDate.Valid] at hv
    have := daysInMonth_bounds y m
    simp [NaiveDate.Valid, DicomDate.Matches, DicomDate.yr, DicomDate.mon, DicomDate.dy, NaiveDate.le_iff, hv]
    omega
  | day y m d =>
    simp only [DicomDate.Valid] at hv
    simp only [DicomDate.Denotes] at hd
    simp [NaiveDate.Valid, DicomDate.Matches, DicomDate.yr, DicomDate.mon, DicomDate.dy, NaiveDate.le_iff, hv, hd]

/-- every calendar date consistent with the value lies between its bounds — and only those do -/
theorem date_instant_between (v : DicomDate) (hv : v.Valid) {e l : NaiveDate}
    (he : v.earliest = some e) (hl : v.latest = some l) (nd : NaiveDate) (hnd : nd.Valid) :
    v.Matches nd ↔ (e.le nd = true ∧ nd.le l = true) := by
  have hd : v.Denotes := (date_bounds_iff_denotes v hv).mp ⟨by simp [he], by simp [hl]⟩
  rw [date_earliest_eq hv hd] at he
  rw [date_latest_eq hv hd] at hl
  simp only [Option.some.injEq] at he hl
  subst he hl
  obtain ⟨ny, nm, ndd⟩ := nd
  simp only [NaiveDate.Valid] at hnd
  cases v with
  | year y =>
    simp only [DicomDate.Matches, DicomDate.yr, DicomDate.mon, DicomDate.dy, NaiveDate.le_iff, Option.getD_none]
    have : daysInMonth y 12 = 31 := by simp [daysInMonth]
    have := daysInMonth_bounds ny nm
    simp; omega
  | month y m =>
    simp only [DicomDate.Matches, DicomDate.yr, DicomDate.mon, DicomDate.dy, NaiveDate.le_iff, Option.getD_none,
      Option.getD_some]
    simp
    constructor
    · rintro ⟨rfl, rfl⟩; omega
    · intro h; omega
  | day y m d =>
    simp only [DicomDate.Matches, DicomDate.yr, DicomDate.mon, DicomDate.dy, NaiveDate.le_iff, Option.getD_some]
    simp; omega

/-! ## range bounds: times -/

/-- DICOM reading of a chrono time of day: chrono stores the leap second `hh:mm:60.f` as second 59
with `1_000_000 + f` microseconds (the code's own `TryFrom<&NaiveTime>` reads it back like this) -/
def NaiveTime.dicomSec (t : NaiveTime) : Nat := if 1000000 ≤ t.f then 60 else t.s
def NaiveTime.dicomFrac (t : NaiveTime) : Nat := if 1000000 ≤ t.f then t.f - 1000000 else t.f

/-- a time of day agrees with every component the partial time knows; a fraction of `fp` digits
fixes the first `fp` digits of the microseconds -/
def DicomTime.Matches (v : DicomTime) (t : NaiveTime) : Prop :=
  t.h = v.hr ∧ (∀ m, v.min = some m → t.m = m) ∧ (∀ s, v.sec = some s → t.dicomSec = s) ∧
  (∀ f fp, v.fracAndPrecision = some (f, fp) → t.dicomFrac / 10 ^ (6 - fp) = f)

/-- chrono's representation of the DICOM time `h:m:s.f` (`s ≤ 60`, `f` in microseconds): the leap
second is second 59 with the microseconds raised by 1 000 000 -/
def chronoTime (h m s f : Nat) : NaiveTime := if s = 60 then ⟨h, m, 59, f + 1000000⟩ else ⟨h, m, s, f⟩

def DicomTime.lo : DicomTime → NaiveTime
  | .hour h => ⟨h, 0, 0, 0⟩
  | .minute h m => ⟨h, m, 0, 0⟩
  | .second h m s => chronoTime h m s 0
  | .fraction h m s f fp => chronoTime h m s (f * 10 ^ (6 - fp))

/-- the last instant of the value: missing components are maximal (minute/second 59, all
remaining fraction digits 9) -/
def DicomTime.hi : DicomTime → NaiveTime
  | .hour h => ⟨h, 59, 59, 999999⟩
  | .minute h m => ⟨h, m, 59, 999999⟩
  | .second h m s => chronoTime h m s 999999
  | .fraction h m s f fp => chronoTime h m s (f * 10 ^ (6 - fp) + 10 ^ (6 - fp) - 1)

theorem fromHmsMicroOpt_chrono {h m s f : Nat} (hh : h ≤ 23) (hm : m ≤ 59) (hs : s ≤ 60) (hf : f < 1000000) :
    (if s = 60 then NaiveTime.fromHmsMicroOpt h m 59 (f + 1000000) else NaiveTime.fromHmsMicroOpt h m s f) =
      some (chronoTime h m s f) ∧ (chronoTime h m s f).Valid := by
  by_cases h60 : s = 60 <;> simp [chronoTime, h60, fromHmsMicroOpt_eq, NaiveTime.Valid] <;> omega

theorem radix60 {a b c d : Nat} (hb : b < 60) (hd : d < 60) : a * 60 + b = c * 60 + d ↔ a = c ∧ b = d := by
  omega

theorem secs_eq_iff {h m s : Nat} (hm : m ≤ 59) (hs : s ≤ 59) {t : NaiveTime} (ht : t.Valid) :
    t.secs = h * 3600 + m * 60 + s ↔ t.h = h ∧ t.m = m ∧ t.s = s := by
  have e : ∀ a b c : Nat, a * 3600 + b * 60 + c = (a * 60 + b) * 60 + c := by intros; omega
  rw [NaiveTime.secs, e, e, radix60 ht.2.2.1 (by omega), radix60 ht.2.1 (by omega), and_assoc]

theorem window_same_sec {h m s a b : Nat} (hm : m ≤ 59) (hs : s ≤ 59) {t : NaiveTime} (ht : t.Valid) :
    (NaiveTime.le ⟨h, m, s, a⟩ t = true ∧ t.le ⟨h, m, s, b⟩ = true) ↔
      (t.h = h ∧ t.m = m ∧ t.s = s) ∧ a ≤ t.f ∧ t.f ≤ b := by
  rw [← secs_eq_iff hm hs ht]
  simp only [NaiveTime.le_iff, NaiveTime.secs]
  omega

theorem chrono_window {h m s a b : Nat} (hm : m ≤ 59) (hs : s ≤ 60) (hb : b < 1000000) {t : NaiveTime}
    (ht : t.Valid) :
    ((chronoTime h m s a).le t = true ∧ t.le (chronoTime h m s b) = true) ↔
      t.h = h ∧ t.m = m ∧ t.dicomSec = s ∧ a ≤ t.dicomFrac ∧ t.dicomFrac ≤ b := by
  have hleap := ht.2.2.2
  have hts := ht.2.2.1
  simp only [chronoTime, NaiveTime.dicomSec, NaiveTime.dicomFrac]
  by_cases h60 : s = 60
  · simp only [h60, if_true]
    rw [window_same_sec hm (Nat.le_refl _) ht]
    split <;> omega
  · simp only [h60, if_false]
    rw [window_same_sec hm (by omega) ht]
    split <;> omega

theorem time_earliest_eq {v : DicomTime} (hv : v.Valid) : v.earliest = some v.lo := by
  cases v with
  | hour h =>
    simp only [DicomTime.Valid] at hv
    simp [DicomTime.earliest, DicomTime.lo, DicomTime.hr, DicomTime.min, DicomTime.sec, DicomTime.fracAndPrecision,
      fromHmsMicroOpt_eq]; omega
  | minute h m =>
    simp only [DicomTime.Valid] at hv
    simp [DicomTime.earliest, DicomTime.lo, DicomTime.hr, DicomTime.min, DicomTime.sec, DicomTime.fracAndPrecision,
      fromHmsMicroOpt_eq]; omega
  | second h m s => exact (fromHmsMicroOpt_chrono (f := 0) hv.1 hv.2.1 hv.2.2 (by decide)).1
  | fraction h m s f fp =>
    obtain ⟨hh, hm, hs, h1, h6, hf⟩ := hv
    exact (fromHmsMicroOpt_chrono (f := f * 10 ^ (6 - fp)) hh hm hs (by have := frac_bounds h6 hf; omega)).1

theorem time_latest_eq {v : DicomTime} (hv : v.Valid) : v.latest = some v.hi := by
  cases v with
  | hour h =>
    simp only [DicomTime.Valid] at hv
    simp [DicomTime.latest, DicomTime.hi, DicomTime.hr, DicomTime.min, DicomTime.sec, DicomTime.fracAndPrecision,
      fromHmsMicroOpt_eq]; omega
  | minute h m =>
    simp only [DicomTime.Valid] at hv
    simp [DicomTime.latest, DicomTime.hi, DicomTime.hr, DicomTime.min, DicomTime.sec, DicomTime.fracAndPrecision,
      fromHmsMicroOpt_eq]; omega
  | second h m s => exact (fromHmsMicroOpt_chrono (f := 999999) hv.1 hv.2.1 hv.2.2 (by decide)).1
  | fraction h m s f fp =>
    obtain ⟨hh, hm, hs, h1, h6, hf⟩ := hv
    exact (fromHmsMicroOpt_chrono (f := f * 10 ^ (6 - fp) + 10 ^ (6 - fp) - 1) hh hm hs (frac_bounds h6 hf).2).1

/-- membership of a chrono time of day in the value, spelled out with `lo`/`hi` windows:
the common core of `time_bounds` and `time_instant_between` -/
theorem time_matches_iff (v : DicomTime) (hv : v.Valid) (t : NaiveTime) (ht : t.Valid)
    (hs : t.f < 1000000 ∨ v.sec.isSome = true) :
    v.Matches t ↔ (v.lo.le t = true ∧ t.le v.hi = true) := by
  have hfr : t.dicomFrac ≤ 999999 := by
    have := ht.2.2.2; simp only [NaiveTime.dicomFrac]; split <;> omega
  cases v with
  | hour h =>
    clear hfr
    obtain ⟨th, tm, ts, tf⟩ := t
    have hs : tf < 1000000 := by simpa [DicomTime.sec] using hs
    simp only [NaiveTime.Valid] at ht
    simp [DicomTime.Matches, DicomTime.lo, DicomTime.hi, DicomTime.hr, DicomTime.min, DicomTime.sec,
      DicomTime.fracAndPrecision, NaiveTime.le_iff, NaiveTime.secs]; omega
  | minute h m =>
    clear hfr
    obtain ⟨th, tm, ts, tf⟩ := t
    have hs : tf < 1000000 := by simpa [DicomTime.sec] using hs
    simp only [NaiveTime.Valid] at ht
    simp only [DicomTime.Valid] at hv
    simp [DicomTime.Matches, DicomTime.lo, DicomTime.hi, DicomTime.hr, DicomTime.min, DicomTime.sec,
      DicomTime.fracAndPrecision, NaiveTime.le_iff, NaiveTime.secs]; omega
  | second h m s =>
    rw [DicomTime.lo, DicomTime.hi, chrono_window hv.2.1 hv.2.2 (by decide) ht]
    simp [DicomTime.Matches, DicomTime.hr, DicomTime.min, DicomTime.sec, DicomTime.fracAndPrecision, hfr]
  | fraction h m s f fp =>
    obtain ⟨hh, hm, hsv, h1, h6, hf⟩ := hv
    obtain ⟨hu, hlt⟩ := frac_bounds h6 hf
    rw [DicomTime.lo, DicomTime.hi, chrono_window hm hsv hlt ht]
    simp [DicomTime.Matches, DicomTime.hr, DicomTime.min, DicomTime.sec, DicomTime.fracAndPrecision,
      Nat.div_eq_iff hu]

theorem chronoTime_le (h m s : Nat) {a b : Nat} (hab : a ≤ b) :
    (chronoTime h m s a).le (chronoTime h m s b) = true := by
  by_cases h60 : s = 60 <;> simp [chronoTime, h60, NaiveTime.le_iff, NaiveTime.secs, hab]

theorem lo_hi_valid {v : DicomTime} (hv : v.Valid) : v.lo.Valid ∧ v.hi.Valid ∧ v.lo.le v.hi = true := by
  cases v with
  | hour h =>
    simp only [DicomTime.Valid] at hv
    simp [DicomTime.lo, DicomTime.hi, NaiveTime.Valid, NaiveTime.le_iff, NaiveTime.secs]; omega
  | minute h m =>
    simp only [DicomTime.Valid] at hv
    simp [DicomTime.lo, DicomTime.hi, NaiveTime.Valid, NaiveTime.le_iff, NaiveTime.secs]; omega
  | second h m s =>
    exact ⟨(fromHmsMicroOpt_chrono hv.1 hv.2.1 hv.2.2 (by decide)).2,
      (fromHmsMicroOpt_chrono hv.1 hv.2.1 hv.2.2 (by decide)).2, chronoTime_le h m s (by decide)⟩
  | fraction h m s f fp =>
    obtain ⟨hh, hm, hs, h1, h6, hf⟩ := hv
    obtain ⟨hu, hlt⟩ := frac_bounds h6 hf
    exact ⟨(fromHmsMicroOpt_chrono hh hm hs (by omega)).2, (fromHmsMicroOpt_chrono hh hm hs hlt).2,
      chronoTime_le h m s (by omega)⟩

/-- every valid time — leap seconds included — has both bounds; they are times chrono can
represent, agree with all known components, and are ordered -/
theorem time_bounds (v : DicomTime) (hv : v.Valid) :
    ∃ e l, v.earliest = some e ∧ v.latest = some l ∧ e.Valid ∧ l.Valid ∧
      v.Matches e ∧ v.Matches l ∧ e.le l = true := by
  obtain ⟨a, b, c⟩ := lo_hi_valid hv
  have hlo : v.lo.f < 1000000 ∨ v.sec.isSome = true := by
    cases v <;> simp [DicomTime.lo, DicomTime.sec]
  have hhi : v.hi.f < 1000000 ∨ v.sec.isSome = true := by
    cases v <;> simp [DicomTime.hi, DicomTime.sec]
  refine ⟨_, _, time_earliest_eq hv, time_latest_eq hv, a, b, ?_, ?_, c⟩
  · rw [time_matches_iff v hv _ a hlo]
    exact ⟨by simp [NaiveTime.le_iff], c⟩
  · rw [time_matches_iff v hv _ b hhi]
    exact ⟨c, by simp [NaiveTime.le_iff]⟩

/-- a time of day chrono can represent is consistent with the value iff it lies between the bounds.
Side condition: the instant is not itself a leap second unless the value knows its second (a value
of hour or minute precision ends at `…:59.999999`, see `minute_precision_ends_before_leap_second`) -/
theorem time_instant_between (v : DicomTime) (hv : v.Valid) {e l : NaiveTime}
    (he : v.earliest = some e) (hl : v.latest = some l) (t : NaiveTime) (ht : t.Valid)
    (hs : t.f < 1000000 ∨ v.sec.isSome = true) :
    v.Matches t ↔ (e.le t = true ∧ t.le l = true) := by
  rw [time_earliest_eq hv] at he
  rw [time_latest_eq hv] at hl
  cases he; cases hl
  exact time_matches_iff v hv t ht hs

/-- the interpretation the code takes: `2359` (minute precision) ends at 23:59:59.999999, the leap
second 23:59:60.5 of that minute (chrono: 23:59:59 + 1 500 000 µs) matches its components but is
after `latest` -/
theorem minute_precision_ends_before_leap_second :
    (DicomTime.minute 23 59).Matches ⟨23, 59, 59, 1500000⟩ ∧
      (DicomTime.minute 23 59).latest = some ⟨23, 59, 59, 999999⟩ ∧
      NaiveTime.le ⟨23, 59, 59, 1500000⟩ ⟨23, 59, 59, 999999⟩ = false := by
  refine ⟨⟨rfl, ?_, ?_, ?_⟩, by decide, by decide⟩
  · intro m e; cases e; rfl
  · intro s e; cases e
  · intro f fp e; cases e

/-! ## range bounds: date-times -/

def Precise.date : Precise → NaiveDate | .naive d _ => d | .aware d _ _ => d
def Precise.time : Precise → NaiveTime | .naive _ t => t | .aware _ t _ => t
def Precise.offset : Precise → Option Int | .naive _ _ => none | .aware _ _ o => some o
/-- a real calendar date with a time of day chrono can represent (leap second included) -/
def Precise.Valid (p : Precise) : Prop := p.date.Valid ∧ p.time.Valid

/-- a precise instant agrees with every component the partial date-time knows (and has its offset) -/
def DicomDateTime.Matches (v : DicomDateTime) (p : Precise) : Prop :=
  p.offset = v.tz ∧ v.date.Matches p.date ∧ (∀ t, v.time = some t → t.Matches p.time)

theorem mkPrecise_parts (tz : Option Int) (d : NaiveDate) (t : NaiveTime) :
    (DicomDateTime.mkPrecise tz d t).date = d ∧ (DicomDateTime.mkPrecise tz d t).time = t ∧
      (DicomDateTime.mkPrecise tz d t).offset = tz := by
  cases tz <;> simp [DicomDateTime.mkPrecise, Precise.date, Precise.time, Precise.offset]

theorem precise_eq_mk (p : Precise) : p = DicomDateTime.mkPrecise p.offset p.date p.time := by
  cases p <;> rfl

/-- order of two instants built with the same (optional) offset -/
theorem le_mkPrecise (tz : Option Int) {d1 d2 : NaiveDate} {t1 t2 : NaiveTime} (hd1 : d1.Valid) (hd2 : d2.Valid)
    (ht1 : t1.Valid) (ht2 : t2.Valid) :
    (DicomDateTime.mkPrecise tz d1 t1).le? (DicomDateTime.mkPrecise tz d2 t2) = some (naiveLe d1 t1 d2 t2) := by
  cases tz with
  | none => rfl
  | some o => simp [DicomDateTime.mkPrecise, Precise.le?, awareLe_same_offset o hd1 hd2 ht1 ht2]

def midnight : NaiveTime := ⟨0, 0, 0, 0⟩
def lastMicro : NaiveTime := ⟨23, 59, 59, 999999⟩

theorem dt_earliest_eq {v : DicomDateTime} {de : NaiveDate} (hde : v.date.earliest = some de) :
    v.earliest = match v.time with
      | none => some (DicomDateTime.mkPrecise v.tz de midnight)
      | some t => t.earliest.map (DicomDateTime.mkPrecise v.tz de) := by
  simp only [DicomDateTime.earliest, hde]
  cases v.time with
  | none => simp [fromHmsMicroOpt_eq, midnight]
  | some t => cases h : t.earliest <;> simp [h]

theorem dt_latest_eq {v : DicomDateTime} {dl : NaiveDate} (hdl : v.date.latest = some dl) :
    v.latest = match v.time with
      | none => some (DicomDateTime.mkPrecise v.tz dl lastMicro)
      | some t => t.latest.map (DicomDateTime.mkPrecise v.tz dl) := by
  simp only [DicomDateTime.latest, hdl]
  cases v.time with
  | none => simp [fromHmsMicroOpt_eq, lastMicro]
  | some t => cases h : t.latest <;> simp [h]

theorem midnight_le {t : NaiveTime} : midnight.le t = true := by
  simp [NaiveTime.le_iff, midnight, NaiveTime.secs]; omega
theorem le_lastMicro {t : NaiveTime} (ht : t.Valid) (hf : t.f < 1000000) : t.le lastMicro = true := by
  simp only [NaiveTime.Valid] at ht
  simp [NaiveTime.le_iff, lastMicro, NaiveTime.secs]; omega
theorem midnight_valid : midnight.Valid := by simp [midnight, NaiveTime.Valid]
theorem lastMicro_valid : lastMicro.Valid := by simp [lastMicro, NaiveTime.Valid]

theorem mkPrecise_valid (tz : Option Int) {d : NaiveDate} {t : NaiveTime} (hd : d.Valid) (ht : t.Valid) :
    (DicomDateTime.mkPrecise tz d t).Valid := by
  obtain ⟨a, b, _⟩ := mkPrecise_parts tz d t
  simp only [Precise.Valid, a, b]; exact ⟨hd, ht⟩

theorem mkPrecise_matches (v : DicomDateTime) {d : NaiveDate} {t : NaiveTime} (hd : v.date.Matches d)
    (ht : ∀ t', v.time = some t' → t'.Matches t) : v.Matches (DicomDateTime.mkPrecise v.tz d t) := by
  obtain ⟨a, b, c⟩ := mkPrecise_parts v.tz d t
  simp only [DicomDateTime.Matches, a, b, c]; exact ⟨trivial, hd, ht⟩

theorem precise_date_bounds {d : DicomDate} (hp : d.isPrecise = true) {de dl : NaiveDate}
    (hde : d.earliest = some de) (hdl : d.latest = some dl) : dl = de := by
  cases d <;> simp [DicomDate.isPrecise, DicomDate.dy] at hp
  exact Option.some.inj (hdl.symm.trans hde)

/-- bounds of a valid date-time that denotes a day (leap seconds included): both exist, are real
instants carrying the value's offset, agree with all known components, and are ordered -/
theorem datetime_bounds (v : DicomDateTime) (hv : v.Valid) (hd : v.date.Denotes) :
    ∃ e l, v.earliest = some e ∧ v.latest = some l ∧ e.Valid ∧ l.Valid ∧
      v.Matches e ∧ v.Matches l ∧ e.le? l = some true := by
  obtain ⟨de, dl, hde, hdl, vde, vdl, mde, mdl, hdle⟩ := date_bounds v.date hv.1 hd
  rw [dt_earliest_eq hde, dt_latest_eq hdl]
  cases ht : v.time with
  | none =>
    refine ⟨_, _, rfl, rfl, mkPrecise_valid _ vde midnight_valid, mkPrecise_valid _ vdl lastMicro_valid,
      mkPrecise_matches v mde (by simp [ht]), mkPrecise_matches v mdl (by simp [ht]), ?_⟩
    rw [le_mkPrecise v.tz vde vdl midnight_valid lastMicro_valid, naiveLe]
    by_cases e : de = dl
    · subst e; simp [midnight_le]
    · simp [hdle, e]
  | some t =>
    obtain ⟨htv, hp⟩ := hv.2.1 t ht
    obtain ⟨te, tl, hte, htl, vte, vtl, mte, mtl, htle⟩ := time_bounds t htv
    obtain rfl := precise_date_bounds hp hde hdl
    simp only [hte, htl, Option.map_some]
    refine ⟨_, _, rfl, rfl, mkPrecise_valid _ vde vte, mkPrecise_valid _ vde vtl,
      mkPrecise_matches v mde (fun t' e => by rw [ht] at e; cases e; exact mte),
      mkPrecise_matches v mde (fun t' e => by rw [ht] at e; cases e; exact mtl), ?_⟩
    rw [le_mkPrecise v.tz vde vde vte vtl, naiveLe]; simp [htle]

theorem naiveLe_days {d1 d2 d : NaiveDate} {t1 t2 t : NaiveTime} (h1 : t1.le t = true) (h2 : t.le t2 = true) :
    (naiveLe d1 t1 d t = true ∧ naiveLe d t d2 t2 = true) ↔ (d1.le d = true ∧ d.le d2 = true) := by
  simp only [naiveLe_iff, h1, h2, and_true]
  constructor
  · rintro ⟨a | rfl, b | rfl⟩
    · exact ⟨a.1, b.1⟩
    · exact ⟨a.1, d.le_refl⟩
    · exact ⟨d1.le_refl, b.1⟩
    · exact ⟨d1.le_refl, d1.le_refl⟩
  · intro ⟨a, b⟩
    exact ⟨Decidable.or_iff_not_imp_right.mpr fun c => ⟨a, c⟩, Decidable.or_iff_not_imp_right.mpr fun c => ⟨b, c⟩⟩

theorem naiveLe_sameDay {d0 d : NaiveDate} {t1 t2 t : NaiveTime} :
    (naiveLe d0 t1 d t = true ∧ naiveLe d t d0 t2 = true) ↔ (d0 = d ∧ t1.le t = true ∧ t.le t2 = true) := by
  simp only [naiveLe_iff]
  constructor
  · rintro ⟨a | a, b | b⟩
    · exact absurd (NaiveDate.le_antisymm a.1 b.1) a.2
    · exact absurd b.1.symm a.2
    · exact absurd a.1.symm b.2
    · exact ⟨a.1, a.2, b.2⟩
  · rintro ⟨rfl, a, b⟩
    exact ⟨.inr ⟨rfl, a⟩, .inr ⟨rfl, b⟩⟩

/-- every real instant with the value's offset that is consistent with the known components lies
between the bounds (`PartialOrd` of `PreciseDateTime`, i.e. UTC order for aware values) — and
only those do -/
theorem datetime_instant_between (v : DicomDateTime) (hv : v.Valid) {e l : Precise}
    (he : v.earliest = some e) (hl : v.latest = some l) (p : Precise) (hp : p.Valid) (ho : p.offset = v.tz)
    (hs : p.time.f < 1000000 ∨ ∃ t, v.time = some t ∧ t.sec.isSome = true) :
    v.Matches p ↔ (e.le? p = some true ∧ p.le? l = some true) := by
  -- the date bounds exist
  have hden : v.date.Denotes := by
    refine (date_bounds_iff_denotes v.date hv.1).mp ⟨?_, ?_⟩
    · cases h : v.date.earliest
      · simp [DicomDateTime.earliest, h] at he
      · rfl
    · cases h : v.date.latest
      · simp [DicomDateTime.latest, h] at hl
      · rfl
  obtain ⟨de, dl, hde, hdl, vde, vdl, -, -, -⟩ := date_bounds v.date hv.1 hden
  have hdm := date_instant_between v.date hv.1 hde hdl p.date hp.1
  rw [dt_earliest_eq hde] at he
  rw [dt_latest_eq hdl] at hl
  rw [precise_eq_mk p, ho]
  obtain ⟨pa, pb, pc⟩ := mkPrecise_parts v.tz p.date p.time
  simp only [DicomDateTime.Matches, pa, pb, pc, true_and]
  cases ht : v.time with
  | none =>
    simp only [ht, Option.some.injEq] at he hl
    subst he hl
    have hnl : p.time.f < 1000000 := by
      rcases hs with hs | ⟨t, e, _⟩
      · exact hs
      · rw [ht] at e; cases e
    rw [le_mkPrecise v.tz vde hp.1 midnight_valid hp.2, le_mkPrecise v.tz hp.1 vdl hp.2 lastMicro_valid]
    simp only [Option.some.injEq, naiveLe_days midnight_le (le_lastMicro hp.2 hnl), hdm, reduceCtorEq,
      false_imp_iff, implies_true, and_true]
  | some t =>
    obtain ⟨htv, hpr⟩ := hv.2.1 t ht
    obtain rfl := precise_date_bounds hpr hde hdl
    obtain ⟨te, tl, hte, htl, vte, vtl, -, -, -⟩ := time_bounds t htv
    simp only [ht, hte, htl, Option.map_some, Option.some.injEq] at he hl
    subst he hl
    have hs' : p.time.f < 1000000 ∨ t.sec.isSome = true := by
      rcases hs with hs | ⟨t', e, h'⟩
      · exact Or.inl hs
      · rw [ht] at e; cases e; exact Or.inr h'
    rw [le_mkPrecise v.tz vde hp.1 vte hp.2, le_mkPrecise v.tz hp.1 vde hp.2 vtl]
    simp only [Option.some.injEq, naiveLe_sameDay, hdm, NaiveDate.le_antisymm_iff, forall_eq',
      time_instant_between t htv hte htl p.time hp.2 hs']

/-! ## range text `A-B` -/

theorem take_sep (a b : Bytes) : (a ++ 45 :: b).take a.length = a := List.take_left' rfl
theorem drop_sep (a b : Bytes) : (a ++ 45 :: b).drop (a.length + 1) = b := by
  rw [← List.drop_drop, List.drop_left' rfl]; rfl

theorem dashPosition_append {a : Bytes} (ha : ∀ b ∈ a, b ≠ 45) (r : Bytes) :
    dashPosition (a ++ 45 :: r) = some a.length := by
  induction a with
  | nil => simp [dashPosition]
  | cons x xs ih =>
    have hx : x ≠ 45 := ha x (by simp)
    have := ih (fun b hb => ha b (by simp [hb]))
    simp [dashPosition, hx, this]

theorem fixed_no_dash (w n : Nat) : ∀ b ∈ fixed w n, b ≠ 45 := by
  intro b hb
  have := fixed_isDigit w n b hb
  simp [isDigit] at this; omega

theorem date_enc_no_dash {v : DicomDate} (hv : v.Valid) : ∀ b ∈ v.toEncoded, b ≠ 45 := by
  rw [date_enc hv]
  cases v <;> simp only [List.mem_append] <;> intro b hb
  · exact fixed_no_dash _ _ b hb
  · rcases hb with hb | hb <;> exact fixed_no_dash _ _ b hb
  · rcases hb with hb | hb | hb <;> exact fixed_no_dash _ _ b hb

theorem time_enc_no_dash {v : DicomTime} (hv : v.Valid) : ∀ b ∈ v.toEncoded, b ≠ 45 := by
  rw [time_enc hv]
  cases v <;> simp only [List.mem_append, List.mem_cons] <;> intro b hb
  · exact fixed_no_dash _ _ b hb
  · rcases hb with hb | hb <;> exact fixed_no_dash _ _ b hb
  · rcases hb with hb | hb | hb <;> exact fixed_no_dash _ _ b hb
  · rcases hb with hb | hb | hb | hb | hb
    · exact fixed_no_dash _ _ b hb
    · exact fixed_no_dash _ _ b hb
    · exact fixed_no_dash _ _ b hb
    · omega
    · exact fixed_no_dash _ _ b hb

theorem date_enc_length_ge {v : DicomDate} (hv : v.Valid) : 4 ≤ v.toEncoded.length := by
  rw [date_len v hv]; cases v <;> simp [DicomDate.byteLen]
theorem time_enc_length_ge {v : DicomTime} (hv : v.Valid) : 2 ≤ v.toEncoded.length := by
  rw [time_len v hv]; cases v <;> simp [DicomTime.byteLen] <;> omega

/-- DA range `A-B`: from the earliest day of `A` to the latest day of `B`
(an error when a bound does not exist or the range is inverted) -/
theorem date_range_text (a b : DicomDate) (ha : a.Valid) (hb : b.Valid) :
    parseDateRange (a.toEncoded ++ 45 :: b.toEncoded) =
      match a.earliest, b.latest with
      | some s, some e => DateRange.fromStartToEnd s e
      | _, _ => none := by
  have la := date_enc_length_ge ha
  have lb := date_enc_length_ge hb
  have hp := dashPosition_append (date_enc_no_dash ha) b.toEncoded
  simp only [parseDateRange, hp, List.length_append, List.length_cons]
  have h1 : ¬ (a.toEncoded.length + (b.toEncoded.length + 1) < 5) := by omega
  have h2 : ¬ (a.toEncoded.length = 0) := by omega
  have h3 : ¬ (a.toEncoded.length = a.toEncoded.length + (b.toEncoded.length + 1) - 1) := by omega
  simp only [h1, h2, h3, if_false, take_sep, drop_sep, date_rt a ha, date_rt b hb]
  cases a.earliest <;> cases b.latest <;> rfl

/-- DA range `-B`: everything up to the latest day of `B` -/
theorem date_range_open_start (b : DicomDate) (hb : b.Valid) :
    parseDateRange (45 :: b.toEncoded) = b.latest.map fun e => ⟨none, some e⟩ := by
  have lb := date_enc_length_ge hb
  have h1 : ¬ (b.toEncoded.length + 1 < 5) := by omega
  simp [parseDateRange, dashPosition, h1, date_rt b hb]

/-- DA range `A-`: everything from the earliest day of `A` -/
theorem date_range_open_end (a : DicomDate) (ha : a.Valid) :
    parseDateRange (a.toEncoded ++ [45]) = a.earliest.map fun s => ⟨some s, none⟩ := by
  have la := date_enc_length_ge ha
  have hp := dashPosition_append (date_enc_no_dash ha) []
  have h1 : ¬ (a.toEncoded.length + 1 < 5) := by omega
  have h2 : ¬ (a.toEncoded.length = 0) := by omega
  simp only [parseDateRange, hp, List.length_append, List.length_cons, List.length_nil, h1, h2, if_false,
    Nat.add_sub_cancel, if_true, take_sep, date_rt a ha]

/-- TM range `A-B` -/
theorem time_range_text (a b : DicomTime) (ha : a.Valid) (hb : b.Valid) :
    parseTimeRange (a.toEncoded ++ 45 :: b.toEncoded) =
      match a.earliest, b.latest with
      | some s, some e => TimeRange.fromStartToEnd s e
      | _, _ => none := by
  have la := time_enc_length_ge ha
  have lb := time_enc_length_ge hb
  have hp := dashPosition_append (time_enc_no_dash ha) b.toEncoded
  simp only [parseTimeRange, hp, List.length_append, List.length_cons]
  have h1 : ¬ (a.toEncoded.length + (b.toEncoded.length + 1) < 3) := by omega
  have h2 : ¬ (a.toEncoded.length = 0) := by omega
  have h3 : ¬ (a.toEncoded.length = a.toEncoded.length + (b.toEncoded.length + 1) - 1) := by omega
  simp only [h1, h2, h3, if_false, take_sep, drop_sep, time_rt a ha, time_rt b hb]
  cases a.earliest <;> cases b.latest <;> rfl

theorem time_range_open_start (b : DicomTime) (hb : b.Valid) :
    parseTimeRange (45 :: b.toEncoded) = b.latest.map fun e => ⟨none, some e⟩ := by
  have lb := time_enc_length_ge hb
  have h1 : ¬ (b.toEncoded.length + 1 < 3) := by omega
  simp [parseTimeRange, dashPosition, h1, time_rt b hb]

theorem time_range_open_end (a : DicomTime) (ha : a.Valid) :
    parseTimeRange (a.toEncoded ++ [45]) = a.earliest.map fun s => ⟨some s, none⟩ := by
  have la := time_enc_length_ge ha
  have hp := dashPosition_append (time_enc_no_dash ha) []
  have h1 : ¬ (a.toEncoded.length + 1 < 3) := by omega
  have h2 : ¬ (a.toEncoded.length = 0) := by omega
  simp only [parseTimeRange, hp, List.length_append, List.length_cons, List.length_nil, h1, h2, if_false,
    Nat.add_sub_cancel, if_true, take_sep, time_rt a ha]


/-! ## DT range text -/

/-- date and time part of the encoding (no offset) -/
def DicomDateTime.body (v : DicomDateTime) : Bytes :=
  v.date.toEncoded ++ (match v.time with | some t => t.toEncoded | none => [])
def DicomDateTime.tzText (v : DicomDateTime) : Bytes :=
  match v.tz with | some o => offsetEncoded o | none => []
/-- the value carries a west (negative) offset, printed with a `-` -/
def DicomDateTime.West (v : DicomDateTime) : Prop := ∃ o, v.tz = some o ∧ o < 0
instance (v : DicomDateTime) : Decidable v.West := by
  unfold DicomDateTime.West
  cases h : v.tz with
  | none => exact isFalse (by simp)
  | some o => exact decidable_of_iff (o < 0) (by simp)

theorem dt_enc_split (v : DicomDateTime) : v.toEncoded = v.body ++ v.tzText := by
  obtain ⟨d, t, o⟩ := v
  cases t <;> cases o <;> simp [DicomDateTime.toEncoded, DicomDateTime.body, DicomDateTime.tzText]

theorem body_no_dash {v : DicomDateTime} (hv : v.Valid) : ∀ b ∈ v.body, b ≠ 45 := by
  obtain ⟨d, t, o⟩ := v
  obtain ⟨hd, ht, -⟩ := hv
  intro b hb
  simp only [DicomDateTime.body, List.mem_append] at hb
  rcases hb with hb | hb
  · exact date_enc_no_dash hd b hb
  · cases t with
    | none => simp at hb
    | some t => exact time_enc_no_dash (ht t rfl).1 b hb

theorem dashFrom_no_dash {a : Bytes} (ha : ∀ b ∈ a, b ≠ 45) (i : Nat) : dashIndexesFrom i a = [] := by
  induction a generalizing i with
  | nil => rfl
  | cons x xs ih =>
    have hx : x ≠ 45 := ha x (by simp)
    simp [dashIndexesFrom, hx, ih (fun b hb => ha b (by simp [hb]))]

theorem dashFrom_append (a b : Bytes) (i : Nat) :
    dashIndexesFrom i (a ++ b) = dashIndexesFrom i a ++ dashIndexesFrom (i + a.length) b := by
  induction a generalizing i with
  | nil => simp [dashIndexesFrom]
  | cons x xs ih =>
    by_cases hx : x = 45 <;> simp [dashIndexesFrom, hx, ih, Nat.add_assoc, Nat.add_comm 1]

theorem dashFrom_tzText {v : DicomDateTime} (hv : v.Valid) (i : Nat) :
    dashIndexesFrom i v.tzText = if v.West then [i] else [] := by
  obtain ⟨d, t, o⟩ := v
  cases o with
  | none => simp [DicomDateTime.tzText, DicomDateTime.West, dashIndexesFrom]
  | some o =>
    have ho := hv.2.2 o rfl
    simp only [DicomDateTime.tzText, DicomDateTime.West, offset_enc ho]
    have nd : dashIndexesFrom (i + 1) (fixed 2 (o.natAbs / 3600) ++ fixed 2 (o.natAbs / 60 % 60)) = [] :=
      dashFrom_no_dash (by
        intro b hb; simp only [List.mem_append] at hb
        rcases hb with hb | hb <;> exact fixed_no_dash _ _ b hb) _
    by_cases hneg : o < 0 <;> simp [hneg, dashIndexesFrom, nd]

theorem dashFrom_enc {v : DicomDateTime} (hv : v.Valid) (i : Nat) :
    dashIndexesFrom i v.toEncoded = if v.West then [i + v.body.length] else [] := by
  rw [dt_enc_split, dashFrom_append, dashFrom_no_dash (body_no_dash hv), dashFrom_tzText hv]; simp

theorem dashes_of_range {a b : DicomDateTime} (ha : a.Valid) (hb : b.Valid) :
    dashIndexes (a.toEncoded ++ 45 :: b.toEncoded) =
      (if a.West then [a.body.length] else []) ++ a.toEncoded.length ::
        (if b.West then [a.toEncoded.length + 1 + b.body.length] else []) := by
  simp [dashIndexes, dashFrom_append, dashFrom_enc ha, dashFrom_enc hb, dashIndexesFrom]

theorem dt_enc_length_ge {v : DicomDateTime} (hv : v.Valid) : 4 ≤ v.toEncoded.length := by
  rw [dt_enc_split]; simp only [DicomDateTime.body, List.length_append]
  have := date_enc_length_ge hv.1; omega

theorem fixed_succ_head (w n : Nat) : ∃ x r, fixed (w + 1) n = x :: r ∧ x ≠ 45 := by
  have hl := fixed_length (w + 1) n
  cases h : fixed (w + 1) n with
  | nil => rw [h] at hl; simp at hl
  | cons x r => exact ⟨x, r, rfl, fixed_no_dash (w + 1) n x (by rw [h]; simp)⟩

theorem dt_enc_year {v : DicomDateTime} (hv : v.Valid) : ∃ r, v.toEncoded = fixed 4 v.date.yr ++ r := by
  obtain ⟨d, t, o⟩ := v
  have hd : d.Valid := hv.1
  rw [dt_enc_split]; simp only [DicomDateTime.body]
  rw [date_enc hd]
  cases d <;> simp only [DicomDate.yr, List.append_assoc] <;> exact ⟨_, rfl⟩

theorem dt_enc_head {v : DicomDateTime} (hv : v.Valid) (r : Bytes) : (v.toEncoded ++ r).head? ≠ some 45 := by
  obtain ⟨r', e⟩ := dt_enc_year hv
  obtain ⟨x, t, e2, hx⟩ := fixed_succ_head 3 v.date.yr
  rw [e, e2]; simp [hx]

def EndsNoDash (l : Bytes) : Prop := ∃ p z, l = p ++ [z] ∧ z ≠ 45

theorem EndsNoDash.append (pre : Bytes) {l : Bytes} : EndsNoDash l → EndsNoDash (pre ++ l) :=
  fun ⟨p, z, e, h⟩ => ⟨pre ++ p, z, by rw [e, List.append_assoc], h⟩

theorem EndsNoDash.cons (x : Nat) {l : Bytes} (h : EndsNoDash l) : EndsNoDash (x :: l) := h.append [x]

theorem endsNoDash_fixed (w n : Nat) : EndsNoDash (fixed (w + 1) n) := ⟨_, _, rfl, by omega⟩

theorem date_endsNoDash {v : DicomDate} (hv : v.Valid) : EndsNoDash v.toEncoded := by
  rw [date_enc hv]
  cases v with
  | year y => exact endsNoDash_fixed 3 y
  | month y m => exact .append _ (endsNoDash_fixed 1 m)
  | day y m d => exact .append _ (.append _ (endsNoDash_fixed 1 d))

theorem time_endsNoDash {v : DicomTime} (hv : v.Valid) : EndsNoDash v.toEncoded := by
  rw [time_enc hv]
  cases v with
  | hour h => exact endsNoDash_fixed 1 h
  | minute h m => exact .append _ (endsNoDash_fixed 1 m)
  | second h m s => exact .append _ (.append _ (endsNoDash_fixed 1 s))
  | fraction h m s f fp =>
    obtain ⟨k, rfl⟩ : ∃ k, fp = k + 1 := ⟨fp - 1, by have := hv.2.2.2.1; omega⟩
    exact .append _ (.append _ (.append _ (.cons 46 (endsNoDash_fixed k f))))

theorem dt_enc_last {v : DicomDateTime} (hv : v.Valid) : EndsNoDash v.toEncoded := by
  obtain ⟨d, t, o⟩ := v
  obtain ⟨hd, ht, ho⟩ := hv
  rw [dt_enc_split]
  cases o with
  | some o =>
    simp only [DicomDateTime.tzText, offset_enc (ho o rfl)]
    exact .append _ (.cons _ (.append _ (endsNoDash_fixed 1 _)))
  | none =>
    simp only [DicomDateTime.tzText, List.append_nil, DicomDateTime.body]
    cases t with
    | none => simpa using date_endsNoDash hd
    | some t => exact .append _ (time_endsNoDash (ht t rfl).1)

theorem getLast_range {a b : DicomDateTime} (hb : b.Valid) :
    (a.toEncoded ++ 45 :: b.toEncoded).getLast? ≠ some 45 := by
  obtain ⟨p, z, e, hz⟩ := dt_enc_last hb
  have : a.toEncoded ++ 45 :: (p ++ [z]) = (a.toEncoded ++ 45 :: p) ++ [z] := by simp
  rw [e, this, List.getLast?_concat]
  simp [hz]

/-- the split of `A-B` at the separator, evaluated: earliest of `A`, latest of `B` -/
theorem dtRangeAt_sep (amb : Ambig) {a b : DicomDateTime} (ha : a.Valid) (hb : b.Valid) :
    dtRangeAt amb (a.toEncoded ++ 45 :: b.toEncoded) a.toEncoded.length =
      match a.earliest, b.latest with
      | some s, some e => mkDateTimeRange amb s e
      | _, _ => none := by
  simp only [dtRangeAt, take_sep, drop_sep, datetime_rt a ha, datetime_rt b hb]
  cases a.earliest <;> cases b.latest <;> rfl

theorem range_prelude {a b : DicomDateTime} (ha : a.Valid) (hb : b.Valid) :
    ¬ ((a.toEncoded ++ 45 :: b.toEncoded).length < 5) ∧
    (a.toEncoded ++ 45 :: b.toEncoded).head? ≠ some 45 ∧
    (a.toEncoded ++ 45 :: b.toEncoded).getLast? ≠ some 45 := by
  have la := dt_enc_length_ge ha
  exact ⟨by simp; omega, dt_enc_head ha (45 :: b.toEncoded), getLast_range (a := a) hb⟩

/-- DT range `A-B` where neither value carries a west offset (one dash): from the earliest instant
of `A` to the latest instant of `B`; like variants are checked for inversion, mixed
aware/naive pairs go to the ambiguity handler -/
theorem datetime_range_text (amb : Ambig) (a b : DicomDateTime) (ha : a.Valid) (hb : b.Valid)
    (wa : ¬ a.West) (wb : ¬ b.West) :
    parseDateTimeRange amb (a.toEncoded ++ 45 :: b.toEncoded) =
      match a.earliest, b.latest with
      | some s, some e => mkDateTimeRange amb s e
      | _, _ => none := by
  obtain ⟨h1, h2, h3⟩ := range_prelude ha hb
  simp only [parseDateTimeRange, h1, h2, h3, if_false, dashes_of_range ha hb, wa, wb, List.nil_append]
  exact dtRangeAt_sep amb ha hb

/-- DT range `A-B` where both values carry a west offset (three dashes: the middle one separates) -/
theorem datetime_range_text_both_west (amb : Ambig) (a b : DicomDateTime) (ha : a.Valid) (hb : b.Valid)
    (wa : a.West) (wb : b.West) :
    parseDateTimeRange amb (a.toEncoded ++ 45 :: b.toEncoded) =
      match a.earliest, b.latest with
      | some s, some e => mkDateTimeRange amb s e
      | _, _ => none := by
  obtain ⟨h1, h2, h3⟩ := range_prelude ha hb
  simp only [parseDateTimeRange, h1, h2, h3, if_false, dashes_of_range ha hb, wa, wb, if_true, List.cons_append,
    List.nil_append]
  exact dtRangeAt_sep amb ha hb

/-- DT range `A-B` where only `B` carries a west offset (two dashes, the first separates): whenever
earliest(A) … latest(B) is a valid range, it is the result -/
theorem datetime_range_text_west_end (amb : Ambig) (a b : DicomDateTime) (ha : a.Valid) (hb : b.Valid)
    (wa : ¬ a.West) (wb : b.West) {s e : Precise} {r : DateTimeRange}
    (hs : a.earliest = some s) (he : b.latest = some e) (hr : mkDateTimeRange amb s e = some r) :
    parseDateTimeRange amb (a.toEncoded ++ 45 :: b.toEncoded) = some r := by
  obtain ⟨h1, h2, h3⟩ := range_prelude ha hb
  simp only [parseDateTimeRange, h1, h2, h3, if_false, dashes_of_range ha hb, wa, wb, if_true, List.nil_append]
  simp only [take_sep, drop_sep, datetime_rt a ha, datetime_rt b hb, hs, he, hr]


theorem fixed_4_split (y : Nat) : fixed 4 y = fixed 2 (y / 100) ++ fixed 2 (y % 100) := by
  rw [fixed_append 2 (by omega : y % 100 < 10 ^ 2)]; congr 1; omega

/-- what stands right of the *first* dash when only `A` has a west offset: `hhmm-B…`.  It reads as
year `hhmm` with offset `-YYYY` taken from `B`'s year, which is out of range when that year
exceeds 1200 — so it is not a date-time, and the parser moves on to the second dash. -/
theorem west_digits_then_range_fail {hh mm : Nat} (h1 : hh < 100) (h2 : mm < 100) {b : DicomDateTime} (hb : b.Valid)
    (hy : 1200 < b.date.yr) :
    parseDateTimePartial (fixed 2 hh ++ (fixed 2 mm ++ 45 :: b.toEncoded)) = none := by
  obtain ⟨r, e⟩ := dt_enc_year hb
  have hyv : b.date.yr ≤ 9999 := by
    have := hb.1; cases h : b.date <;> rw [h] at this <;> simp [DicomDate.Valid] at this <;> simp [DicomDate.yr] <;> omega
  have hY : hh * 100 + mm ≤ 9999 := by omega
  have hv : (DicomDate.year (hh * 100 + mm)).Valid := hY
  obtain ⟨x, t, e2, -⟩ := fixed_succ_head 3 b.date.yr
  have hnd : NoDigitPair (45 :: b.toEncoded) := by
    right; rw [e, e2]; simp [readNumber, isDigit]
  have pd := parseDate_ext hv (45 :: b.toEncoded) (Or.inr hnd)
  rw [date_enc hv] at pd
  simp only at pd
  have pt : parseTimePartial (45 :: b.toEncoded) = none := by
    rw [e, e2]; simp [parseTimePartial, readNumber, isDigit]
  have ptz : parseTzSuffix (45 :: b.toEncoded) = none := by
    rw [e, fixed_4_split]
    have a1 : b.date.yr / 100 ≤ 99 := by omega
    have a2 : b.date.yr % 100 ≤ 99 := by omega
    simp only [parseTzSuffix, List.append_assoc, take_fixed, drop_fixed, readNumber_fixed2 a1, readNumber_fixed2 a2]
    have : ¬ ((b.date.yr / 100 * 60 + b.date.yr % 100) * 60 ≤ 12 * 3600) := by omega
    simp [checkComponent, this]
  rw [← List.append_assoc, fixed_append 2 (by omega : mm < 10 ^ 2)]
  simp only [parseDateTimePartial, pd, pt, ptz]

/-- DT range `A-B` where only `A` carries a west offset (two dashes, the second separates) and the
year of `B` is later than 1200 (the format's own ambiguity, documented at `parse_datetime_range`,
is excluded by that) -/
theorem datetime_range_text_west_start (amb : Ambig) (a b : DicomDateTime) (ha : a.Valid) (hb : b.Valid)
    (wa : a.West) (wb : ¬ b.West) (hy : 1200 < b.date.yr) :
    parseDateTimeRange amb (a.toEncoded ++ 45 :: b.toEncoded) =
      match a.earliest, b.latest with
      | some s, some e => mkDateTimeRange amb s e
      | _, _ => none := by
  obtain ⟨h1, h2, h3⟩ := range_prelude ha hb
  simp only [parseDateTimeRange, h1, h2, h3, if_false, dashes_of_range ha hb, wa, wb, if_true, List.cons_append,
    List.nil_append]
  obtain ⟨o, ho, hneg⟩ := wa
  have hov := ha.2.2 o ho
  have htz : a.tzText = 45 :: (fixed 2 (o.natAbs / 3600) ++ fixed 2 (o.natAbs / 60 % 60)) := by
    simp [DicomDateTime.tzText, ho, offset_enc hov, hneg]
  have hdrop : List.drop (a.body.length + 1) (a.toEncoded ++ 45 :: b.toEncoded) =
      fixed 2 (o.natAbs / 3600) ++ (fixed 2 (o.natAbs / 60 % 60) ++ 45 :: b.toEncoded) := by
    rw [dt_enc_split, htz, List.append_assoc, ← List.drop_drop, List.drop_left' rfl]
    simp [List.append_assoc]
  obtain ⟨_, lo, hi⟩ := hov
  have g := west_digits_then_range_fail (hh := o.natAbs / 3600) (mm := o.natAbs / 60 % 60) (by omega) (by omega) hb hy
  rw [hdrop, g]
  cases parseDateTimePartial (List.take a.body.length (a.toEncoded ++ 45 :: b.toEncoded)) <;>
    exact dtRangeAt_sep amb ha hb


/-- DT range `-B`: everything up to the latest instant of `B` -/
theorem datetime_range_open_start (amb : Ambig) (b : DicomDateTime) (hb : b.Valid) :
    parseDateTimeRange amb (45 :: b.toEncoded) =
      b.latest.map fun e => ⟨(match e with | .aware .. => true | .naive .. => false), none, some e⟩ := by
  have lb := dt_enc_length_ge hb
  have h1 : ¬ ((45 :: b.toEncoded).length < 5) := by simp; omega
  simp only [parseDateTimeRange, h1, if_false, List.head?_cons, if_true, List.drop_succ_cons, List.drop_zero,
    datetime_rt b hb]
  cases b.latest <;> rfl

/-- DT range `A-`: everything from the earliest instant of `A` -/
theorem datetime_range_open_end (amb : Ambig) (a : DicomDateTime) (ha : a.Valid) :
    parseDateTimeRange amb (a.toEncoded ++ [45]) =
      a.earliest.map fun s => ⟨(match s with | .aware .. => true | .naive .. => false), some s, none⟩ := by
  have la := dt_enc_length_ge ha
  have h1 : ¬ ((a.toEncoded ++ [45]).length < 5) := by simp; omega
  have h2 := dt_enc_head ha [45]
  have h3 : (a.toEncoded ++ [45]).getLast? = some 45 := List.getLast?_concat
  have t1 : List.take ((a.toEncoded ++ [45]).length - 1) (a.toEncoded ++ [45]) = a.toEncoded := by
    simp
  simp only [parseDateTimeRange, h1, h2, h3, if_false, if_true, t1, datetime_rt a ha]
  cases a.earliest <;> rfl

/-! ## the hypotheses are needed, and are satisfiable -/

/-- a leap second is a valid value, round-trips (`time_rt`) and has bounds in chrono's leap-second
representation (second 59, 1 000 000 … 1 999 999 µs) -/
theorem leap_second_bounds :
    (DicomTime.second 23 59 60).Valid ∧ DicomTime.fromHms 23 59 60 = some (.second 23 59 60) ∧
      (DicomTime.second 23 59 60).earliest = some ⟨23, 59, 59, 1000000⟩ ∧
      (DicomTime.second 23 59 60).latest = some ⟨23, 59, 59, 1999999⟩ ∧
      (DicomTime.fraction 23 59 60 5 6).exact = some ⟨23, 59, 59, 1000005⟩ := by decide

/-- 30 February is accepted by `from_ymd` (day 1..31) but denotes no day: no bounds -/
theorem feb30_valid_without_bounds :
    (DicomDate.day 2021 2 30).Valid ∧ (DicomDate.day 2021 2 30).earliest = none := by decide

/-- an offset with a seconds part is printed as `+HHMMSS`; the parser reads `+HHMM`: no round trip,
and the text is longer than the reported length -/
theorem offset_seconds_not_roundtrip :
    let v : DicomDateTime := ⟨.year 2000, none, some 3630⟩
    parseDateTimePartial v.toEncoded = some ⟨.year 2000, none, some 3600⟩ ∧ v.toEncoded.length ≠ v.byteLen := by decide

/-- `+15:00` is a `FixedOffset` but not a DICOM offset: the parser rejects the encoded text -/
theorem offset_out_of_range_not_roundtrip :
    parseDateTimePartial (DicomDateTime.toEncoded ⟨.year 2000, none, some 54000⟩) = none := by decide

/-- the documented ambiguity of `parse_datetime_range`: `0050-0100` – `1100+0100` (only the first
value has a west offset, the year of the second is ≤ 1200) is read as `0050` – `0100-1100` -/
theorem dash_caveat_witness :
    let a : DicomDateTime := ⟨.year 50, none, some (-3600)⟩
    let b : DicomDateTime := ⟨.year 1100, none, some 3600⟩
    parseDateTimeRange .toKnown (a.toEncoded ++ 45 :: b.toEncoded) ≠
      (match a.earliest, b.latest with
        | some s, some e => mkDateTimeRange .toKnown s e
        | _, _ => none) := by decide

/-- non-vacuity: a valid date-time with fraction and west offset, with all the properties at once -/
def sampleDT : DicomDateTime := ⟨.day 2024 2 29, some (.fraction 23 59 59 1234 4), some (-34200)⟩

theorem sampleDT_valid : sampleDT.Valid := by
  refine ⟨by decide, ?_, ?_⟩
  · intro t ht; cases ht; decide
  · intro o ho; cases ho; decide

example : sampleDT.Valid ∧ sampleDT.date.Denotes ∧ sampleDT.West ∧
    parseDateTimePartial sampleDT.toEncoded = some sampleDT ∧
    sampleDT.toEncoded.length = sampleDT.byteLen ∧ sampleDT.earliest.isSome ∧ sampleDT.latest.isSome :=
  ⟨sampleDT_valid, by show 29 ≤ daysInMonth 2024 2; decide, ⟨-34200, rfl, by decide⟩, by decide, by decide,
    by decide, by decide⟩


end Dicom.Partial
