import DicomModel.Model.PersonName
import DicomModel.Lemmas.PersonName
/-
C17 — Person names round-trip between text and components.

`PN.toDicomString` / `PN.fromText` model `PersonName::to_dicom_string` / `from_text`.
Hypothesis on each present component (`CompOk`): no `'^'`, no Unicode white space at either end
(`str::trim` strips `char::is_whitespace`, not just U+0020). `'='` need not be excluded.
"Same components" is up to `normEmpty`: a component that is present but empty (`Some("")`, only
reachable through the builder) denotes the same DICOM name as an absent one and parses back absent.
All 32 presence patterns are covered by one proof over component lists of any length.
-/
namespace Dicom.PN

/-- General form over component lists of any length: the `i`-th component parsed from the written
text is the `i`-th component (absent beyond the end), present-but-empty read as absent. -/
theorem component_rt (cs : List Comp) (h : ∀ c ∈ cs, CompOk c = true) (i : Nat) :
    component (splitCaret (trim (toTextL cs))) i = normEmpty (cs[i]?.join) := by
  have hs : ∀ c ∈ stripTrailingNone cs, CompOk c = true := fun c hc => h c (strip_subset cs c hc)
  unfold toTextL
  rw [trim_id (join_ends _ hs).1 (join_ends _ hs).2, ← getElem?_join_strip]
  by_cases he : stripTrailingNone cs = []
  · simp [he, joinCaret, splitCaret, component_empty, normEmpty]
  · rw [split_join _ he (fun c hc => compOk_noCaret (hs c hc)), component_map]

/-- **C17, round trip.** For every person name whose present components contain no `'^'` and have
no white space at either end (all 32 presence patterns, any texts), parsing the written DICOM text
gives back the same components (present-but-empty read as absent). -/
theorem pn_rt (p : PN) (h : p.Ok = true) : PN.fromText p.toDicomString = p.norm := by
  have hc : ∀ c ∈ p.comps, CompOk c = true := by
    simpa [PN.Ok, List.all_eq_true] using h
  have k := component_rt p.comps hc
  simp only [PN.fromText, PN.toDicomString, PN.norm]
  rw [k 0, k 1, k 2, k 3, k 4]
  simp [PN.comps]

/-- With no present-but-empty component the round trip is the identity. -/
theorem pn_rt_id (p : PN) (h : p.Ok = true) (hn : p.norm = p) :
    PN.fromText p.toDicomString = p := by
  rw [pn_rt p h, hn]

/-- **C17, shape of the text.** The `'^'`-separated parts of the written text are exactly the
components up to the last present one, an absent component being an empty part: leading absent
components are kept as separators, trailing absent ones are omitted (nothing is written for a
name with no present component). -/
theorem text_parts (cs : List Comp) (h : ∀ c ∈ cs, NoCaret c) :
    splitCaret (toTextL cs) =
      if stripTrailingNone cs = [] then [[]] else (stripTrailingNone cs).map (·.getD []) := by
  unfold toTextL
  split
  · next he => simp [he, joinCaret, splitCaret]
  · next he => exact split_join _ he (fun c hc => h c (strip_subset cs c hc))

theorem strip_ne_nil {cs : List Comp} (hp : lastPresent cs ≠ 0) : stripTrailingNone cs ≠ [] :=
  fun e => hp (congrArg List.length e)

/-- The number of parts is the position of the last present component. -/
theorem text_parts_length (cs : List Comp) (h : ∀ c ∈ cs, NoCaret c) (hp : lastPresent cs ≠ 0) :
    (splitCaret (toTextL cs)).length = lastPresent cs := by
  rw [text_parts cs h]
  simp [strip_ne_nil hp, lastPresent]

/-- Trailing absent components are omitted: when no component is present-but-empty, the written
text does not end in a separator, i.e. its last part is a non-empty component text. -/
theorem no_trailing_separator (cs : List Comp) (h : ∀ c ∈ cs, NoCaret c)
    (hn : ∀ c ∈ cs, c ≠ some []) (hp : lastPresent cs ≠ 0) :
    ∃ s, (splitCaret (toTextL cs)).getLast? = some s ∧ s ≠ [] ∧ some s ∈ cs := by
  have hne := strip_ne_nil hp
  rw [text_parts cs h]
  simp only [hne, if_false, List.getLast?_map]
  have hl := strip_last cs
  cases hg : (stripTrailingNone cs).getLast? with
  | none => simp [List.getLast?_eq_none_iff] at hg; exact absurd hg hne
  | some c =>
    cases c with
    | none => exact absurd hg hl
    | some s =>
      have hm : some s ∈ cs := strip_subset cs _ (List.mem_of_getLast? hg)
      refine ⟨s, by simp, ?_, hm⟩
      intro e; subst e; exact hn _ hm rfl

/-- The hypothesis is needed: a component with `'^'` does not come back. -/
theorem caret_in_component_fails :
    PN.fromText (PN.toDicomString ⟨some ['A', '^', 'B'], none, none, none, none⟩)
      ≠ ⟨some ['A', '^', 'B'], none, none, none, none⟩ := by decide

/-- … nor does a component with a leading space. -/
theorem leading_space_fails :
    PN.fromText (PN.toDicomString ⟨some [' ', 'A'], none, none, none, none⟩)
      ≠ ⟨some [' ', 'A'], none, none, none, none⟩ := by decide

/-- A present-but-empty component is read back absent (why the statement is up to `norm`). -/
theorem present_empty_reads_absent :
    PN.fromText (PN.toDicomString ⟨some ['A'], none, none, none, some []⟩)
      = ⟨some ['A'], none, none, none, none⟩ := by decide

/-- non-vacuity: the test names of the repository satisfy the hypotheses -/
example : (PN.Ok ⟨some "Adams".toList, some "John".toList, none, some "Rev.".toList, none⟩ = true) ∧
    PN.toDicomString ⟨some "Adams".toList, some "John".toList, none, some "Rev.".toList, none⟩
      = "Adams^John^^Rev.".toList := by decide

example : PN.toDicomString ⟨none, none, none, none, some "B.A. M.Div.".toList⟩
      = "^^^^B.A. M.Div.".toList := by decide

end Dicom.PN
