import DicomModel.Model.Json
import DicomModel.Lemmas.Json
import DicomModel.Props.C24
/-
C23 — DICOM JSON round trip; deserialising any JSON text never panics.

Part A (`from_value_no_panic`, `from_str_no_panic`): for EVERY JSON tree (any shape, any depth,
duplicate members, conflicting fields, bad tags, bad VRs …) whose strings are UTF-8, the model of
`dicom_json::from_value` / `from_str` returns `ok` or `err`, never `panic`.  The model keeps the
panic sites of the code (`&s[1..]`, `split_at(4)`, `.expect("failed to parse tag part")`, the
final `unreachable!()`), and the theorems show that they are not reachable in the repaired code.
Part B (`json_rt`, `json_rt_text`): every well-typed data set without encapsulated pixel data
comes back from `to_value`/`from_value` and `to_string`/`from_str` as `normDs ds` — exactly the
documented normalisations — by structural induction over nested sequences of any depth.
-/
set_option linter.unusedSimpArgs false
set_option linter.unusedVariables false
namespace Dicom.Json
open Dicom.Flt

theorem bind_ne_panic {α β : Type} {x : Outcome α} {f : α → Outcome β}
    (hx : x ≠ .panic) (hf : ∀ a, x = .ok a → f a ≠ .panic) : x.bind f ≠ .panic := by
  cases x with
  | ok a => exact hf a rfl
  | err => simp
  | panic => exact absurd rfl hx

theorem map_ne_panic {α β : Type} {x : Outcome α} {f : α → β}
    (hx : x ≠ .panic) : x.map f ≠ .panic := by
  cases x <;> simp_all

theorem bind_spec {α β : Type} {x : Outcome α} {f : α → Outcome β} {P : β → Prop}
    (hx : x ≠ .panic) (hf : ∀ a, x = .ok a → f a ≠ .panic ∧ ∀ b, f a = .ok b → P b) :
    x.bind f ≠ .panic ∧ ∀ b, x.bind f = .ok b → P b := by
  cases x with
  | ok a => exact hf a rfl
  | err => exact ⟨nofun, nofun⟩
  | panic => exact absurd rfl hx

theorem err_spec {β : Type} {P : β → Prop} :
    (.err : Outcome β) ≠ .panic ∧ ∀ b, Outcome.err = .ok b → P b := ⟨nofun, nofun⟩

theorem map_eq_ok {α β : Type} {x : Outcome α} {f : α → β} {b : β} (h : x.map f = .ok b) :
    ∃ a, x = .ok a ∧ f a = b := by
  cases x with
  | ok a => exact ⟨a, rfl, by cases h; rfl⟩
  | err => cases h
  | panic => cases h

theorem bind_eq_ok {α β : Type} {x : Outcome α} {f : α → Outcome β} {b : β}
    (h : x.bind f = .ok b) : ∃ a, x = .ok a ∧ f a = .ok b := by
  cases x with
  | ok a => exact ⟨a, rfl, h⟩
  | err => cases h
  | panic => cases h

theorem ensure_ne_panic (c : Bool) : ensure c ≠ .panic := by
  unfold ensure; split <;> simp

theorem ofOption_ne_panic {α : Type} (o : Option α) : ofOption o ≠ .panic := by
  cases o <;> simp [ofOption]

theorem mapM_ne_panic {α β : Type} (f : α → Outcome β) :
    ∀ (l : List α), (∀ a ∈ l, f a ≠ .panic) → mapM f l ≠ .panic
  | [], _ => nofun
  | a :: r, h => by
    simp only [mapM]
    refine bind_ne_panic (h a (by simp)) fun b _ => map_ne_panic ?_
    exact mapM_ne_panic f r fun x hx => h x (by simp [hx])

theorem utf8ok_head {b : Nat} {r : Bytes} (h : utf8ok (b :: r) = true) : isCont b = false := by
  cases hc : isCont b with
  | false => rfl
  | true =>
    -- a continuation byte takes none of the lead-byte branches
    simp only [isCont, Bool.and_eq_true, decide_eq_true_eq] at hc
    unfold utf8ok at h
    rw [if_neg (by omega), if_neg (by simp; omega), if_neg (by simp; omega),
      if_neg (by simp; omega)] at h
    cases h

theorem utf8ok_tail_ascii {b : Nat} {r : Bytes} (hb : b < 128) (h : utf8ok (b :: r) = true) :
    utf8ok r = true := by
  unfold utf8ok at h
  rwa [if_pos hb] at h

theorem ensure_ok {c : Bool} {u : Unit} (h : ensure c = .ok u) : c = true := by
  cases c with
  | true => rfl
  | false => cases h

/-- `ensure!(s.starts_with(c)); &s[1..]` for an ASCII `c` on a Rust string: the slice is on a char
boundary, and what follows sees a Rust string again -/
theorem skip_ascii_ne_panic {β : Type} {c : Nat} (hc : c < 128) {s : Bytes} (hu : utf8ok s = true)
    {f : Bytes → Outcome β} (hf : ∀ r, utf8ok r = true → f r ≠ .panic) :
    ((ensure (s.head? == some c)).bind fun _ => (sliceFrom s 1).bind f) ≠ .panic := by
  refine bind_ne_panic (ensure_ne_panic _) fun _ he => ?_
  cases s with
  | nil => cases ensure_ok he
  | cons b r =>
    have hb : b = c := by simpa using ensure_ok he
    have hr := utf8ok_tail_ascii (hb ▸ hc) hu
    have h1 : isCharBoundary (b :: r) 1 = true := by
      cases r with
      | nil => rfl
      | cons c t => simp [isCharBoundary, utf8ok_head hr]
    rw [sliceFrom, if_pos h1]
    exact hf r hr

theorem hexDigitVal_isSome {b : Nat} (h : isHexDigit b = true) : ∃ d, hexDigitVal b = some d := by
  unfold hexDigitVal
  split
  · exact ⟨_, rfl⟩
  · split
    · exact ⟨_, rfl⟩
    · split
      · exact ⟨_, rfl⟩
      · rename_i h1 h2 h3
        simp [isHexDigit, h1, h2, h3] at h

theorem parseHex_some : ∀ (l : Bytes) (acc : Nat), l.all isHexDigit = true →
    ∃ n, l.foldl (fun acc b => match acc, hexDigitVal b with
      | some a, some d => some (a * 16 + d)
      | _, _ => none) (some acc) = some n
  | [], acc, _ => ⟨acc, rfl⟩
  | b :: r, acc, h => by
    rw [List.all_cons, Bool.and_eq_true] at h
    obtain ⟨d, hd⟩ := hexDigitVal_isSome h.1
    rw [List.foldl_cons, hd]
    exact parseHex_some r _ h.2

theorem isCharBoundary_four {s : Bytes} (h : isCharBoundary s 4 = true) : 4 ≤ s.length :=
  -- a shorter string has no byte 4 and does not end there
  Nat.le_of_not_lt fun hl => by
    simp [isCharBoundary, List.getElem?_eq_none (Nat.le_of_lt hl), Nat.ne_of_gt hl] at h

theorem parseTagPart_spec (s : Bytes) :
    parseTagPart s ≠ .panic ∧
    ∀ p, parseTagPart s = .ok p → p.2 = s.drop 4 ∧ (s.take 4).all isHexDigit = true := by
  unfold parseTagPart
  refine bind_spec (ensure_ne_panic _) fun _ hb => ?_
  have hb := ensure_ok hb
  rw [splitAtB, if_pos hb, Outcome.bind_ok]
  refine bind_spec (ensure_ne_panic _) fun _ hh => ?_
  have hh := ensure_ok hh
  -- four hex digits do parse: `.expect("failed to parse tag part")` is not reached
  obtain ⟨n, hn⟩ := parseHex_some (s.take 4) 0 hh
  have hp : parseHex (s.take 4) = some n := by
    cases s with
    | nil => exact absurd (isCharBoundary_four hb) (by decide)
    | cons b r => exact hn
  rw [hp]
  exact ⟨nofun, fun p h => by cases h; exact ⟨rfl, hh⟩⟩

theorem utf8ok_drop_ascii : ∀ (k : Nat) (s : Bytes), utf8ok s = true →
    (s.take k).all isHexDigit = true → utf8ok (s.drop k) = true
  | 0, s, h, _ => h
  | k + 1, [], h, _ => h
  | k + 1, b :: r, h, hh => by
    rw [List.take_succ_cons, List.all_cons, Bool.and_eq_true] at hh
    have hb : b < 128 := by
      have := hh.1
      simp [isHexDigit] at this
      omega
    exact utf8ok_drop_ascii k r (utf8ok_tail_ascii hb h) hh.2

theorem parseTagPart_bind_ne_panic {β : Type} {s : Bytes} (hu : utf8ok s = true)
    {f : Nat × Bytes → Outcome β} (hf : ∀ p, utf8ok p.2 = true → f p ≠ .panic) :
    (parseTagPart s).bind f ≠ .panic :=
  bind_ne_panic (parseTagPart_spec s).1 fun p hp => by
    obtain ⟨h1, h2⟩ := (parseTagPart_spec s).2 p hp
    exact hf p (h1 ▸ utf8ok_drop_ascii 4 s hu h2)

/-- `Tag::from_str` (repaired) never panics on a Rust string -/
theorem parseTag_ne_panic (s : Bytes) (hu : utf8ok s = true) : parseTag s ≠ .panic := by
  unfold parseTag
  split
  · -- (gggg,eeee)
    exact skip_ascii_ne_panic (by decide) hu fun s1 h1 =>
      parseTagPart_bind_ne_panic h1 fun (g, rest) hr =>
      skip_ascii_ne_panic (by decide) hr fun r1 hr1 =>
      parseTagPart_bind_ne_panic hr1 fun _ _ => map_ne_panic (ensure_ne_panic _)
  · split
    · -- gggg,eeee
      exact parseTagPart_bind_ne_panic hu fun (g, rest) hr =>
        skip_ascii_ne_panic (by decide) hr fun r1 _ => map_ne_panic (parseTagPart_spec r1).1
    · split
      · -- ggggeeee
        exact parseTagPart_bind_ne_panic hu fun (g, rest) _ =>
          map_ne_panic (parseTagPart_spec rest).1
      · nofun

theorem utf8List_mem : ∀ (xs : List J), utf8List xs = true → ∀ x ∈ xs, x.utf8 = true
  | [], _, x, hx => by simp at hx
  | y :: ys, h, x, hx => by
    simp only [utf8List, Bool.and_eq_true] at h
    simp only [List.mem_cons] at hx
    cases hx with
    | inl e => rw [e]; exact h.1
    | inr e => exact utf8List_mem ys h.2 x e

theorem atItem_ne_panic (x : J) (h : x.utf8 = true) : atItem x ≠ .panic := by
  cases x <;> simp [atItem]
  case str s => exact parseTag_ne_panic s (by simpa [J.utf8] using h)

theorem textItem_ne_panic (x : J) : textItem x ≠ .panic := by cases x <;> nofun
theorem intItem_ne_panic (lo hi : Int) (x : J) : intItem lo hi x ≠ .panic := by
  cases x <;> simp [intItem]
  case num n => cases n <;> simp <;> split <;> simp
theorem natItem_ne_panic (hi : Nat) (x : J) : natItem hi x ≠ .panic := by
  cases x <;> simp [natItem]
  case num n => cases n <;> simp; split <;> simp
theorem numOrText_ne_panic (a : Num → Bool) (x : J) : numOrText a x ≠ .panic := by
  cases x <;> simp [numOrText]
  case num n => split <;> simp
theorem ntToFloat_ne_panic (F : Fmt) (x : NT) : ntToFloat F x ≠ .panic := by
  cases x <;> simp [ntToFloat, ofOption_ne_panic]
theorem ntToI64_ne_panic (x : NT) : ntToI64 x ≠ .panic := by
  cases x with
  | num n => cases n <;> simp [ntToI64]
  | text s => simp [ntToI64, ofOption_ne_panic]
theorem ntToU_ne_panic (hi : Nat) (x : NT) : ntToU hi x ≠ .panic := by
  cases x with
  | num n => cases n <;> simp [ntToU]
  | text s => simp [ntToU, ofOption_ne_panic]
theorem asStr_ne_panic (x : J) : asStr x ≠ .panic := by cases x <;> nofun
theorem optStr_ne_panic (x : J) : optStr x ≠ .panic := by cases x <;> nofun
theorem arrOf_ne_panic (x : J) : arrOf x ≠ .panic := by cases x <;> nofun

theorem ite_ne_panic {α : Type} {c : Prop} [Decidable c] {a b : Outcome α}
    (ha : c → a ≠ .panic) (hb : ¬c → b ≠ .panic) : (if c then a else b) ≠ .panic := by
  split
  · exact ha ‹_›
  · exact hb ‹_›

theorem personFields_ne_panic : ∀ (ms : List (Bytes × J)) (st : PnSt), personFields ms st ≠ .panic
  | [], st => nofun
  | (k, v) :: r, st => by
    have opt : ∀ {α : Type} (o : Option α) (x : Outcome α) (f : α → PnSt),
        x ≠ .panic → (if o.isSome then .err else x.bind fun s => personFields r (f s)) ≠ .panic :=
      fun o x f hx => ite_ne_panic (fun _ => nofun) fun _ =>
        bind_ne_panic hx fun _ _ => personFields_ne_panic r _
    rw [personFields]
    exact ite_ne_panic (fun _ => opt _ _ _ (asStr_ne_panic v)) fun _ =>
      ite_ne_panic (fun _ => opt _ _ _ (optStr_ne_panic v)) fun _ =>
      ite_ne_panic (fun _ => opt _ _ _ (optStr_ne_panic v)) fun _ => personFields_ne_panic r st

theorem personItem_ne_panic (x : J) : personItem x ≠ .panic := by
  unfold personItem
  split
  · refine bind_ne_panic (personFields_ne_panic _ _) fun st _ => ?_
    split <;> simp
  · exact bind_ne_panic (asStr_ne_panic _) fun _ _ =>
      bind_ne_panic (optStr_ne_panic _) fun _ _ => map_ne_panic (optStr_ne_panic _)
  · simp

theorem arrOf_utf8 {v : J} {xs : List J} (hv : v.utf8 = true) (h : arrOf v = .ok xs) :
    utf8List xs = true := by
  cases v <;> simp [arrOf] at h
  case arr ys => subst h; simpa [J.utf8] using hv

theorem items_ne_panic {β γ : Type} {v : J} {f : J → Outcome β} {k : List β → Outcome γ}
    (hf : ∀ a, f a ≠ .panic) (hk : ∀ ys, k ys ≠ .panic) :
    ((arrOf v).bind fun xs => (mapM f xs).bind k) ≠ .panic :=
  bind_ne_panic (arrOf_ne_panic v) fun xs _ =>
    bind_ne_panic (mapM_ne_panic f xs fun a _ => hf a) fun ys _ => hk ys

/-- the per-VR conversion of a `"Value"` never panics -/
theorem convertPrim_ne_panic (vr : VR) (v : J) (hv : v.utf8 = true) :
    convertPrim vr v ≠ .panic := by
  have ok : ∀ {α β : Type} (C : α → β) (ys : α), Outcome.ok (C ys) ≠ .panic := fun _ _ => nofun
  have nt : ∀ {α : Type} (g : NT → Outcome α) (C : List α → Prim), (∀ x, g x ≠ .panic) →
      ∀ nts, (mapM g nts).map C ≠ .panic :=
    fun g C hg nts => map_ne_panic (mapM_ne_panic g nts fun a _ => hg a)
  unfold convertPrim
  split
  · nofun
  · nofun
  · exact items_ne_panic textItem_ne_panic (ok _)
  · exact items_ne_panic (intItem_ne_panic _ _) (ok _)
  · exact items_ne_panic (natItem_ne_panic _) (ok _)
  · exact items_ne_panic (intItem_ne_panic _ _) (ok _)
  · exact items_ne_panic (natItem_ne_panic _) (ok _)
  · exact items_ne_panic (numOrText_ne_panic _) (nt _ _ (ntToFloat_ne_panic _))
  · exact items_ne_panic (numOrText_ne_panic _) (nt _ _ (ntToFloat_ne_panic _))
  · exact items_ne_panic (numOrText_ne_panic _) (nt _ _ ntToI64_ne_panic)
  · exact items_ne_panic (numOrText_ne_panic _) (nt _ _ (ntToU_ne_panic _))
  · exact items_ne_panic (numOrText_ne_panic _) (nt _ _ (ntToU_ne_panic _))
  · exact items_ne_panic (numOrText_ne_panic _) (ok _)
  · exact items_ne_panic personItem_ne_panic (ok _)
  · -- tag text is parsed: the items of a UTF-8 array are UTF-8
    refine bind_ne_panic (arrOf_ne_panic v) fun xs hxs =>
      map_ne_panic (mapM_ne_panic _ xs fun a ha => ?_)
    exact atItem_ne_panic a (utf8List_mem xs (arrOf_utf8 hv hxs) a ha)

/-- invariant of the field loop: `"Value"` and `"InlineBinary"` are never both set (the repaired
conflict checks), and what is stored for `"Value"` is UTF-8 with a panic-free reading as items -/
def ElSt.good (st : ElSt) : Prop :=
  (st.value.isSome = true → st.inline = none) ∧
  (∀ v sq, st.value = some (v, sq) → v.utf8 = true ∧ sq ≠ .panic)

theorem ElSt.good_value {st : ElSt} {v : J} {sq : Outcome (List DataSet)} (hi : st.inline = none)
    (hv : v.utf8 = true) (hsq : sq ≠ .panic) : ({ st with value := some (v, sq) } : ElSt).good :=
  ⟨fun _ => hi, fun _ _ he => by cases he; exact ⟨hv, hsq⟩⟩

theorem ElSt.good_inline {st : ElSt} (s : Bytes) (hv : st.value = none) :
    ({ st with inline := some s } : ElSt).good :=
  ⟨fun h => by simp [hv] at h, fun _ _ he => by simp [hv] at he⟩

theorem scanFields_vr (v : J) (fs : List (Bytes × J)) (st : ElSt) :
    scanFields ((kVr, v) :: fs) st =
      if st.vr.isSome then .err
      else (asStr v).bind fun s => scanFields fs { st with vr := some ((parseVR s).getD .UN) } := by
  rw [scanFields]; rfl

theorem scanFields_value (v : J) (fs : List (Bytes × J)) (st : ElSt) :
    scanFields ((kValue, v) :: fs) st =
      if st.inline.isSome || st.bulk.isSome then .err
      else scanFields fs { st with value := some (v, seqItemsOf v) } := by
  rw [scanFields]; rfl

theorem scanFields_inline (v : J) (fs : List (Bytes × J)) (st : ElSt) :
    scanFields ((kInline, v) :: fs) st =
      if st.value.isSome || st.bulk.isSome then .err
      else (asStr v).bind fun s => scanFields fs { st with inline := some s } := by
  rw [scanFields]; rfl

theorem scanFields_bulk (v : J) (fs : List (Bytes × J)) (st : ElSt) :
    scanFields ((kBulk, v) :: fs) st =
      if st.value.isSome || st.inline.isSome then .err
      else (asStr v).bind fun s => scanFields fs { st with bulk := some s } := by
  rw [scanFields]; rfl

theorem scanFields_other {k : Bytes} (h1 : k ≠ kVr) (h2 : k ≠ kValue) (h3 : k ≠ kInline)
    (h4 : k ≠ kBulk) (v : J) (fs : List (Bytes × J)) (st : ElSt) :
    scanFields ((k, v) :: fs) st = .err := by
  rw [scanFields, if_neg (by simpa using h1), if_neg (by simpa using h2),
    if_neg (by simpa using h3), if_neg (by simpa using h4)]
theorem finish_ne_panic (tag : Nat) (st : ElSt) (hg : st.good) : finish tag st ≠ .panic := by
  unfold finish
  split
  · nofun
  · rename_i vr hvr
    refine bind_ne_panic ?_ fun vals hvals => map_ne_panic ?_
    · split
      · nofun
      · rename_i v sq hval
        have hv := hg.2 v sq hval
        exact ite_ne_panic (fun _ => map_ne_panic hv.2) fun _ =>
          map_ne_panic (convertPrim_ne_panic vr v hv.1)
    · split
      · split <;> nofun
      · split <;> nofun
      · nofun
      · -- `"Value"` and `"InlineBinary"` both set: excluded by the invariant
        rename_i b hin
        cases hval : st.value with
        | none => rw [hval] at hvals; cases hvals
        | some pr => rw [hg.1 (by simp [hval])] at hin; cases hin

mutual
theorem dsOfJ_ne_panic : ∀ (j : J), j.utf8 = true → dsOfJ j ≠ .panic
  | .obj ms, h => by
    simp only [dsOfJ]
    exact map_ne_panic (elemsOfMembers_ne_panic ms (by simpa [J.utf8] using h))
  | .null, _ => nofun
  | .bool _, _ => nofun
  | .num _, _ => nofun
  | .str _, _ => nofun
  | .arr _, _ => nofun
theorem elemsOfMembers_ne_panic : ∀ (ms : List (Bytes × J)), utf8Members ms = true →
    elemsOfMembers ms ≠ .panic
  | [], _ => nofun
  | (k, v) :: ms, h => by
    simp only [utf8Members, Bool.and_eq_true] at h
    simp only [elemsOfMembers]
    refine bind_ne_panic (parseTag_ne_panic k h.1.1) fun tag _ => ?_
    refine bind_ne_panic (elemOfJ_ne_panic tag v h.1.2) fun oe _ => ?_
    exact map_ne_panic (elemsOfMembers_ne_panic ms h.2)
theorem elemOfJ_ne_panic (tag : Nat) : ∀ (j : J), j.utf8 = true → elemOfJ tag j ≠ .panic
  | .obj fs, h => by
    simp only [elemOfJ]
    have hs := scanFields_good fs {} (by simpa [J.utf8] using h) ⟨nofun, fun _ _ => nofun⟩
    exact bind_ne_panic hs.1 fun st hst => finish_ne_panic tag st (hs.2 st hst)
  | .null, _ => nofun
  | .bool _, _ => nofun
  | .num _, _ => nofun
  | .str _, _ => nofun
  | .arr _, _ => nofun
theorem scanFields_good : ∀ (fs : List (Bytes × J)) (st : ElSt), utf8Members fs = true →
    st.good → scanFields fs st ≠ .panic ∧ ∀ st', scanFields fs st = .ok st' → st'.good
  | [], st, _, hg => by
    simp only [scanFields]
    exact ⟨nofun, fun st' h => by cases h; exact hg⟩
  | (k, v) :: fs, st, h, hg => by
    simp only [utf8Members, Bool.and_eq_true] at h
    by_cases h1 : k = kVr
    · rw [h1, scanFields_vr]
      split
      · exact err_spec
      · exact bind_spec (asStr_ne_panic v) fun s _ => scanFields_good fs _ h.2 hg
    by_cases h2 : k = kValue
    · rw [h2, scanFields_value]
      split
      · exact err_spec
      · rename_i hc
        have hi : st.inline = none ∧ st.bulk = none := by simpa using hc
        exact scanFields_good fs _ h.2
          (ElSt.good_value hi.1 h.1.2 (seqItemsOf_ne_panic v h.1.2))
    by_cases h3 : k = kInline
    · rw [h3, scanFields_inline]
      split
      · exact err_spec
      · rename_i hc
        have hv : st.value = none ∧ st.bulk = none := by simpa using hc
        exact bind_spec (asStr_ne_panic v) fun s _ =>
          scanFields_good fs _ h.2 (ElSt.good_inline s hv.1)
    by_cases h4 : k = kBulk
    · rw [h4, scanFields_bulk]
      split
      · exact err_spec
      · exact bind_spec (asStr_ne_panic v) fun s _ => scanFields_good fs _ h.2 hg
    · rw [scanFields_other h1 h2 h3 h4]
      exact err_spec
theorem seqItemsOf_ne_panic : ∀ (j : J), j.utf8 = true → seqItemsOf j ≠ .panic
  | .arr xs, h => by
    simp only [seqItemsOf]
    exact itemsOf_ne_panic xs (by simpa [J.utf8] using h)
  | .null, _ => nofun
  | .bool _, _ => nofun
  | .num _, _ => nofun
  | .str _, _ => nofun
  | .obj _, _ => nofun
theorem itemsOf_ne_panic : ∀ (xs : List J), utf8List xs = true → itemsOf xs ≠ .panic
  | [], _ => nofun
  | x :: xs, h => by
    simp only [utf8List, Bool.and_eq_true] at h
    simp only [itemsOf]
    refine bind_ne_panic (dsOfJ_ne_panic x h.1) fun d _ => ?_
    exact map_ne_panic (itemsOf_ne_panic xs h.2)
end

/-- **C23, second sentence.** Deserialising ANY JSON tree gives a data set or an error, never a
panic: `dicom_json::from_value` … -/
theorem from_value_no_panic (j : J) (h : j.utf8 = true) : fromValue j ≠ .panic :=
  dsOfJ_ne_panic j h

/-! ## Part B — the round trip

`json_rt`: for every well-typed data set without encapsulated pixel data (any nesting depth),
`from_value (to_value ds) = Ok (normDs ds)`, where `normDs` applies exactly the documented
normalisations (`normPrim` in Model/Json.lean).  Float hypothesis: narrowing a widened finite
`f32` gives it back (`F32WidenNarrow`, an IEEE-754 fact about `as` casts). -/

/-- an upper-case hex digit as the tag parser sees it -/
theorem hexUp_digit {d : Nat} (h : d < 16) :
    hexDigitVal (hexUp d) = some d ∧ isHexDigit (hexUp d) = true ∧
      isCont (hexUp d) = false := by
  have : ∀ m : Fin 16, hexDigitVal (hexUp m.val) = some m.val ∧
      isHexDigit (hexUp m.val) = true ∧ isCont (hexUp m.val) = false := by decide
  exact this ⟨d, h⟩

theorem parseHex_hex4 {x : Nat} (h : x < 65536) : parseHex (hex4 x) = some x := by
  simp only [parseHex, hex4_eq, List.foldl_cons, List.foldl_nil, (hexUp_digit (mod16_lt _)).1,
    Option.some.injEq]
  omega

theorem parseTagPart_hex4 {x : Nat} (h : x < 65536) (r : Bytes)
    (hr : r = [] ∨ ∃ b t, r = b :: t ∧ isCont b = false) :
    parseTagPart (hex4 x ++ r) = .ok (x, r) := by
  have hb : isCharBoundary (hex4 x ++ r) 4 = true := by
    rcases hr with rfl | ⟨b, t, rfl, hc⟩
    · simp [isCharBoundary, hex4]
    · simp [isCharBoundary, hex4, hc]
  have hall : (hex4 x).all isHexDigit = true := by simp [hex4, (hexUp_digit (mod16_lt _)).2.1]
  have ht : (hex4 x ++ r).take 4 = hex4 x := rfl
  have hd : (hex4 x ++ r).drop 4 = r := rfl
  simp only [parseTagPart, splitAtB, hb, ensure, if_true, Outcome.bind_ok, ht, hd, hall,
    parseHex_hex4 h, expect, Outcome.map_ok]

theorem parseTag_tagKey {t : Nat} (h : t < 4294967296) : parseTag (tagKey t) = .ok t := by
  have hl : (tagKey t).length = 8 := rfl
  have h1 : parseTagPart (hex4 (t / 65536 % 65536) ++ hex4 (t % 65536))
      = .ok (t / 65536 % 65536, hex4 (t % 65536)) :=
    parseTagPart_hex4 (Nat.mod_lt _ (by decide)) _
      (Or.inr ⟨_, _, rfl, (hexUp_digit (mod16_lt _)).2.2⟩)
  have h2 : parseTagPart (hex4 (t % 65536)) = .ok (t % 65536, []) :=
    parseTagPart_hex4 (Nat.mod_lt _ (by decide)) [] (Or.inl rfl)
  unfold parseTag
  simp only [hl]
  simp only [tagKey, h1, h2, Outcome.bind_ok, Outcome.map_ok]
  simp
  omega

theorem kVr_ne : (kVr == kValue) = false ∧ (kVr == kInline) = false ∧ (kVr == kBulk) = false ∧
    (kValue == kVr) = false ∧ (kValue == kInline) = false ∧ (kValue == kBulk) = false ∧
    (kInline == kVr) = false ∧ (kInline == kValue) = false ∧ (kInline == kBulk) = false := by decide

theorem scanFields_vrName (vr : VR) (fs : List (Bytes × J)) :
    scanFields ((kVr, .str (vrName vr)) :: fs) {} = scanFields fs { vr := some vr } := by
  rw [scanFields_vr]
  simp only [asStr, Outcome.bind_ok, parseVR_vrName]
  rfl

theorem elemOfJ_empty (tag : Nat) (vr : VR) :
    elemOfJ tag (.obj [(kVr, .str (vrName vr))])
      = .ok (some (if vr = .SQ then .seq tag vr [] else .prim tag vr .empty)) := by
  rw [elemOfJ, scanFields_vrName, scanFields]
  by_cases hq : vr = VR.SQ <;> simp [finish, hq]

theorem elemOfJ_value (tag : Nat) (vr : VR) (v : J) (h : vr ≠ .SQ) :
    elemOfJ tag (.obj [(kVr, .str (vrName vr)), (kValue, v)])
      = (convertPrim vr v).map fun p => some (.prim tag vr p) := by
  rw [elemOfJ, scanFields_vrName, scanFields_value, if_neg (by simp), scanFields]
  cases hc : convertPrim vr v <;> simp [finish, h, hc]

theorem elemOfJ_sq (tag : Nat) (v : J) :
    elemOfJ tag (.obj [(kVr, .str (vrName .SQ)), (kValue, v)])
      = (seqItemsOf v).map fun items => some (.seq tag .SQ items) := by
  rw [elemOfJ, scanFields_vrName, scanFields_value, if_neg (by simp), scanFields]
  cases seqItemsOf v <;> simp [finish]

theorem elemOfJ_inline (tag : Nat) (vr : VR) (s d : Bytes) (h : b64dec s = some d) :
    elemOfJ tag (.obj [(kVr, .str (vrName vr)), (kInline, .str s)])
      = .ok (some (.prim tag vr (.u8 d))) := by
  rw [elemOfJ, scanFields_vrName, scanFields_inline, if_neg (by simp)]
  simp [asStr, scanFields, finish, h]

theorem mapM_map_ok {α β γ : Type} (f : β → Outcome γ) (g : α → β) (h : α → γ) :
    ∀ (l : List α), (∀ a ∈ l, f (g a) = .ok (h a)) → mapM f (l.map g) = .ok (l.map h)
  | [], _ => rfl
  | a :: r, hh => by
    simp only [List.map_cons, mapM, hh a (by simp), Outcome.bind_ok,
      mapM_map_ok f g h r (fun x hx => hh x (by simp [hx])), Outcome.map_ok]

theorem mapM_wrap_ok {α β γ δ : Type} (C : List γ → δ) (f : β → Outcome γ) (g : α → β) (h : α → γ)
    (l : List α) (hf : ∀ a ∈ l, f (g a) = .ok (h a)) :
    (mapM f (l.map g)).map C = .ok (C (l.map h)) := by
  rw [mapM_map_ok f g h l hf, Outcome.map_ok]

theorem mapM_mapM_ok {α β γ δ ε : Type} (C : List δ → ε) (f : β → Outcome γ) (f' : γ → Outcome δ)
    (g : α → β) (h : α → γ) (h' : α → δ) (l : List α) (hf : ∀ a ∈ l, f (g a) = .ok (h a))
    (hf' : ∀ a ∈ l, f' (h a) = .ok (h' a)) :
    (mapM f (l.map g)).bind (fun ys => (mapM f' ys).map C) = .ok (C (l.map h')) := by
  rw [mapM_map_ok f g h l hf, Outcome.bind_ok, mapM_wrap_ok C f' h h' l hf']

theorem allLt_iff {b : Nat} {l : List Nat} : allLt b l = true ↔ ∀ a ∈ l, a < b := by
  simp [allLt]

theorem allIn_iff {lo hi : Int} {l : List Int} :
    allIn lo hi l = true ↔ ∀ a ∈ l, lo ≤ a ∧ a ≤ hi := by
  simp [allIn]

/-- a decimal string starts with a digit: there is no sign to take off -/
theorem sign_toDec (n : Nat) :
    stripPlus (toDec n) = toDec n ∧ splitSign (toDec n) = (false, toDec n) := by
  have h1 := toDec_digits n
  cases h : toDec n with
  | nil => exact absurd h (toDec_ne_nil n)
  | cons d r =>
    rw [h, List.all_cons, Bool.and_eq_true] at h1
    have h43 : d ≠ 43 := by rintro rfl; exact absurd h1.1 (by decide)
    have h45 : d ≠ 45 := by rintro rfl; exact absurd h1.1 (by decide)
    exact ⟨by simp [stripPlus, h43], by simp [splitSign, h43, h45]⟩

theorem parseUnsigned_toDec {hi n : Nat} (h : n ≤ hi) : parseUnsigned hi (toDec n) = some n := by
  rw [parseUnsigned, (sign_toDec n).1]
  simp [toDec_digits n, toDec_ne_nil, digitsVal_toDec, h]

theorem parseSigned_intDec {lo hi i : Int} (h1 : lo ≤ i) (h2 : i ≤ hi) :
    parseSigned lo hi (intDec i) = some i := by
  unfold intDec
  split
  · have hval : -(↑i.natAbs : Int) = i := by omega
    simp [parseSigned, splitSign, toDec_digits i.natAbs, toDec_ne_nil, digitsVal_toDec, hval, h1, h2]
  · have hval : (↑i.toNat : Int) = i := by omega
    rw [parseSigned, (sign_toDec i.toNat).2]
    simp [toDec_digits i.toNat, toDec_ne_nil, digitsVal_toDec, hval, h1, h2]

theorem intItem_intNum {lo hi i : Int} (h1 : lo ≤ i) (h2 : i ≤ hi) :
    intItem lo hi (intNum i) = .ok i := by
  unfold intNum
  split
  · have e : -(↑i.natAbs : Int) = i := by omega
    simp [intItem, e, h1]
  · have e : max i 0 = i := by omega
    simp [intItem, e, h2]

/-- the `NumberOrText` a number or a string is read as -/
def ntOf : J → NT
  | .num n => .num n
  | .str s => .text s
  | _ => .text []

theorem numOrText_ntOf {a : Num → Bool} {j : J} (hj : isNumOrStr j = true)
    (ha : ∀ n, j = .num n → a n = true) : numOrText a j = .ok (ntOf j) := by
  cases j with
  | num n => simp [numOrText, ntOf, ha n rfl]
  | str s => rfl
  | _ => cases hj

theorem numOrText_float {j : J} (hj : isNumOrStr j = true) :
    numOrText acceptFloat j = .ok (ntOf j) :=
  numOrText_ntOf hj fun _ _ => rfl

theorem ntToI64_intNum (i : Int) : ntToI64 (ntOf (intNum i)) = .ok i := by
  unfold intNum
  split
  · exact congrArg Outcome.ok (by omega : -(↑i.natAbs : Int) = i)
  · exact congrArg Outcome.ok (by omega : (↑i.toNat : Int) = i)

theorem ntToString_intNum (i : Int) :
    ntToString (ntOf (intNum i)) = display b64 (castInt b64 i) := by
  unfold intNum
  split
  · have e : -(↑i.natAbs : Int) = i := by omega
    simp [ntOf, ntToString, numToFloat, e]
  · rename_i h
    simp [ntOf, ntToString, numToFloat, castInt, h]

theorem numToFloat_flt (F : Fmt) (b : Nat) :
    numToFloat F (.flt b) = if F == b64 then b else castFF b64 F b := rfl

theorem parse_specials (F : Fmt) :
    parse F sNaN = some F.nanBits ∧ parse F sInf = some F.infBits ∧
    parse F sNegInf = some (F.infBits + F.signBit) := ⟨rfl, rfl, rfl⟩

theorem inf_bits (F : Fmt) {x : Nat} (hx : x < 2 * F.signBit) (hi : isInf F x = true) :
    x = if sign F x then F.infBits + F.signBit else F.infBits := by
  simp only [isInf, expo, mant, Fmt.emax, Bool.and_eq_true, beq_iff_eq] at hi
  simp only [sign, Fmt.signBit, Fmt.infBits, Fmt.emax, Nat.pow_add,
    ← Nat.div_div_eq_div_mul] at hx ⊢
  generalize 2 ^ F.mb = M at *
  generalize 2 ^ F.eb = E at *
  -- `x = M * (E * q + (E - 1))` where `q < 2` is the sign bit
  have hx' := Nat.div_add_mod x M
  have hq := Nat.div_add_mod (x / M) E
  rw [hi.1] at hq
  rw [hi.2] at hx'
  have hlt : x / M / E < 2 := by
    rw [Nat.div_div_eq_div_mul]
    exact Nat.div_lt_of_lt_mul (by omega)
  generalize x / M / E = q at *
  have hxq : x = M * (E * q + (E - 1)) := by rw [hq]; omega
  obtain rfl | rfl : q = 0 ∨ q = 1 := by omega
  · simpa [Nat.mul_comm] using hxq
  · simpa [Nat.mul_add, Nat.mul_comm, Nat.add_comm] using hxq

/-- hypothesis of the round trip: narrowing a widened finite `f32` gives it back -/
def F32WidenNarrow : Prop :=
  ∀ x, x < 4294967296 → isFinite b32 x = true → castFF b64 b32 (castFF b32 b64 x) = x

theorem ntToFloat_floatItem {F : Fmt} {w : Nat → Nat} {x : Nat} (hx : x < 2 * F.signBit)
    (hw : isFinite F x = true → numToFloat F (.flt (w x)) = x) :
    ntToFloat F (ntOf (floatItem F w x)) = .ok (canonNaN F x) := by
  rw [floatItem_eq]
  unfold canonNaN
  cases h1 : isFinite F x with
  | true =>
    have hn : isNaN F x = false := by
      simp only [isFinite, bne_iff_ne, ne_eq] at h1
      simp [isNaN, h1]
    simp only [hn, if_true, ntOf, ntToFloat, hw h1, Bool.false_eq_true, if_false]
  | false =>
    cases h2 : isNaN F x with
    | true => simp [ntOf, ntToFloat, (parse_specials F).1, ofOption]
    | false =>
      have hb := inf_bits F hx (isInf_of_not_finite h1 h2)
      cases h3 : sign F x <;> rw [h3] at hb
      · simpa [ntOf, ntToFloat, (parse_specials F).2.1, ofOption] using hb.symm
      · simpa [ntOf, ntToFloat, (parse_specials F).2.2, ofOption] using hb.symm

theorem ntToString_floatItem (x : Nat) :
    ntToString (ntOf (floatItem b64 id x)) = display b64 x := by
  rw [floatItem_eq]
  by_cases h1 : isFinite b64 x = true
  · simp [h1, ntOf, ntToString, numToFloat]
  · by_cases h2 : isNaN b64 x = true
    · simp [h1, h2, ntOf, ntToString, display, sNaN]
    · have hinf := isInf_of_not_finite (by simpa using h1) (by simpa using h2)
      by_cases h3 : sign b64 x = true <;>
        simp [h1, h2, h3, hinf, ntOf, ntToString, display, sNegInf, sInf]

/-! `"Value"` arrays back to values: stated on the pipeline that `convertPrim vr` unfolds to for the
class of `vr`, with the value variant `C` it ends in. -/

theorem conv_text (vr : VR) (hc : deClass vr = .text) (l : List Bytes) :
    convertPrim vr (.arr (l.map .str)) = .ok (.strs l) := by
  simp only [convertPrim, hc, arrOf, Outcome.bind_ok]
  exact (mapM_wrap_ok Prim.strs textItem J.str id l fun _ _ => rfl).trans (by rw [List.map_id])

theorem conv_at (l : List Nat) (hl : allLt 4294967296 l = true) :
    convertPrim .AT (.arr (l.map fun t => .str (tagKey t))) = .ok (.tags l) :=
  (mapM_wrap_ok Prim.tags atItem (fun t => J.str (tagKey t)) id l
    fun a ha => parseTag_tagKey (allLt_iff.mp hl a ha)).trans (by rw [List.map_id])

theorem personItem_alpha (s : Bytes) : personItem (.obj [(kAlpha, .str s)]) = .ok s := by
  simp [personItem, personFields, asStr, pnDisplay]

theorem conv_pn (l : List Bytes) :
    convertPrim .PN (.arr (l.map fun s => .obj [(kAlpha, .str s)])) = .ok (.strs l) :=
  (mapM_wrap_ok Prim.strs personItem (fun s => J.obj [(kAlpha, .str s)]) id l
    fun a _ => personItem_alpha a).trans (by rw [List.map_id])

theorem conv_int (C : List Int → Prim) (lo hi : Int) (l : List Int) (h : allIn lo hi l = true) :
    (mapM (intItem lo hi) (l.map intNum)).map C = .ok (C l) :=
  (mapM_wrap_ok C (intItem lo hi) intNum id l fun a ha =>
    intItem_intNum (allIn_iff.mp h a ha).1 (allIn_iff.mp h a ha).2).trans (by rw [List.map_id])

theorem conv_nat (C : List Nat → Prim) (hi : Nat) (l : List Nat) (h : allLt (hi + 1) l = true) :
    (mapM (natItem hi) (l.map fun n => .num (.pos n))).map C = .ok (C l) :=
  (mapM_wrap_ok C (natItem hi) (fun n => J.num (.pos n)) id l fun a ha => by
    have := allLt_iff.mp h a ha
    simp [natItem]; omega).trans (by rw [List.map_id])

theorem conv_u (C : List Nat → Prim) (hi : Nat) (l : List Nat) (h : allLt (hi + 1) l = true) :
    (mapM (numOrText (acceptU hi)) (l.map fun n => .num (.pos n))).bind
      (fun nts => (mapM (ntToU hi) nts).map C) = .ok (C l) :=
  (mapM_mapM_ok C _ (ntToU hi) (fun n => J.num (.pos n)) (fun n => NT.num (.pos n)) id l
    (fun a ha => by
      have := allLt_iff.mp h a ha
      simp [numOrText, acceptU]; omega)
    fun _ _ => rfl).trans (by rw [List.map_id])

theorem conv_ubig (C : List Nat → Prim) (hi : Nat) (hhi : 2147483647 ≤ hi) (l : List Nat)
    (h : allLt (hi + 1) l = true) :
    (mapM (numOrText (acceptU hi))
      (l.map fun (n : Nat) => if n ≤ 2147483647 then .num (.pos n) else .str (toDec n))).bind
      (fun nts => (mapM (ntToU hi) nts).map C) = .ok (C l) :=
  (mapM_mapM_ok C _ (ntToU hi) _
    (fun (n : Nat) => if n ≤ 2147483647 then NT.num (.pos n) else NT.text (toDec n)) id l
    (fun a _ => by
      by_cases hc : a ≤ 2147483647
      · simp [hc, numOrText, acceptU]; omega
      · simp [hc, numOrText])
    fun a ha => by
      have := allLt_iff.mp h a ha
      by_cases hc : a ≤ 2147483647
      · simp [hc, ntToU]
      · simp [hc, ntToU, parseUnsigned_toDec (show a ≤ hi by omega), ofOption]).trans
    (by rw [List.map_id])

theorem conv_ibig (C : List Int → Prim) (l : List Int)
    (h : allIn (-9223372036854775808) 9223372036854775807 l = true) :
    (mapM (numOrText acceptI64)
      (l.map fun i => if fitsI32 i then intNum i else .str (intDec i))).bind
      (fun nts => (mapM ntToI64 nts).map C) = .ok (C l) :=
  (mapM_mapM_ok C _ ntToI64 _
    (fun i => ntOf (if fitsI32 i then intNum i else .str (intDec i))) id l
    (fun a _ => by
      split
      · rename_i hc
        simp only [fitsI32, Bool.and_eq_true, decide_eq_true_eq] at hc
        refine numOrText_ntOf (isNumOrStr_intNum a) fun n hn => ?_
        unfold intNum at hn
        split at hn <;> cases hn <;> simp [acceptI64] <;> omega
      · rfl)
    fun a ha => by
      have hr := allIn_iff.mp h a ha
      split
      · exact ntToI64_intNum a
      · simp [ntOf, ntToI64, parseSigned_intDec hr.1 hr.2, ofOption]).trans (by rw [List.map_id])

/-- `B` is the number of bit patterns of `F`, given as a numeral where `F` is one -/
theorem conv_float {F : Fmt} {w : Nat → Nat} (C : List Nat → Prim) {B : Nat}
    (hB : B = 2 * F.signBit)
    (hw : ∀ x, x < B → isFinite F x = true → numToFloat F (.flt (w x)) = x)
    (l : List Nat) (h : allLt B l = true) :
    (mapM (numOrText acceptFloat) (l.map (floatItem F w))).bind
      (fun nts => (mapM (ntToFloat F) nts).map C) = .ok (C (l.map (canonNaN F))) :=
  mapM_mapM_ok C _ (ntToFloat F) (floatItem F w) (fun x => ntOf (floatItem F w x)) (canonNaN F) l
    (fun a _ => numOrText_float (floatItem_ne_null F w a).2)
    fun a ha => ntToFloat_floatItem (hB ▸ allLt_iff.mp h a ha) (hw a (allLt_iff.mp h a ha))

theorem conv_numstr {α : Type} (vr : VR) (hc : deClass vr = .numstr) (g : α → J) (l : List α)
    (hg : ∀ a ∈ l, isNumOrStr (g a) = true) :
    convertPrim vr (.arr (l.map g)) = .ok (.strs (l.map fun a => ntToString (ntOf (g a)))) := by
  simp only [convertPrim, hc, arrOf, Outcome.bind_ok]
  exact (mapM_wrap_ok (fun nts => Prim.strs (nts.map ntToString)) _ g (fun a => ntOf (g a)) l
    fun a ha => numOrText_float (hg a ha)).trans (by rw [List.map_map]; rfl)

theorem normPrimNE_text {vr : VR} {p : Prim} (hs : serClass vr = .strings)
    (hp : ∀ l, p ≠ .tags l) : normPrimNE vr p = .strs (toMultiStr p) := by
  cases p <;> first | exact absurd rfl (hp _) | simp only [normPrimNE, hs]

theorem value_rt {tag : Nat} {vr : VR} {p q : Prim} {j : J}
    (hne : p.nonEmpty = true) (hm : primMembers vr p = .ok [(kValue, j)])
    (hc : convertPrim vr j = .ok q) (hn : normPrimNE vr p = q) :
    ∃ ms, primMembers vr p = .ok ms ∧
      elemOfJ tag (.obj ((kVr, .str (vrName vr)) :: ms))
        = .ok (some (normElem (.prim tag vr p))) := by
  -- `convertPrim .SQ` is an error
  have hsq : vr ≠ .SQ := by rintro rfl; cases hc
  have hb : (vr == VR.SQ) = false := by simpa using hsq
  refine ⟨_, hm, ?_⟩
  rw [elemOfJ_value _ _ _ hsq, hc]
  simp [normElem, hb, normPrim, hne, hn]

theorem binary_rt (tag : Nat) (vr : VR) (p : Prim) (hcl : serClass vr = .binary)
    (hne : p.nonEmpty = true) (hr : p.inRange = true) (hk : p.binKind = true) :
    elemOfJ tag (.obj [(kVr, .str (vrName vr)), (kInline, inlineBinary p)])
      = .ok (some (normElem (.prim tag vr p))) := by
  have hsq : (vr == VR.SQ) = false := by cases vr <;> first | rfl | cases hcl
  rw [inlineBinary, elemOfJ_inline _ _ _ _ (b64dec_enc _ (toBytes_binary p hr hk).1)]
  simp [normElem, hsq, normPrim, hne, normPrimNE, hcl]

/-- every well-typed primitive element comes back as its normal form -/
theorem prim_rt (hF : F32WidenNarrow) (tag : Nat) (vr : VR) (p : Prim)
    (hk : kindOk vr p = true) (hr : p.inRange = true) :
    ∃ ms, primMembers vr p = .ok ms ∧
      elemOfJ tag (.obj ((kVr, .str (vrName vr)) :: ms))
        = .ok (some (normElem (.prim tag vr p))) := by
  cases hne : p.nonEmpty with
  | false =>
    refine ⟨[], primMembers_of_empty vr p hne, ?_⟩
    rw [elemOfJ_empty]
    by_cases hq : vr = .SQ <;> simp [normElem, normPrim, hne, hq]
  | true =>
  have hm := primMembers_of_nonEmpty vr p hne
  cases kindOk_kind hk hne with
  | text hs hf hd hp =>
    rw [hs, asStrings_of_not_tags hp] at hm
    exact value_rt hne hm (conv_text vr hd _) (normPrimNE_text hs hp)
  | «at» l => exact value_rt hne hm (conv_at l hr) rfl
  | pn p => exact value_rt hne hm (conv_pn _) rfl
  | binary hs hf hb =>
    rw [hs] at hm
    exact ⟨_, hm, binary_rt tag vr p hs hne hr hb⟩
  | numStrs hs hf hd l =>
    rw [hs] at hm
    exact value_rt hne hm (conv_numstr vr hd .str l fun _ _ => rfl)
      (by simp [normPrimNE, hs, ntOf, ntToString])
  | numStr hs hf hd s =>
    rw [hs] at hm
    exact value_rt hne hm (conv_numstr vr hd .str [s] fun _ _ => rfl)
      (by simp [normPrimNE, hs, ntOf, ntToString])
  | isI32 l =>
    exact value_rt hne hm (conv_numstr .IS rfl intNum l fun a _ => isNumOrStr_intNum a)
      (by simp [normPrimNE, serClass, ntToString_intNum])
  | dsF64 l =>
    exact value_rt hne hm
      (conv_numstr .DS rfl (floatItem b64 id) l fun a _ => (floatItem_ne_null b64 id a).2)
      (by simp [normPrimNE, serClass, ntToString_floatItem])
  | ss l => exact value_rt hne hm (conv_int .i16 _ _ l hr) rfl
  | us l => exact value_rt hne hm (conv_nat .u16 65535 l hr) rfl
  | sl l => exact value_rt hne hm (conv_int .i32 _ _ l hr) rfl
  | ul l => exact value_rt hne hm (conv_u .u32 4294967295 l hr) rfl
  | sv l => exact value_rt hne hm (conv_ibig .i64 l hr) rfl
  | uv l =>
    exact value_rt hne hm (conv_ubig .u64 18446744073709551615 (by decide) l hr) rfl
  | fl l =>
    refine value_rt hne hm (conv_float (F := b32) .f32 (by decide) ?_ l hr) rfl
    intro x hx hf
    rw [numToFloat_flt, if_neg (by decide)]
    exact hF x hx hf
  | fd l =>
    exact value_rt hne hm
      (conv_float (F := b64) (w := id) .f64 (by decide) (fun _ _ _ => rfl) l hr) rfl

/-! ### `put` rebuilds a tag-sorted element list -/

theorem tagsOf_append : ∀ (a b : List Elem), tagsOf (a ++ b) = tagsOf a ++ tagsOf b
  | [], b => rfl
  | x :: a, b => by simp [tagsOf, tagsOf_append a b]

theorem sorted_head_lt : ∀ (a : Nat) (l : List Nat), sortedTags (a :: l) = true → ∀ b ∈ l, a < b
  | a, [], _, b, hb => by simp at hb
  | a, c :: r, h, b, hb => by
    simp only [sortedTags, Bool.and_eq_true, decide_eq_true_eq] at h
    simp only [List.mem_cons] at hb
    cases hb with
    | inl e => rw [e]; exact h.1
    | inr e => exact Nat.lt_trans h.1 (sorted_head_lt c r h.2 b e)

theorem sorted_tail : ∀ (a : Nat) (l : List Nat), sortedTags (a :: l) = true → sortedTags l = true
  | a, [], _ => rfl
  | a, c :: r, h => by
    simp only [sortedTags, Bool.and_eq_true] at h
    exact h.2

theorem put_append (e : Elem) (es : List Elem) : ∀ (acc : List Elem),
    sortedTags (tagsOf (acc ++ e :: es)) = true → put e acc = acc ++ [e]
  | [], _ => rfl
  | x :: xs, h => by
    have h' : sortedTags (x.tag :: tagsOf (xs ++ e :: es)) = true := h
    have hx : x.tag < e.tag := sorted_head_lt _ _ h' e.tag (by simp [tagsOf_append, tagsOf])
    have h1 : ¬ e.tag < x.tag := by omega
    have h2 : (e.tag == x.tag) = false := by simp; omega
    simp only [put, h1, if_false, h2, List.cons_append]
    rw [put_append e es xs (sorted_tail _ _ h')]
    simp

/-- inserting the rest of a tag-sorted list one by one appends it -/
theorem foldl_put : ∀ (es acc : List Elem), sortedTags (tagsOf (acc ++ es)) = true →
    es.foldl (fun acc e => put e acc) acc = acc ++ es
  | [], acc, _ => by simp
  | e :: es, acc, h => by
    rw [List.foldl_cons, put_append e es acc h, foldl_put es (acc ++ [e]) (by simpa using h)]
    simp

theorem putAll_sorted (es : List Elem) (h : sortedTags (tagsOf es) = true) : putAll es = es :=
  foldl_put es [] h

theorem normElem_tag : ∀ (e : Elem), (normElem e).tag = e.tag
  | .prim t vr p => by
    simp only [normElem]
    split <;> rfl
  | .seq t vr items => rfl
  | .pix t vr => rfl

theorem tagsOf_normDs : ∀ (es : List Elem), tagsOf (normDs es) = tagsOf es
  | [] => rfl
  | e :: es => by simp [normDs, tagsOf, normElem_tag, tagsOf_normDs es]

mutual
theorem elem_rt (hF : F32WidenNarrow) : ∀ (e : Elem), e.wf = true → e.typed = true →
    e.noPix = true → ∃ j, elemToJson e = .ok j ∧ elemOfJ e.tag j = .ok (some (normElem e))
  | .prim t vr p, _, ht, _ => by
    simp only [Elem.typed, Bool.and_eq_true] at ht
    obtain ⟨ms, h1, h2⟩ := prim_rt hF t vr p ht.1 ht.2
    exact ⟨_, by simp [elemToJson, h1], h2⟩
  | .seq t vr [], _, ht, _ => by
    simp only [Elem.typed, Bool.and_eq_true, beq_iff_eq] at ht
    refine ⟨_, rfl, ?_⟩
    simp [Elem.tag, elemOfJ_empty, ht.1, normElem, normItems]
  | .seq t vr (d :: ds), hw, ht, hp => by
    simp only [Elem.typed, Bool.and_eq_true, beq_iff_eq] at ht
    simp only [Elem.wf, Bool.and_eq_true] at hw
    simp only [Elem.noPix] at hp
    obtain ⟨js, h1, h2⟩ := items_rt hF (d :: ds) hw.2 ht.2 hp
    refine ⟨.obj [(kVr, .str (vrName vr)), (kValue, .arr js)], by simp [elemToJson, h1], ?_⟩
    rw [ht.1]
    simp only [Elem.tag]
    rw [elemOfJ_sq]
    simp [seqItemsOf, h2, normElem]
  | .pix t vr, _, _, hp => by simp [Elem.noPix] at hp
theorem items_rt (hF : F32WidenNarrow) : ∀ (items : List (List Elem)), itemsWf items = true →
    itemsTyped items = true → itemsNoPix items = true →
    ∃ js, itemsToJson items = .ok js ∧ itemsOf js = .ok (normItems items)
  | [], _, _, _ => ⟨[], rfl, rfl⟩
  | d :: ds, hw, ht, hp => by
    simp only [itemsWf, Bool.and_eq_true] at hw
    simp only [itemsTyped, Bool.and_eq_true] at ht
    simp only [itemsNoPix, Bool.and_eq_true] at hp
    obtain ⟨ms, m1, m2⟩ := members_rt hF d hw.1.1 ht.1 hp.1
    obtain ⟨js, j1, j2⟩ := items_rt hF ds hw.2 ht.2 hp.2
    refine ⟨.obj ms :: js, by simp [itemsToJson, m1, j1], ?_⟩
    have hs : sortedTags (tagsOf (normDs d)) = true := by rw [tagsOf_normDs]; exact hw.1.2
    simp [itemsOf, dsOfJ, m2, j2, putAll_sorted _ hs, normItems]
theorem members_rt (hF : F32WidenNarrow) : ∀ (es : List Elem), elemsWf es = true →
    elemsTyped es = true → elemsNoPix es = true →
    ∃ ms, membersToJson es = .ok ms ∧ elemsOfMembers ms = .ok (normDs es)
  | [], _, _, _ => ⟨[], rfl, rfl⟩
  | e :: es, hw, ht, hp => by
    simp only [elemsWf, Bool.and_eq_true] at hw
    simp only [elemsTyped, Bool.and_eq_true] at ht
    simp only [elemsNoPix, Bool.and_eq_true] at hp
    obtain ⟨j, e1, e2⟩ := elem_rt hF e hw.1 ht.1 hp.1
    obtain ⟨ms, m1, m2⟩ := members_rt hF es hw.2 ht.2 hp.2
    refine ⟨(tagKey e.tag, j) :: ms, by simp [membersToJson, e1, m1], ?_⟩
    simp [elemsOfMembers, parseTag_tagKey (Elem.wf_tag e hw.1), e2, m2, normDs]
end

/-- **C23, first sentence.** Any well-typed in-memory data set without encapsulated pixel data,
serialised to DICOM JSON and deserialised again, yields the data set with exactly the documented
normalisations applied (`normDs`) — for nested sequences of any depth. -/
theorem json_rt (hF : F32WidenNarrow) (ds : DataSet) (hw : ds.wf = true)
    (ht : elemsTyped ds = true) (hp : elemsNoPix ds = true) :
    ∃ j, toJson ds = .ok j ∧ fromValue j = .ok (normDs ds) := by
  simp only [DataSet.wf, Bool.and_eq_true] at hw
  obtain ⟨ms, m1, m2⟩ := members_rt hF ds hw.1 ht hp
  refine ⟨.obj ms, by simp [toJson, m1], ?_⟩
  have hs : sortedTags (tagsOf (normDs ds)) = true := by rw [tagsOf_normDs]; exact hw.2
  simp [fromValue, dsOfJ, m2, putAll_sorted _ hs]


/-- encapsulated pixel data is outside the round trip: it is written as an empty attribute -/
theorem pixel_sequence_not_kept :
    ∃ j, toJson [.pix 0x7FE00010 .OB] = .ok j ∧
      fromValue j = .ok [.prim 0x7FE00010 .OB .empty] := ⟨_, rfl, by rfl⟩

/-- the normal form of plain multi-valued text is the text without trailing padding -/
example : normDs [.prim 0x00080060 .CS (.strs [ascii "CT ", ascii "PET"]),
                  .prim 0x00100010 .PN (.str (ascii "Doe^John\x00"))]
    = [.prim 0x00080060 .CS (.strs [ascii "CT", ascii "PET"]),
       .prim 0x00100010 .PN (.strs [ascii "Doe^John\x00" |> trimEnd])] := by rfl

/-- defect #5 (repaired): `Value` together with `InlineBinary` is an error, in both orders -/
example : elemOfJ 0x00090010 (.obj [(kVr, .str [79, 66]),
      (kValue, .arr [.num (.pos 1)]), (kInline, .str [65, 65, 61, 61])]) = .err := by rfl
example : elemOfJ 0x00090010 (.obj [(kVr, .str [79, 66]),
      (kInline, .str [65, 65, 61, 61]), (kValue, .arr [.num (.pos 1)])]) = .err := by rfl

/-- defect #1 (repaired): an 8-byte key that is not on a char boundary at byte 4 is an error -/
example : parseTag [97, 98, 99, 0xC3, 0xA9, 97, 98, 99] = .err := by rfl

/-- non-vacuity of `json_rt`: nested sequences, non-finite float, 64-bit integer, binary value,
zero-length vector, date -/
example :
    let ds : DataSet := [
      .prim 0x00080018 .UI (.strs [ascii "1.2.3 "]),
      .prim 0x00080020 .DA (.date [(ascii "20240229", ascii "2024-02-29")]),
      .prim 0x00186020 .FL (.f32 [0x7FC00001, 0x3F800000]),
      .prim 0x00280010 .US (.u16 []),
      .seq 0x00400275 .SQ [[.prim 0x00400009 .SV (.i64 [-9007199254740993])], []],
      .prim 0x7FE00010 .OW (.u16 [1, 65535])]
    ds.wf = true ∧ elemsTyped ds = true ∧ elemsNoPix ds = true := by decide

/-! ## `from_str`: the text path (duplicate members) -/

theorem lookup_utf8 (k : Bytes) : ∀ (ms : List (Bytes × J)) (v : J), utf8Members ms = true →
    lookup k ms = some v → v.utf8 = true
  | [], v, _, h => by simp [lookup] at h
  | (k', v') :: ms, v, hu, h => by
    simp only [utf8Members, Bool.and_eq_true] at hu
    simp only [lookup] at h
    split at h
    · simp at h; rw [← h]; exact hu.1.2
    · exact lookup_utf8 k ms v hu.2 h

theorem removeKey_utf8 (k : Bytes) : ∀ (ms : List (Bytes × J)), utf8Members ms = true →
    utf8Members (removeKey k ms) = true
  | [], _ => rfl
  | (k', v') :: ms, hu => by
    simp only [utf8Members, Bool.and_eq_true] at hu
    simp only [removeKey]
    split
    · exact removeKey_utf8 k ms hu.2
    · simp [utf8Members, hu.1.1, hu.1.2, removeKey_utf8 k ms hu.2]

mutual
theorem dedup_utf8 : ∀ (j : J), j.utf8 = true → (dedup j).utf8 = true
  | .arr xs, h => by
    simp only [dedup, J.utf8]
    exact dedupList_utf8 xs (by simpa [J.utf8] using h)
  | .obj ms, h => by
    simp only [dedup, J.utf8]
    exact dedupMembers_utf8 ms (by simpa [J.utf8] using h)
  | .null, _ => rfl
  | .bool _, _ => rfl
  | .num _, _ => rfl
  | .str s, h => by simpa [dedup] using h
theorem dedupList_utf8 : ∀ (xs : List J), utf8List xs = true → utf8List (dedupList xs) = true
  | [], _ => rfl
  | x :: xs, h => by
    simp only [utf8List, Bool.and_eq_true] at h
    simp [dedupList, utf8List, dedup_utf8 x h.1, dedupList_utf8 xs h.2]
theorem dedupMembers_utf8 : ∀ (ms : List (Bytes × J)), utf8Members ms = true →
    utf8Members (dedupMembers ms) = true
  | [], _ => rfl
  | (k, v) :: ms, h => by
    simp only [utf8Members, Bool.and_eq_true] at h
    have ih := dedupMembers_utf8 ms h.2
    simp only [dedupMembers]
    split
    · rename_i v' hv'
      simp [utf8Members, h.1.1, lookup_utf8 k _ v' ih hv', removeKey_utf8 k _ ih]
    · simp [utf8Members, h.1.1, dedup_utf8 v h.1.2, ih]
end

theorem dedupFields_utf8 : ∀ (fs : List (Bytes × J)), utf8Members fs = true →
    utf8Members (fs.map dedupField) = true
  | [], _ => rfl
  | (k, v) :: fs, h => by
    simp only [utf8Members, Bool.and_eq_true] at h
    simp only [List.map_cons, dedupField]
    split
    · simp [utf8Members, h.1.1, dedup_utf8 v h.1.2, dedupFields_utf8 fs h.2]
    · simp [utf8Members, h.1.1, h.1.2, dedupFields_utf8 fs h.2]

theorem dedupElem_utf8 (j : J) (h : j.utf8 = true) : (dedupElem j).utf8 = true := by
  cases j <;> simp_all [dedupElem, J.utf8]
  case obj fs => exact dedupFields_utf8 fs h

theorem dedupTopMembers_utf8 : ∀ (ms : List (Bytes × J)), utf8Members ms = true →
    utf8Members (ms.map fun (k, v) => (k, dedupElem v)) = true
  | [], _ => rfl
  | (k, v) :: ms, h => by
    simp only [utf8Members, Bool.and_eq_true] at h
    simp [utf8Members, h.1.1, dedupElem_utf8 v h.1.2, dedupTopMembers_utf8 ms h.2]

theorem dedupTop_utf8 (j : J) (h : j.utf8 = true) : (dedupTop j).utf8 = true := by
  cases j <;> simp_all [dedupTop, J.utf8]
  case obj ms => exact dedupTopMembers_utf8 ms h

/-- … and `dicom_json::from_str`, on a text with any tree, duplicate members included -/
theorem from_str_no_panic (j : J) (h : j.utf8 = true) : fromStr j ≠ .panic :=
  dsOfJ_ne_panic _ (dedupTop_utf8 j h)

/-- `from_value` after `serde_json` built the `Value` of a text -/
theorem from_value_of_text_no_panic (j : J) (h : j.utf8 = true) : fromValue (dedup j) ≠ .panic :=
  dsOfJ_ne_panic _ (dedup_utf8 j h)

/-! ### a tree without repeated member names is its own `Value` -/

mutual
def noDup : J → Bool
  | .arr xs => noDupList xs
  | .obj ms => noDupMembers ms
  | _ => true
def noDupList : List J → Bool
  | [] => true
  | x :: xs => noDup x && noDupList xs
def noDupMembers : List (Bytes × J) → Bool
  | [] => true
  | (k, v) :: ms => (lookup k ms).isNone && noDup v && noDupMembers ms
end

mutual
theorem dedup_id : ∀ (j : J), noDup j = true → dedup j = j
  | .arr xs, h => by
    simp only [dedup]
    rw [dedupList_id xs (by simpa [noDup] using h)]
  | .obj ms, h => by
    simp only [dedup]
    rw [dedupMembers_id ms (by simpa [noDup] using h)]
  | .null, _ => rfl
  | .bool _, _ => rfl
  | .num _, _ => rfl
  | .str _, _ => rfl
theorem dedupList_id : ∀ (xs : List J), noDupList xs = true → dedupList xs = xs
  | [], _ => rfl
  | x :: xs, h => by
    simp only [noDupList, Bool.and_eq_true] at h
    simp [dedupList, dedup_id x h.1, dedupList_id xs h.2]
theorem dedupMembers_id : ∀ (ms : List (Bytes × J)), noDupMembers ms = true →
    dedupMembers ms = ms
  | [], _ => rfl
  | (k, v) :: ms, h => by
    simp only [noDupMembers, Bool.and_eq_true, Option.isNone_iff_eq_none] at h
    simp only [dedupMembers, dedupMembers_id ms h.2, h.1.1, dedup_id v h.1.2]
end

theorem dedupFields_id : ∀ (fs : List (Bytes × J)), noDupMembers fs = true →
    fs.map dedupField = fs
  | [], _ => rfl
  | (k, v) :: fs, h => by
    simp only [noDupMembers, Bool.and_eq_true] at h
    simp only [List.map_cons, dedupField, dedupFields_id fs h.2]
    split
    · rw [dedup_id v h.1.2]
    · rfl

theorem dedupTopMembers_id : ∀ (ms : List (Bytes × J)), noDupMembers ms = true →
    (ms.map fun (k, v) => (k, dedupElem v)) = ms
  | [], _ => rfl
  | (k, v) :: ms, h => by
    simp only [noDupMembers, Bool.and_eq_true] at h
    simp only [List.map_cons, dedupTopMembers_id ms h.2]
    cases v <;> simp [dedupElem]
    case obj fs => exact dedupFields_id fs (by simpa [noDup] using h.1.2)

theorem dedupTop_id (j : J) (h : noDup j = true) : dedupTop j = j := by
  cases j <;> simp [dedupTop]
  case obj ms => exact dedupTopMembers_id ms (by simpa [noDup] using h)

/-! ### the serialiser never repeats a member name -/

theorem tagKey_inj {a b : Nat} (ha : a < 4294967296) (hb : b < 4294967296)
    (h : tagKey a = tagKey b) : a = b := by
  have h1 := parseTag_tagKey ha
  have h2 := parseTag_tagKey hb
  rw [h] at h1
  rw [h1] at h2
  simpa using h2

theorem lookup_none_of_keys (k : Bytes) : ∀ (ms : List (Bytes × J)), k ∉ keysOf ms →
    lookup k ms = none
  | [], _ => rfl
  | (k', v) :: ms, h => by
    simp only [keysOf, List.mem_cons, not_or] at h
    have : (k' == k) = false := by
      simp; exact fun e => h.1 e.symm
    simp [lookup, this, lookup_none_of_keys k ms h.2]

theorem noDupList_map {α : Type} (f : α → J) (hf : ∀ a, noDup (f a) = true) :
    ∀ (l : List α), noDupList (l.map f) = true
  | [] => rfl
  | a :: r => by simp [noDupList, hf a, noDupList_map f hf r]

theorem noDup_of_isNumOrStr {j : J} (h : isNumOrStr j = true) : noDup j = true := by
  cases j <;> first | rfl | cases h

theorem noDup_asNumbers (p : Prim) (j : J) (h : asNumbers p = .ok j) : noDup j = true := by
  have items : ∀ {α : Type} (f : α → J) (l : List α), (∀ a, isNumOrStr (f a) = true) →
      noDup (.arr (l.map f)) = true :=
    fun f l hf => noDupList_map f (fun a => noDup_of_isNumOrStr (hf a)) l
  cases p <;> cases h
  case empty => rfl
  case strs l => exact items _ l fun _ => rfl
  case str s => rfl
  case u8 l => exact items _ l fun _ => rfl
  case i16 l => exact items _ l isNumOrStr_intNum
  case u16 l => exact items _ l fun _ => rfl
  case i32 l => exact items _ l isNumOrStr_intNum
  case u32 l => exact items _ l fun _ => rfl
  case i64 l => exact items _ l fun i => by split <;> first | exact isNumOrStr_intNum i | rfl
  case u64 l => exact items _ l fun i => by split <;> rfl
  case f32 l => exact items _ l fun x => (floatItem_ne_null _ _ x).2
  case f64 l => exact items _ l fun x => (floatItem_ne_null _ _ x).2

theorem noDup_attr {vr : VR} {k : Bytes} {j : J} (hk : k = kValue ∨ k = kInline)
    (hj : noDup j = true) : noDupMembers [(kVr, .str (vrName vr)), (k, j)] = true := by
  rcases hk with rfl | rfl <;> simp [noDupMembers, lookup, kVr_ne, noDup, hj]

theorem noDup_primMembers (vr : VR) (p : Prim) (ms : List (Bytes × J))
    (h : primMembers vr p = .ok ms) : noDupMembers ((kVr, .str (vrName vr)) :: ms) = true := by
  cases hne : p.nonEmpty with
  | false => rw [primMembers_of_empty vr p hne] at h; cases h; rfl
  | true =>
    rw [primMembers_of_nonEmpty vr p hne] at h
    split at h
    · cases h
      refine noDup_attr (.inl rfl) ?_
      unfold asStrings
      split <;> exact noDupList_map _ (fun _ => rfl) _
    · cases h
      exact noDup_attr (.inl rfl) (noDupList_map _ (fun _ => rfl) _)
    · obtain ⟨j, hj, rfl⟩ := map_eq_ok h
      exact noDup_attr (.inl rfl) (noDup_asNumbers p j hj)
    · cases h
      exact noDup_attr (.inr rfl) rfl
    · cases h

mutual
theorem noDup_elem : ∀ (e : Elem) (j : J), e.wf = true → elemToJson e = .ok j → noDup j = true
  | .prim t vr p, j, _, h => by
    obtain ⟨ms, hm, rfl⟩ := map_eq_ok h
    exact noDup_primMembers vr p ms hm
  | .seq t vr [], j, _, h => by cases h; rfl
  | .seq t vr (d :: ds), j, hw, h => by
    simp only [Elem.wf, Bool.and_eq_true] at hw
    obtain ⟨js, hi, rfl⟩ := map_eq_ok h
    exact noDup_attr (.inl rfl) (noDup_items (d :: ds) js hw.2 hi)
  | .pix t vr, j, _, h => by cases h; rfl
theorem noDup_items : ∀ (items : List (List Elem)) (js : List J), itemsWf items = true →
    itemsToJson items = .ok js → noDupList js = true
  | [], js, _, h => by cases h; rfl
  | d :: ds, js, hw, h => by
    simp only [itemsWf, Bool.and_eq_true] at hw
    obtain ⟨ms, hm, h⟩ := bind_eq_ok h
    obtain ⟨js', hi, rfl⟩ := map_eq_ok h
    have h1 := noDup_members d ms hw.1.1 hw.1.2 hm
    have h2 := noDup_items ds js' hw.2 hi
    simp [noDupList, noDup, h1.1, h2]
theorem noDup_members : ∀ (es : List Elem) (ms : List (Bytes × J)), elemsWf es = true →
    sortedTags (tagsOf es) = true → membersToJson es = .ok ms →
    noDupMembers ms = true ∧ keysOf ms = (tagsOf es).map tagKey
  | [], ms, _, _, h => by cases h; exact ⟨rfl, rfl⟩
  | e :: es, ms, hw, hs, h => by
    simp only [elemsWf, Bool.and_eq_true] at hw
    obtain ⟨j, he, h⟩ := bind_eq_ok h
    obtain ⟨ms', hm, rfl⟩ := map_eq_ok h
    have hs' : sortedTags (e.tag :: tagsOf es) = true := hs
    have ih := noDup_members es ms' hw.2 (sorted_tail _ _ hs') hm
    have hj := noDup_elem e j hw.1 he
    refine ⟨?_, by simp [keysOf, tagsOf, ih.2]⟩
    -- the key of `e` is not among the later keys: tags ascend and `tagKey` is injective
    have hnot : tagKey e.tag ∉ keysOf ms' := by
      rw [ih.2]
      intro hmem
      obtain ⟨t, ht, hk⟩ := List.mem_map.mp hmem
      have hlt := sorted_head_lt _ _ hs' t ht
      have := tagKey_inj (tagsOf_lt es hw.2 t ht) (Elem.wf_tag e hw.1) hk
      omega
    simp [noDupMembers, lookup_none_of_keys _ _ hnot, hj, ih.1]
end

/-- the written tree has no repeated member name, so reading it as a text (streamed, with
`Value`s going through `serde_json::Value`) is reading the tree -/
theorem fromStr_toJson (ds : DataSet) (hw : ds.wf = true) (j : J) (h : toJson ds = .ok j) :
    fromStr j = fromValue j := by
  simp only [DataSet.wf, Bool.and_eq_true] at hw
  obtain ⟨ms, hm, rfl⟩ := map_eq_ok h
  have : noDup (.obj ms) = true := (noDup_members ds ms hw.1 hw.2 hm).1
  rw [fromStr, fromValue, dedupTop_id _ this]

/-- **C23, first sentence, text path.** `from_str(to_string(ds))`, given that the JSON text layer
hands back the tree that was written. -/
theorem json_rt_text (hF : F32WidenNarrow) (ds : DataSet) (hw : ds.wf = true)
    (ht : elemsTyped ds = true) (hp : elemsNoPix ds = true) :
    ∃ j, toJson ds = .ok j ∧ fromStr j = .ok (normDs ds) := by
  obtain ⟨j, h1, h2⟩ := json_rt hF ds hw ht hp
  exact ⟨j, h1, by rw [fromStr_toJson ds hw j h1]; exact h2⟩

end Dicom.Json
