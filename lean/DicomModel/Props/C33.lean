import DicomModel.Model.StoreScu
import DicomModel.Lemmas.DropWhile
/-
C33 — The storage SCU sends each file on a matching presentation context.

All theorems are about `check true …` (the selection with the abstract-syntax filter on the
Implicit VR LE fallback, finding C33-fallback-other-sop-class) unless they say otherwise; they hold
for every registry, every file, every list of accepted contexts and every option setting.
`orig_fallback_violates` shows that `chosen_context_matches` is false of the selection as originally
coded (`check false …`), `fix_is_conservative` that the repair changes nothing else.
-/
namespace Dicom.StoreScu

theorem trimUid_idem (s : Uid) : trimUid (trimUid s) = trimUid s := by
  simp [trimUid, List.dropWhile_idem]

/-! The two constants spelt out, so that an evaluation need not decode the string literals. -/

theorem evrle_eq : evrle =
    ['1', '.', '2', '.', '8', '4', '0', '.', '1', '0', '0', '0', '8', '.', '1', '.', '2', '.', '1'] :=
  String.toList_ofList

theorem ivrle_eq : ivrle =
    ['1', '.', '2', '.', '8', '4', '0', '.', '1', '0', '0', '0', '8', '.', '1', '.', '2'] :=
  String.toList_ofList

theorem trim_evrle : trimUid evrle = evrle := by
  rw [evrle_eq]
  decide

theorem trim_ivrle : trimUid ivrle = ivrle := by
  rw [ivrle_eq]
  decide

/-- a registry whose entries are filed under their own UID and found by the trimmed key -/
def Reg.Lawful (reg : Reg) : Prop := ∀ u e, reg u = some e → e.uid = trimUid u

theorem Reg.ofTable_lawful (t : List TsEntry) : (Reg.ofTable t).Lawful := by
  intro u e h
  have := List.find?_some h
  simpa using this

/-- `check_file` stores the registry's UID of the file's transfer syntax: a trimmed text -/
def FileInfo.Canonical (f : FileInfo) : Prop := f.ts = trimUid f.ts

theorem find?_filter_mem {p q : Pc → Bool} {l : List Pc} {x : Pc}
    (h : (l.filter p).find? q = some x) : x ∈ l ∧ p x = true ∧ q x = true := by
  have hm := List.mem_of_find?_eq_some h
  have hq := List.find?_some h
  rw [List.mem_filter] at hm
  exact ⟨hm.1, hm.2, hq⟩

theorem find?_filter_none {p q : Pc → Bool} {l : List Pc}
    (h : (l.filter p).find? q = none) {x : Pc} (hx : x ∈ l) (hp : p x = true) : q x = false := by
  rw [List.find?_eq_none] at h
  simpa using h x (List.mem_filter.mpr ⟨hx, hp⟩)

theorem usable_iff {reg : Reg} {fts : TsEntry} {pc : Pc} :
    usable reg fts pc = true ↔
      pc.ts = fts.uid ∨ ∃ t, reg pc.ts = some t ∧ fts.codecFree = true ∧ t.codecFree = true := by
  unfold usable
  cases reg pc.ts <;> simp

theorem fallback_some {fixed ign : Bool} {sop : Uid} {pcs : List Pc} {pc : Pc}
    (h : fallback fixed ign sop pcs = some pc) :
    pc ∈ pcs ∧ (pc.ts = evrle ∨ pc.ts = ivrle) ∧ (fixed = true → classOk ign sop pc = true) := by
  unfold fallback at h
  split at h
  · next x hx =>
    cases h
    obtain ⟨hm, hc, ht⟩ := find?_filter_mem hx
    exact ⟨hm, .inl (by simpa using ht), fun _ => hc⟩
  · split at h
    · obtain ⟨hm, hc, ht⟩ := find?_filter_mem h
      exact ⟨hm, .inr (by simpa using ht), fun _ => hc⟩
    · next hf =>
      exact ⟨List.mem_of_find?_eq_some h, .inr (by simpa using List.find?_some h),
        fun e => absurd e hf⟩

theorem fallback_fixed_none {ign : Bool} {sop : Uid} {pcs : List Pc}
    (h : fallback true ign sop pcs = none) {pc : Pc} (hm : pc ∈ pcs)
    (hc : classOk ign sop pc = true) : pc.ts ≠ evrle ∧ pc.ts ≠ ivrle := by
  unfold fallback at h
  split at h
  · cases h
  · next hev =>
    simp only [if_true] at h
    exact ⟨by simpa using find?_filter_none hev hm hc, by simpa using find?_filter_none h hm hc⟩

theorem finish_ok {reg : Reg} {pc pc' : Pc} {ts : Uid} (h : finish reg pc = .ok (pc', ts)) :
    ∃ t, reg pc.ts = some t ∧ pc' = pc ∧ ts = t.uid := by
  unfold finish at h
  split at h
  · cases h
  · next t ht => cases h; exact ⟨t, ht, rfl, rfl⟩

theorem finish_error {reg : Reg} {pc : Pc} {e : SelErr} (h : finish reg pc = .error e) :
    reg pc.ts = none ∧ e = .noNegotiatedTs := by
  unfold finish at h
  split at h
  · next hn => cases h; exact ⟨hn, rfl⟩
  · cases h

/-- the outcome `fb` of the third search matters in the last stage only -/
theorem checkCore_stages (reg : Reg) (f : FileInfo) (pcs : List Pc) (ign never : Bool)
    {fts : TsEntry} (hf : reg f.ts = some fts) :
    (∃ pc ∈ pcs, classOk ign f.sop pc = true ∧ pc.ts = fts.uid ∧
      ∀ fb, checkCore reg f pcs ign never fb = .ok (pc, pc.ts)) ∨
    ((∀ pc ∈ pcs, classOk ign f.sop pc = true → pc.ts ≠ fts.uid) ∧
      ((∃ pc ∈ pcs, classOk ign f.sop pc = true ∧ usable reg fts pc = true ∧
        ∀ fb, checkCore reg f pcs ign never fb = finish reg pc) ∨
       ((∀ pc ∈ pcs, classOk ign f.sop pc = true → usable reg fts pc = false) ∧
        ∀ fb, checkCore reg f pcs ign never fb =
          if never || !fts.canDecodeAll then .error .noPresentationContext
          else match fb with
            | some pc => finish reg pc
            | none => .error .noPresentationContext))) := by
  unfold checkCore
  simp only [hf]
  split
  · next pc hpc =>
    obtain ⟨hm, hc, ht⟩ := find?_filter_mem hpc
    exact .inl ⟨pc, hm, hc, by simpa using ht, fun _ => rfl⟩
  · next hex =>
    refine .inr ⟨fun pc hm hc => by simpa using find?_filter_none hex hm hc, ?_⟩
    split
    · next pc hpc =>
      have hq := List.find?_some hpc
      rw [Bool.and_eq_true] at hq
      exact .inl ⟨pc, List.mem_of_find?_eq_some hpc, hq.1, hq.2, fun _ => rfl⟩
    · next hus =>
      rw [List.find?_eq_none] at hus
      exact .inr ⟨fun pc hm hc => by simpa [hc] using hus pc hm, fun _ => rfl⟩

theorem check_unsupported {fixed : Bool} {reg : Reg} {f : FileInfo} {pcs : List Pc}
    {ign never : Bool} (hf : reg f.ts = none) :
    check fixed reg f pcs ign never = .error .unsupportedFileTs := by
  simp [check, checkCore, hf]

/-- Everything `check` can answer with, case by case (the shape of the Rust function). -/
theorem check_ok_cases {fixed : Bool} {reg : Reg} {f : FileInfo} {pcs : List Pc}
    {ign never : Bool} {pc : Pc} {ts : Uid}
    (h : check fixed reg f pcs ign never = .ok (pc, ts)) :
    ∃ fts, reg f.ts = some fts ∧ pc ∈ pcs ∧
      ( -- exact match
        (classOk ign f.sop pc = true ∧ pc.ts = fts.uid ∧ ts = pc.ts) ∨
        -- same syntax or both codec-free
        (classOk ign f.sop pc = true ∧ usable reg fts pc = true ∧
          ∃ t, reg pc.ts = some t ∧ ts = t.uid) ∨
        -- transcoding fallback
        (never = false ∧ fts.canDecodeAll = true ∧ fallback fixed ign f.sop pcs = some pc ∧
          ∃ t, reg pc.ts = some t ∧ ts = t.uid)) := by
  cases hf : reg f.ts with
  | none => rw [check_unsupported hf] at h; cases h
  | some fts =>
    refine ⟨fts, rfl, ?_⟩
    unfold check at h
    rcases checkCore_stages reg f pcs ign never hf with
      ⟨x, hm, hc, ht, e⟩ | ⟨_, ⟨x, hm, hc, hu, e⟩ | ⟨_, e⟩⟩
    · rw [e] at h
      cases h
      exact ⟨hm, .inl ⟨hc, ht, rfl⟩⟩
    · rw [e] at h
      obtain ⟨t, ht, rfl, rfl⟩ := finish_ok h
      exact ⟨hm, .inr (.inl ⟨hc, hu, t, ht, rfl⟩)⟩
    · rw [e] at h
      split at h
      · cases h
      · next hcond =>
        simp only [Bool.or_eq_true, Bool.not_eq_true', not_or, Bool.not_eq_true,
          Bool.not_eq_false] at hcond
        split at h
        · next z hz =>
          obtain ⟨t, ht, rfl, rfl⟩ := finish_ok h
          exact ⟨(fallback_some hz).1, .inr (.inr ⟨hcond.1, hcond.2, hz, t, ht, rfl⟩)⟩
        · cases h

/-- The context chosen is one of the accepted contexts. -/
theorem chosen_context_accepted {fixed : Bool} {reg : Reg} {f : FileInfo} {pcs : List Pc}
    {ign never : Bool} {pc : Pc} {ts : Uid}
    (h : check fixed reg f pcs ign never = .ok (pc, ts)) : pc ∈ pcs := by
  obtain ⟨_, _, hm, _⟩ := check_ok_cases h
  exact hm

/-- Unless `--ignore-sop-class` is given, the abstract syntax of the
context chosen is the file's SOP class. -/
theorem chosen_context_matches {reg : Reg} {f : FileInfo} {pcs : List Pc}
    {never : Bool} {pc : Pc} {ts : Uid}
    (h : check true reg f pcs false never = .ok (pc, ts)) : pc.asx = f.sop := by
  obtain ⟨_, _, _, hc⟩ := check_ok_cases h
  have key : classOk false f.sop pc = true := by
    rcases hc with hc | hc | hc
    · exact hc.1
    · exact hc.1
    · exact (fallback_some hc.2.2.1).2.2 rfl
  simpa [classOk] using key

/-- The syntax written in is the chosen context's transfer syntax (its registered, trimmed form):
the tool never sends bytes in a syntax other than the context's. -/
theorem chosen_ts_is_context_ts {fixed : Bool} {reg : Reg} (hreg : reg.Lawful) {f : FileInfo}
    {pcs : List Pc} {ign never : Bool} {pc : Pc} {ts : Uid}
    (h : check fixed reg f pcs ign never = .ok (pc, ts)) : ts = trimUid pc.ts := by
  obtain ⟨fts, hf, _, hc⟩ := check_ok_cases h
  rcases hc with ⟨_, he, ht⟩ | ⟨_, _, t, ht, hts⟩ | ⟨_, _, _, t, ht, hts⟩
  · rw [ht, he, hreg _ _ hf, trimUid_idem]
  · rw [hts]; exact hreg _ _ ht
  · rw [hts]; exact hreg _ _ ht

theorem plan_ok {fixed : Bool} {reg : Reg} {pcs : List Pc} {ign never : Bool} {f : FileInfo}
    {p : Plan} (h : plan fixed reg pcs ign never f = .ok p) :
    check fixed reg f pcs ign never = .ok (p.pc, p.ts) ∧ p.file = f ∧
      p.transcode = (p.ts != f.ts) := by
  unfold plan at h
  split at h
  · cases h; exact ⟨‹_›, rfl, rfl⟩
  · cases h

/-- For every store the tool sends: the data set is written in the
context's transfer syntax; `into_ts` leaves the file alone exactly when that is the file's own
syntax; and when it transcodes, either both syntaxes are free of codecs (a re-encoding of the data
set) or transcoding is allowed (`--never-transcode` absent), the file's syntax can be fully decoded
and the target is Explicit or Implicit VR Little Endian. -/
theorem ts_is_file_or_transcoded {fixed : Bool} {reg : Reg} (hreg : reg.Lawful) {f : FileInfo}
    (hfile : f.Canonical) {pcs : List Pc} {ign never : Bool} {p : Plan}
    (h : plan fixed reg pcs ign never f = .ok p) :
    p.ts = trimUid p.pc.ts ∧
    (p.transcode = false ↔ p.ts = f.ts) ∧
    (p.transcode = true →
      ∃ fts, reg f.ts = some fts ∧
        ((fts.codecFree = true ∧ ∃ t, reg p.pc.ts = some t ∧ t.codecFree = true) ∨
         (never = false ∧ fts.canDecodeAll = true ∧ (p.ts = evrle ∨ p.ts = ivrle)))) := by
  obtain ⟨hc, _, htc⟩ := plan_ok h
  refine ⟨chosen_ts_is_context_ts hreg hc, by simp [htc], ?_⟩
  intro htr
  have hne : p.ts ≠ f.ts := by simpa [htc] using htr
  obtain ⟨fts, hf, _, hcase⟩ := check_ok_cases hc
  have hfts : fts.uid = f.ts := by rw [hreg _ _ hf]; exact hfile.symm
  refine ⟨fts, hf, ?_⟩
  rcases hcase with ⟨_, he, ht⟩ | ⟨_, hu, t, ht, hts⟩ | ⟨hn, hd, hfb, t, ht, hts⟩
  · exact absurd (by rw [ht, he, hfts]) hne
  · left
    rcases usable_iff.mp hu with hsame | ⟨t', ht', hcf, hcf'⟩
    · exact absurd (by rw [hts, hreg _ _ ht, hsame, hreg _ _ hf, trimUid_idem, ← hreg _ _ hf, hfts]) hne
    · exact ⟨hcf, t', ht', hcf'⟩
  · right
    refine ⟨hn, hd, ?_⟩
    rw [hts, hreg _ _ ht]
    rcases (fallback_some hfb).2.1 with e | e
    · left; rw [e]; exact trim_evrle
    · right; rw [e]; exact trim_ivrle

/-- `--never-transcode`: the only conversion left is a re-encoding between codec-free syntaxes
(the second search of the Rust function does not look at the option). -/
theorem never_transcode_respected {fixed : Bool} {reg : Reg} (hreg : reg.Lawful) {f : FileInfo}
    (hfile : f.Canonical) {pcs : List Pc} {ign : Bool} {p : Plan}
    (h : plan fixed reg pcs ign true f = .ok p) (htr : p.transcode = true) :
    ∃ fts t, reg f.ts = some fts ∧ reg p.pc.ts = some t ∧
      fts.codecFree = true ∧ t.codecFree = true := by
  obtain ⟨fts, hf, hc⟩ := (ts_is_file_or_transcoded hreg hfile h).2.2 htr
  rcases hc with ⟨hcf, t, ht, htf⟩ | ⟨hn, _⟩
  · exact ⟨fts, t, hf, ht, hcf, htf⟩
  · cases hn

/-! ### completeness: when is a file sent, and untouched -/

/-- A matching context with the file's own transfer syntax is always preferred: the file then goes
out as it is, on the first such context in the acceptor's order. -/
theorem exact_preferred {fixed : Bool} {reg : Reg} {f : FileInfo} {pcs : List Pc}
    {ign never : Bool} {fts : TsEntry} (hf : reg f.ts = some fts)
    (hex : ∃ pc ∈ pcs, classOk ign f.sop pc = true ∧ pc.ts = fts.uid) :
    ∃ pc, check fixed reg f pcs ign never = .ok (pc, fts.uid) ∧
      pcs.find? (fun pc => classOk ign f.sop pc && pc.ts == fts.uid) = some pc := by
  obtain ⟨pc0, hm, hc, ht⟩ := hex
  have hsome : ((pcs.filter (classOk ign f.sop)).find? (fun pc => pc.ts == fts.uid)).isSome := by
    rw [List.find?_isSome]
    exact ⟨pc0, List.mem_filter.mpr ⟨hm, hc⟩, by simpa using ht⟩
  obtain ⟨pc, hpc⟩ := Option.isSome_iff_exists.mp hsome
  have hts : pc.ts = fts.uid := by simpa using List.find?_some hpc
  refine ⟨pc, by simp [check, checkCore, hf, hpc, hts], ?_⟩
  rw [← hpc, List.find?_filter]
  congr 1
  funext a
  rw [Bool.eq_iff_iff]
  simp

/-- With a lawful registry and a canonical file, that store is not transcoded. -/
theorem exact_not_transcoded {fixed : Bool} {reg : Reg} (hreg : reg.Lawful) {f : FileInfo}
    (hfile : f.Canonical) {pcs : List Pc} {ign never : Bool} {fts : TsEntry}
    (hf : reg f.ts = some fts)
    (hex : ∃ pc ∈ pcs, classOk ign f.sop pc = true ∧ pc.ts = fts.uid) :
    ∃ p, plan fixed reg pcs ign never f = .ok p ∧ p.transcode = false ∧ p.ts = f.ts := by
  obtain ⟨pc, hc, _⟩ := exact_preferred (fixed := fixed) (never := never) hf hex
  have e : fts.uid = f.ts := by rw [hreg _ _ hf]; exact hfile.symm
  refine ⟨⟨f, pc, fts.uid, fts.uid != f.ts⟩, ?_, ?_, e⟩
  · unfold plan; rw [hc]
  · simp [e]

/-- "No matching presentation contexts" is only reported when there is none to use: no matching
context has the file's syntax or a codec-free pair, and transcoding is off, impossible, or no
matching context offers Explicit/Implicit VR Little Endian. -/
theorem no_context_justified {reg : Reg} {f : FileInfo} {pcs : List Pc} {ign never : Bool}
    (h : check true reg f pcs ign never = .error .noPresentationContext) :
    ∃ fts, reg f.ts = some fts ∧
      (∀ pc ∈ pcs, classOk ign f.sop pc = true → pc.ts ≠ fts.uid ∧ usable reg fts pc = false) ∧
      (never = true ∨ fts.canDecodeAll = false ∨
        ∀ pc ∈ pcs, classOk ign f.sop pc = true → pc.ts ≠ evrle ∧ pc.ts ≠ ivrle) := by
  cases hf : reg f.ts with
  | none => rw [check_unsupported hf] at h; cases h
  | some fts =>
    refine ⟨fts, rfl, ?_⟩
    unfold check at h
    rcases checkCore_stages reg f pcs ign never hf with
      ⟨_, _, _, _, e⟩ | ⟨hne, ⟨_, _, _, _, e⟩ | ⟨hnu, e⟩⟩
    · rw [e] at h
      cases h
    · rw [e] at h
      cases (finish_error h).2
    · refine ⟨fun pc hm hc => ⟨hne pc hm hc, hnu pc hm hc⟩, ?_⟩
      rw [e] at h
      split at h
      · next hcond =>
        simp only [Bool.or_eq_true, Bool.not_eq_true'] at hcond
        rcases hcond with hn | hd
        · exact .inl hn
        · exact .inr (.inl hd)
      · split at h
        · cases (finish_error h).2
        · next hfb => exact .inr (.inr fun pc hm hc => fallback_fixed_none hfb hm hc)

/-! ### the selection as originally coded, and what the repair changes -/

/-- `Except` has no `DecidableEq`; `Option` has, so these cases can be decided by evaluation -/
theorem eq_ok_of_toOption {ε α : Type} {x : Except ε α} {a : α} (h : x.toOption = some a) :
    x = .ok a := by
  cases x with
  | error e => cases h
  | ok b => cases h; rfl

/-- Without the filter the property is false: a file of class `CT` in a syntax that needs
transcoding is put on the context accepted for class `MR`, because that is the only Implicit VR LE
context. (Short texts stand for the other UIDs.) -/
theorem orig_fallback_violates :
    ∃ (reg : Reg) (f : FileInfo) (pcs : List Pc) (pc : Pc) (ts : Uid),
      reg.Lawful ∧ f.Canonical ∧
      check false reg f pcs false false = .ok (pc, ts) ∧ pc.asx ≠ f.sop ∧
      check true reg f pcs false false = .error .noPresentationContext := by
  refine ⟨Reg.ofTable [⟨ivrle, true, true⟩, ⟨['D'], false, true⟩], ⟨['C', 'T'], ['D'], []⟩,
    [⟨1, ['M', 'R'], ivrle⟩], ⟨1, ['M', 'R'], ivrle⟩, ivrle, Reg.ofTable_lawful _, rfl, ?_, ?_, ?_⟩
  · rw [ivrle_eq]
    exact eq_ok_of_toOption (by decide +kernel)
  · decide
  · rw [ivrle_eq]
    rfl

theorem fallback_orig_to_fixed {ign : Bool} {sop : Uid} {pcs : List Pc} {pc : Pc}
    (h : fallback false ign sop pcs = some pc) (hc : classOk ign sop pc = true) :
    fallback true ign sop pcs = some pc := by
  unfold fallback at h ⊢
  split at h
  · next x hx => cases h; simp
  · simp only [Bool.false_eq_true, if_false] at h
    simp only [if_true]
    -- `pc` is the first Implicit VR LE context of `pcs`, hence of any sublist it is in
    obtain ⟨hq, pre, post, hsplit, hpre⟩ := List.find?_eq_some_iff_append.mp h
    rw [List.find?_filter, List.find?_eq_some_iff_append]
    refine ⟨by simp [hc, hq], pre, post, hsplit, fun a ha => ?_⟩
    have hne : (a.ts == ivrle) = false := by simpa using hpre a ha
    simp [hne]

theorem fallback_orig_of_fixed {ign : Bool} {sop : Uid} {pcs : List Pc} {w : Pc}
    (h : fallback true ign sop pcs = some w) :
    ∃ z, fallback false ign sop pcs = some z ∧ z.ts = w.ts := by
  unfold fallback at h ⊢
  cases hev : (pcs.filter (classOk ign sop)).find? (fun pc => pc.ts == evrle) with
  | some x =>
    rw [hev] at h
    cases h
    exact ⟨_, rfl, rfl⟩
  | none =>
    rw [hev] at h
    simp only [if_true] at h
    obtain ⟨hm, _, hw⟩ := find?_filter_mem h
    cases hz : pcs.find? (fun pc => pc.ts == ivrle) with
    | none => exact absurd hw (List.find?_eq_none.mp hz w hm)
    | some z =>
      have hzts : z.ts = ivrle := by simpa using List.find?_some hz
      exact ⟨z, rfl, by rw [hzts, eq_of_beq hw]⟩

theorem check_eq_or_fallback (reg : Reg) (f : FileInfo) (pcs : List Pc) (ign never : Bool) :
    (∀ fixed fixed', check fixed reg f pcs ign never = check fixed' reg f pcs ign never) ∨
    ∀ fixed, check fixed reg f pcs ign never =
      match fallback fixed ign f.sop pcs with
      | some pc => finish reg pc
      | none => .error .noPresentationContext := by
  cases hf : reg f.ts with
  | none => exact .inl fun _ _ => by rw [check_unsupported hf, check_unsupported hf]
  | some fts =>
    unfold check
    rcases checkCore_stages reg f pcs ign never hf with
      ⟨_, _, _, _, e⟩ | ⟨_, ⟨_, _, _, _, e⟩ | ⟨_, e⟩⟩
    · exact .inl fun _ _ => by rw [e, e]
    · exact .inl fun _ _ => by rw [e, e]
    · by_cases hcond : (never || !fts.canDecodeAll) = true
      · exact .inl fun _ _ => by rw [e, e, if_pos hcond, if_pos hcond]
      · exact .inr fun _ => by rw [e, if_neg hcond]

/-- The repair only touches sends on a mismatched context: wherever the original selection
answers with a context that passes the SOP class test, the repaired one gives the same answer. -/
theorem fix_is_conservative {reg : Reg} {f : FileInfo} {pcs : List Pc} {ign never : Bool}
    {pc : Pc} {ts : Uid}
    (h : check false reg f pcs ign never = .ok (pc, ts)) (hc : classOk ign f.sop pc = true) :
    check true reg f pcs ign never = .ok (pc, ts) := by
  rcases check_eq_or_fallback reg f pcs ign never with e | e
  · rw [e true false]
    exact h
  · rw [e] at h ⊢
    split at h
    · next z hz =>
      obtain ⟨_, _, rfl, _⟩ := finish_ok h
      rw [fallback_orig_to_fixed hz hc]
      exact h
    · cases h

/-- … and it never turns a refusal into a send. -/
theorem fix_keeps_refusals {reg : Reg} {f : FileInfo} {pcs : List Pc} {ign never : Bool}
    {e : SelErr} (h : check false reg f pcs ign never = .error e) :
    ∃ e', check true reg f pcs ign never = .error e' := by
  rcases check_eq_or_fallback reg f pcs ign never with heq | hfb
  · exact ⟨e, by rw [heq true false]; exact h⟩
  · rw [hfb] at h ⊢
    cases hfx : fallback true ign f.sop pcs with
    | none => exact ⟨_, rfl⟩
    | some w =>
      -- the original search found a context with the same transfer syntax, unknown to the registry
      obtain ⟨z, hz, hzw⟩ := fallback_orig_of_fixed hfx
      rw [hz] at h
      have hnone := (finish_error h).1
      exact ⟨.noNegotiatedTs, by simp [finish, ← hzw, hnone]⟩

/-- With `--ignore-sop-class` the two selections coincide. -/
theorem fix_same_when_ignoring {reg : Reg} {f : FileInfo} {pcs : List Pc} {never : Bool} :
    check true reg f pcs true never = check false reg f pcs true never := by
  have hfil : pcs.filter (classOk true f.sop) = pcs := by
    rw [List.filter_eq_self]; intro a _; rfl
  unfold check fallback
  rw [hfil]
  simp

/-! ### the send loop -/

/-- Every store of a run goes out on an accepted context of the file's own SOP class
(unless `--ignore-sop-class`), written in that context's transfer syntax — for any number of
files. -/
theorem session_all_match {reg : Reg} (hreg : reg.Lawful) {pcs : List Pc}
    {ign never failFirst : Bool} (files : List FileInfo) :
    ∀ p ∈ (session true reg pcs ign never failFirst files).1,
      p.file ∈ files ∧ p.pc ∈ pcs ∧ (ign = false → p.pc.asx = p.file.sop) ∧
      p.ts = trimUid p.pc.ts := by
  induction files with
  | nil => intro p hp; simp [session] at hp
  | cons f fs ih =>
    intro p hp
    unfold session at hp
    split at hp
    · next p0 hp0 =>
      rcases List.mem_cons.mp hp with rfl | hp
      · obtain ⟨hc, hfile, _⟩ := plan_ok hp0
        refine ⟨by simp [hfile], chosen_context_accepted hc, ?_, chosen_ts_is_context_ts hreg hc⟩
        intro hi
        subst hi
        rw [hfile]
        exact chosen_context_matches hc
      · obtain ⟨a, b⟩ := ih p hp
        exact ⟨List.mem_cons_of_mem _ a, b⟩
    · split at hp
      · cases hp
      · obtain ⟨a, b⟩ := ih p hp
        exact ⟨List.mem_cons_of_mem _ a, b⟩

/-- Without `--fail-first`, exactly the files that have a usable context are sent, each once,
in the order given. -/
theorem session_complete {fixed : Bool} {reg : Reg} {pcs : List Pc} {ign never : Bool}
    (files : List FileInfo) :
    (session fixed reg pcs ign never false files).1.map (·.file) =
      files.filter (fun f => (plan fixed reg pcs ign never f).toBool) ∧
    (session fixed reg pcs ign never false files).2 = false := by
  induction files with
  | nil => simp [session]
  | cons f fs ih =>
    unfold session
    split
    · next p hp =>
      simp [hp, Except.toBool, ih.1, ih.2, (plan_ok hp).2.1]
    · next e he =>
      simp [he, Except.toBool, ih.1, ih.2]

/-- With `--fail-first`, the run stops at the first file without a usable context: what was sent
is the longest prefix of sendable files. -/
theorem session_fail_first {fixed : Bool} {reg : Reg} {pcs : List Pc} {ign never : Bool}
    (files : List FileInfo) :
    (session fixed reg pcs ign never true files).1.map (·.file) =
      files.takeWhile (fun f => (plan fixed reg pcs ign never f).toBool) ∧
    ((session fixed reg pcs ign never true files).2 = true ↔
      ∃ f ∈ files, (plan fixed reg pcs ign never f).toBool = false) := by
  induction files with
  | nil => simp [session]
  | cons f fs ih =>
    unfold session
    split
    · next p hp =>
      simp [hp, Except.toBool, ih.1, ih.2, (plan_ok hp).2.1]
    · next e he =>
      simp [he, Except.toBool]

/-! ### what is proposed -/

/-- Every file's own (SOP class, transfer syntax) pair is proposed, and — unless
`--never-transcode` — Explicit and Implicit VR Little Endian for its class. -/
theorem proposals_cover {never : Bool} {files : List FileInfo} {f : FileInfo} (h : f ∈ files) :
    (f.sop, f.ts) ∈ proposals never files ∧
    (never = false → (f.sop, evrle) ∈ proposals never files ∧ (f.sop, ivrle) ∈ proposals never files) := by
  unfold proposals
  refine ⟨List.mem_flatMap.mpr ⟨f, h, by simp⟩, ?_⟩
  intro hn
  subst hn
  exact ⟨List.mem_flatMap.mpr ⟨f, h, by simp⟩, List.mem_flatMap.mpr ⟨f, h, by simp⟩⟩

/-- Nothing is proposed for a SOP class without a file: with an acceptor that only answers what was
proposed, every accepted context belongs to the class of some file of the run. -/
theorem proposals_only_for_files {never : Bool} {files : List FileInfo} {q : Uid × Uid}
    (h : q ∈ proposals never files) : ∃ f ∈ files, q.1 = f.sop := by
  unfold proposals at h
  obtain ⟨f, hf, hq⟩ := List.mem_flatMap.mp h
  refine ⟨f, hf, ?_⟩
  cases never <;> simp at hq <;> rcases hq with rfl | rfl | rfl <;> rfl

/-! ### non-vacuity -/

/-- a CT file in Explicit VR BE, acceptor took (CT, Explicit LE) and (MR, Explicit BE):
sent on the CT context, re-encoded (both syntaxes codec-free) -/
example :
    let tbl : List TsEntry :=
      [⟨ivrle, true, true⟩, ⟨evrle, true, true⟩, ⟨"1.2.840.10008.1.2.2".toList, true, true⟩]
    let f : FileInfo := ⟨"1.2.840.10008.5.1.4.1.1.2".toList, "1.2.840.10008.1.2.2".toList, []⟩
    let pcs : List Pc := [⟨1, "1.2.840.10008.5.1.4.1.1.4".toList, "1.2.840.10008.1.2.2".toList⟩,
                          ⟨3, "1.2.840.10008.5.1.4.1.1.2".toList, evrle⟩]
    f.Canonical ∧
    plan true (Reg.ofTable tbl) pcs false true f = .ok ⟨f, ⟨3, f.sop, evrle⟩, evrle, true⟩ := by
  rw [ivrle_eq, evrle_eq]
  exact ⟨show _ = _ by decide +kernel, eq_ok_of_toOption (by decide +kernel)⟩

/-- a padded transfer syntax text in the acceptor's answer is looked up by its trimmed form -/
example :
    check true (Reg.ofTable [⟨ivrle, true, true⟩, ⟨evrle, true, true⟩])
      ⟨['A'], evrle, []⟩ [⟨5, ['A'], ivrle ++ [' ']⟩] false false
      = .ok (⟨5, ['A'], ivrle ++ [' ']⟩, ivrle) := by
  rw [ivrle_eq, evrle_eq]
  exact eq_ok_of_toOption (by decide +kernel)

end Dicom.StoreScu
