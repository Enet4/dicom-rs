import DicomModel.Model.Writer
import DicomModel.Model.Valid
import DicomModel.Lemmas.Header
import DicomModel.Lemmas.Writer
import DicomModel.Props.C03
import DicomModel.Model.Charset
/-
C04 — Encoded output is structurally valid DICOM with exact lengths and padding; every reported
byte count equals the number of bytes written.

Models: `Model/Value.lean` (primitive encoders, StatefulEncoder), `Model/Writer.lean` (token stream,
DataSetWriter), `Model/Valid.lean` (the independent checker `validPS35` = the property's
"independent parser", also run on the real bytes by the driver); `Model/Charset.lean` for the last section.
`Enc.primitiveElement` is `encode_primitive_element` after its OW/U8 arm (`owWords`).
-/
namespace Dicom.C04

theorem joinCount_eq_length (l : List Bytes) : joinCount l = (joinBackslash l).length := by
  induction l with
  | nil => rfl
  | cons x r ih =>
    cases r with
    | nil => rfl
    | cons y r' =>
      simp only [joinCount, joinBackslash, List.length_append, List.length_cons] at ih ⊢
      omega

/-- **`encode_primitive` returns the number of bytes it wrote**, for every value variant, both byte orders. -/
theorem primitive_count (be : Bool) (v : PValue) :
    (encodePrimitive be v).2 = (encodePrimitive be v).1.length := by
  cases v <;> simp only [encodePrimitive, joinCount_eq_length]
  all_goals first
    | rfl
    | (symm; apply flatMap_length_const; intro a; simp)

/-! ### `calculate_byte_len` -/

def evenUp (n : Nat) : Nat := n + n % 2

theorem evenUp_even (n : Nat) : evenUp n % 2 = 0 := by
  rw [evenUp, Nat.add_mod_mod, ← Nat.two_mul, Nat.mul_mod_right]

theorem evenUp_of_even {n : Nat} (h : n % 2 = 0) : evenUp n = n := by rw [evenUp, h]; rfl

theorem clearBit0_succ (n : Nat) : clearBit0 (n + 1) = evenUp n := by
  unfold clearBit0 evenUp
  rcases Nat.mod_two_eq_zero_or_one n with h | h
  · rw [Nat.add_mod, h]; rfl
  · rw [Nat.add_mod, h]; rfl

theorem joinCount_sum (c : List Bytes) (h : c ≠ []) : joinCount c + 1 = sumLenPlus1 c := by
  induction c with
  | nil => exact absurd rfl h
  | cons x r ih =>
    cases r with
    | nil => simp [joinCount, sumLenPlus1]
    | cons y r' =>
      have := ih (by simp)
      simp only [joinCount, sumLenPlus1, List.map_cons, List.sum_cons] at this ⊢
      omega

theorem clearBit0_join (c : List Bytes) : evenUp (clearBit0 (sumLenPlus1 c)) = evenUp (joinCount c) := by
  cases c with
  | nil => rfl
  | cons x r =>
    rw [← joinCount_sum (x :: r) (List.cons_ne_nil _ _), clearBit0_succ, evenUp_of_even (evenUp_even _)]

/-- **`calculate_byte_len` is the encoded length rounded up to even**, for every variant (text variants:
default repertoire, where one character is one byte). This is what makes the header length written
by `encode_primitive_element` agree with the bytes that follow. -/
theorem byte_len_even_rounding (be : Bool) (v : PValue) :
    evenUp v.calculateByteLen = evenUp (encodePrimitive be v).2 := by
  cases v <;> simp only [PValue.calculateByteLen, encodePrimitive, clearBit0_join]

theorem padTo_length (bs : Bytes) (p : Nat) : (padTo bs p).length = evenUp bs.length := by
  unfold padTo evenUp
  split
  · rename_i h
    rw [List.length_append, h]
    rfl
  · rename_i h
    rw [Nat.mod_two_ne_one.mp h]
    rfl

theorem padTo_even (bs : Bytes) (p : Nat) : (padTo bs p).length % 2 = 0 := by
  rw [padTo_length]
  exact evenUp_even _

theorem evenLen_eq_evenUp {n : Nat} (hb : n + 1 < 4294967296) : evenLen n = evenUp n := by
  rw [evenLen, Nat.mod_eq_of_lt hb, clearBit0_succ]

/-- the length the stateful encoder puts in the header -/
def hdrLen (l : Nat) : Nat := if l = undefinedLen then l else evenLen l

theorem evenLen_mod {n : Nat} (h : evenUp n < 4294967295) : evenLen (n % 4294967296) = evenUp n := by
  have hn : n < 4294967295 := Nat.lt_of_le_of_lt (Nat.le_add_right _ _) h
  rw [Nat.mod_eq_of_lt (Nat.lt_succ_of_lt hn), evenLen_eq_evenUp (Nat.succ_lt_succ hn)]

theorem hdrLen_mod {n : Nat} (h : evenUp n < 4294967295) : hdrLen (n % 4294967296) = evenUp n := by
  have hn : n % 4294967296 < undefinedLen :=
    Nat.lt_of_le_of_lt (Nat.mod_le _ _) (Nat.lt_of_le_of_lt (Nat.le_add_right _ _) h)
  rw [hdrLen, if_neg (Nat.ne_of_lt hn), evenLen_mod h]

theorem hdrLen_of_even {n : Nat} (he : n % 2 = 0) (hb : n < 4294967295) :
    hdrLen (n % 4294967296) = n := by
  rw [hdrLen_mod (by rw [evenUp_of_even he]; exact hb), evenUp_of_even he]

theorem elementHeader_eq (e : Enc) (hd : ElemHeader) :
    e.elementHeader hd =
      match encodeHeader e.ts ⟨hd.tag, hd.vr, hdrLen hd.len⟩ with
      | .ok (bs, n) => .ok (e.push bs n)
      | .error (.headerTooLong l) => .error (.headerTooLong l) := by
  have hh : (if hd.len = undefinedLen then hd else { hd with len := evenLen hd.len })
      = ⟨hd.tag, hd.vr, hdrLen hd.len⟩ := by
    unfold hdrLen; split <;> rfl
  unfold Enc.elementHeader
  dsimp only
  rw [hh]
  rfl

theorem elementHeader_ok {e e' : Enc} {hd : ElemHeader} :
    e.elementHeader hd = .ok e' ↔
      ∃ bs n, encodeHeader e.ts ⟨hd.tag, hd.vr, hdrLen hd.len⟩ = .ok (bs, n) ∧ e' = e.push bs n := by
  rw [elementHeader_eq]
  cases encodeHeader e.ts ⟨hd.tag, hd.vr, hdrLen hd.len⟩ with
  | error x => cases x; simp
  | ok r =>
    obtain ⟨bs, n⟩ := r
    constructor
    · intro h
      cases h
      exact ⟨bs, n, rfl, rfl⟩
    · rintro ⟨_, _, h1, rfl⟩
      cases h1
      rfl

theorem elementHeader_congr (e : Enc) (t : Tag) (vr : VR) {a b : Nat} (h : hdrLen a = hdrLen b) :
    e.elementHeader ⟨t, vr, a⟩ = e.elementHeader ⟨t, vr, b⟩ := by
  rw [elementHeader_eq, elementHeader_eq]
  dsimp only
  rw [h]

theorem headerAndValue_ok {e e' : Enc} {de : ElemHeader} {v : Bytes} :
    e.headerAndValue de v = .ok e' ↔
      ∃ e1, e.elementHeader ⟨de.tag, de.vr, v.length % 4294967296⟩ = .ok e1 ∧ e' = e1.push v v.length := by
  unfold Enc.headerAndValue
  cases e.elementHeader ⟨de.tag, de.vr, v.length % 4294967296⟩ <;> simp [eq_comm]

/-! ### `bytes_written` of the stateful encoder and the writer -/

/-- `bytes_written` is the number of bytes in the output -/
def Enc.Exact (e : Enc) : Prop := e.written = e.out.length

theorem push_exact {e : Enc} (h : Enc.Exact e) (bs : Bytes) (n : Nat) (hn : n = bs.length) :
    Enc.Exact (e.push bs n) := by
  simp only [Enc.Exact, Enc.push, List.length_append] at *
  omega

theorem elementHeader_exact {e e' : Enc} (h : Enc.Exact e) (hd : ElemHeader)
    (he : e.elementHeader hd = .ok e') : Enc.Exact e' := by
  obtain ⟨bs, n, henc, rfl⟩ := elementHeader_ok.mp he
  exact push_exact h bs n (C03.count_is_length _ _ _ _ henc)

theorem itemHeader_exact {e : Enc} (h : Enc.Exact e) (len : Nat) : Enc.Exact (e.itemHeader len) :=
  push_exact h _ _ (by simp)
theorem itemDelimiter_exact {e : Enc} (h : Enc.Exact e) : Enc.Exact e.itemDelimiter :=
  push_exact h _ _ (by simp)
theorem seqDelimiter_exact {e : Enc} (h : Enc.Exact e) : Enc.Exact e.seqDelimiter :=
  push_exact h _ _ (by simp)
theorem writeRaw_exact {e : Enc} (h : Enc.Exact e) (bs : Bytes) : Enc.Exact (e.writeRaw bs) :=
  push_exact h _ _ rfl
theorem writeBytes_exact {e : Enc} (h : Enc.Exact e) (bs : Bytes) : Enc.Exact (e.writeBytes bs) := by
  unfold Enc.writeBytes
  split
  · exact push_exact (push_exact h _ _ rfl) _ _ rfl
  · exact push_exact h _ _ rfl
theorem offsetTable_exact {e : Enc} (h : Enc.Exact e) (t : List Nat) : Enc.Exact (e.offsetTable t) :=
  push_exact h _ _ (by symm; apply flatMap_length_const; intro a; simp)

theorem headerAndValue_exact {e e' : Enc} (h : Enc.Exact e) (de : ElemHeader) (v : Bytes)
    (he : e.headerAndValue de v = .ok e') : Enc.Exact e' := by
  obtain ⟨e1, h1, rfl⟩ := headerAndValue_ok.mp he
  exact push_exact (elementHeader_exact h _ h1) _ _ rfl

theorem primitiveElement_exact {e e' : Enc} (h : Enc.Exact e) (de : ElemHeader) (v : PValue)
    (he : e.primitiveElement de v = .ok e') : Enc.Exact e' := by
  unfold Enc.primitiveElement at he
  split at he
  · unfold Enc.textElement at he
    split at he
    · cases he
    · exact headerAndValue_exact h _ _ he
  · unfold Enc.textsElement at he
    split at he
    · cases he
    · exact headerAndValue_exact h _ _ he
  · split at he
    · -- DS / IS as text
      unfold Enc.elementAsText at he
      split at he
      · exact elementHeader_exact h _ he
      · split at he
        · cases he
        · split at he
          · cases he
          · rename_i e1 h1
            have hx := elementHeader_exact h _ h1
            split at he
            · cases he
              exact push_exact (push_exact hx _ _ rfl) [0x20] 1 rfl
            · cases he
              exact push_exact hx _ _ rfl
    · split at he
      · cases he
      · rename_i e1 h1
        have hx := elementHeader_exact h _ h1
        have hc := primitive_count e.ts.bigEndian v
        generalize hp : encodePrimitive e.ts.bigEndian v = p at he hc
        obtain ⟨bs, n⟩ := p
        simp only at he hc
        have h2 : Enc.Exact (e1.push bs n) := push_exact hx bs n hc
        split at he
        · cases he
          exact push_exact h2 _ _ rfl
        · cases he
          exact h2

theorem writeImpl_exact {w w' : Writer} {tok : Token} (he : w.writeImpl tok = .ok w')
    (h : Enc.Exact w.enc) : Enc.Exact w'.enc := by
  cases tok <;> simp only [Writer.writeImpl] at he
  case elementHeader | sequenceStart | pixelSequenceStart =>
    split at he
    · rename_i e1 h1
      cases he
      exact elementHeader_exact h _ h1
    · cases he
  case sequenceEnd => cases he; exact seqDelimiter_exact h
  case itemStart len => cases he; exact itemHeader_exact h len
  case itemEnd => cases he; exact itemDelimiter_exact h
  case primitiveValue v =>
    split at he
    · cases he
    · split at he
      · rename_i e1 h1
        cases he
        exact primitiveElement_exact h _ _ h1
      · cases he
  case itemValue bs => cases he; exact writeBytes_exact h bs
  case offsetTable t => cases he; exact offsetTable_exact h t
  case panic => cases he

theorem write_exact {w w' : Writer} (h : Enc.Exact w.enc) (tok : Token)
    (he : w.write tok = .ok w') : Enc.Exact w'.enc := by
  cases tok <;> simp only [Writer.write] at he
  case sequenceStart | itemStart => split at he <;> exact writeImpl_exact he h
  case itemEnd | sequenceEnd =>
    split at he
    · split at he
      · exact writeImpl_exact he h
      · cases he; exact h
    · cases he; exact h
  case elementHeader => cases he; exact h
  all_goals exact writeImpl_exact he h

/-- **Every byte count reported by the encoding layer equals the number of bytes written**: after
*any* token sequence (well-formed or not) fed to the data set writer, `bytes_written` of its printer is
the length of the output. -/
theorem count_exact (toks : List Token) : ∀ (w w' : Writer), Enc.Exact w.enc →
    w.writeAll toks = .ok w' → Enc.Exact w'.enc := by
  induction toks with
  | nil => intro w w' h he; simp only [Writer.writeAll] at he; injection he with he; subst he; exact h
  | cons t r ih =>
    intro w w' h he
    simp only [Writer.writeAll] at he
    split at he
    · rename_i w1 h1
      exact ih w1 w' (write_exact h t h1) he
    · cases he

theorem count_exact_dataset (ts : Syntax) (strat : Strategy) (toks : List Token) (w' : Writer)
    (he : (Writer.new ts strat).writeAll toks = .ok w') : w'.enc.written = w'.enc.out.length :=
  count_exact toks (Writer.new ts strat) w' (by simp [Enc.Exact, Writer.new, Enc.new]) he

/-! ### a primitive element: header length = number of value bytes that follow, even, padded per VR -/

/-- the value field PS3.5 prescribes: raw value, plus one VR-specific padding byte when odd.
(`textPad`: NUL for UI, space otherwise; `binPad`: space for DA/DT/TM typed values, NUL otherwise;
numbers under DS/IS are decimal text padded with a space.) -/
def paddedValue (be : Bool) (vr : VR) (v : PValue) : Bytes :=
  match v with
  | .str s => padTo s (textPad vr)
  | .strs l => padTo (joinBackslash l) (textPad vr)
  | .empty => []
  | _ =>
    if vr = .DS ∨ vr = .IS then padTo ((v.numText?).getD []) 0x20
    else padTo (encodePrimitive be v).1 (binPad vr)

/-- text in the default repertoire -/
def Ascii (s : Bytes) : Prop := ∀ b ∈ s, b < 128

def ValueAscii : PValue → Prop
  | .str s => Ascii s
  | .strs l => ∀ s ∈ l, Ascii s
  | _ => True

/-- `DsIsOk` said positively: under DS / IS the value is numeric, empty or text -/
def NumericUnderDsIs (vr : VR) (v : PValue) : Prop :=
  (vr = .DS ∨ vr = .IS) → (v.numText?).isSome ∨ v = .empty ∨ (∃ s, v = .str s) ∨ (∃ l, v = .strs l)

/-- size condition on a primitive element for a given syntax: the padded value fits the length field
of its header (32 bits; 16 bits for the PS3.5 short VRs in explicit VR) -/
def FitsHeader (ts : Syntax) (vr : VR) (n : Nat) : Prop :=
  n < 4294967295 ∧ (ts.explicit = true → vr ∈ C03.ps35 → n ≤ 0xFFFF)

/-- under DS / IS a non-text value must be numeric (the code has `unreachable!()` for dates and tags) -/
def DsIsOk (vr : VR) (v : PValue) : Prop :=
  (vr = .DS ∨ vr = .IS) → match v with
    | .date _ | .dateTime _ | .time _ | .tags _ => False
    | _ => True

theorem textEncode_ascii {s : Bytes} (h : Ascii s) : textEncode s = some s := by
  unfold textEncode
  have : s.all (· < 128) = true := by
    rw [List.all_eq_true]; intro b hb; simpa using h b hb
  simp [this]

theorem textEncodeAll_ascii : ∀ {l : List Bytes}, (∀ s ∈ l, Ascii s) → textEncodeAll l = some l
  | [], _ => rfl
  | s :: r, h => by
    have h1 := textEncode_ascii (h s (by simp))
    have h2 := textEncodeAll_ascii (l := r) (fun x hx => h x (by simp [hx]))
    simp [textEncodeAll, h1, h2]

theorem numText_of_dsIsOk {vr : VR} {v : PValue} (hds : DsIsOk vr v) (hvr : vr = .DS ∨ vr = .IS)
    (hnstr : ∀ s, v = .str s → False) (hnstrs : ∀ l, v = .strs l → False) (hnempty : v = .empty → False) :
    ∃ t, v.numText? = some t := by
  cases v with
  | empty => exact (hnempty rfl).elim
  | str s => exact (hnstr s rfl).elim
  | strs l => exact (hnstrs l rfl).elim
  | date _ | dateTime _ | time _ | tags _ => exact (hds hvr).elim
  | _ => exact ⟨_, rfl⟩

/-- the shape of all four paths of `Enc.primitiveElement`: header for some length `a` that is written as the
padded length, raw bytes, one pad byte when odd -/
theorem headerAndValue_padTo (e : Enc) (de : ElemHeader) (a : Nat) (x : Bytes) (p : Nat)
    (hsz : (padTo x p).length < 4294967295) (ha : hdrLen a = (padTo x p).length) :
    e.headerAndValue de (padTo x p) =
      match e.elementHeader ⟨de.tag, de.vr, a⟩ with
      | .error err => .error err
      | .ok e1 =>
        if x.length % 2 = 1 then .ok ((e1.push x x.length).push [p] 1) else .ok (e1.push x x.length) := by
  unfold Enc.headerAndValue
  rw [elementHeader_congr e de.tag de.vr (ha.trans (hdrLen_of_even (padTo_even x p) hsz).symm)]
  cases e.elementHeader ⟨de.tag, de.vr, (padTo x p).length % 4294967296⟩ with
  | error err => rfl
  | ok e1 =>
    dsimp only
    unfold padTo
    split <;> simp [Enc.push, Nat.add_assoc]

theorem primitiveElement_panic (e : Enc) (de : ElemHeader) (v : PValue) (h : ¬ DsIsOk de.vr v) :
    e.primitiveElement de v = .error .panic := by
  obtain ⟨hvr, hv⟩ := Classical.not_imp.mp h
  -- the numeric, text and empty variants contradict `hv`; the other four evaluate to the panic
  cases v <;> simp only [not_true_eq_false, not_false_eq_true] at hv <;>
    simp [Enc.primitiveElement, Enc.elementAsText, PValue.numText?, hvr]

/-- **`encode_primitive_element`, past its OW/U8 arm, writes the header carrying the padded length, then
the padded value**, on all four paths (text, texts, DS/IS as text, binary). -/
theorem primitiveElement_eq (e : Enc) (de : ElemHeader) (v : PValue) (hascii : ValueAscii v)
    (hds : DsIsOk de.vr v) (hsz : (paddedValue e.ts.bigEndian de.vr v).length < 4294967295) :
    e.primitiveElement de v = e.headerAndValue de (paddedValue e.ts.bigEndian de.vr v) := by
  unfold Enc.primitiveElement
  split
  · simp only [Enc.textElement, textEncode_ascii hascii]
    rfl
  · simp only [Enc.textsElement, textEncodeAll_ascii hascii]
    rfl
  · rename_i hnstr hnstrs
    split
    · -- DS / IS as text
      rename_i hvr
      unfold Enc.elementAsText
      split
      · -- Empty: the header for length 0 and no value
        show e.elementHeader ⟨de.tag, de.vr, 0⟩ = e.headerAndValue de []
        unfold Enc.headerAndValue
        simp only [List.length_nil, Nat.zero_mod]
        cases e.elementHeader ⟨de.tag, de.vr, 0⟩ with
        | error x => rfl
        | ok e1 => simp [Enc.push]
      · rename_i hnempty
        obtain ⟨t, ht⟩ := numText_of_dsIsOk hds hvr hnstr hnstrs hnempty
        have hpv : paddedValue e.ts.bigEndian de.vr v = padTo t 0x20 := by
          unfold paddedValue
          split
          · exact absurd rfl (hnstr _)
          · exact absurd rfl (hnstrs _)
          · exact absurd rfl hnempty
          · simp [hvr, ht]
        rw [hpv] at hsz ⊢
        have hL := padTo_length t 0x20
        have hlt : evenUp t.length < 4294967295 := hL ▸ hsz
        have ha : hdrLen (evenLen (t.length % 4294967296)) = (padTo t 0x20).length := by
          have := hdrLen_of_even (evenUp_even t.length) hlt
          rw [Nat.mod_eq_of_lt (Nat.lt_succ_of_lt hlt)] at this
          rw [hL, evenLen_mod hlt, this]
        rw [headerAndValue_padTo e de (evenLen (t.length % 4294967296)) t 0x20 hsz ha]
        simp only [ht]
        cases e.elementHeader ⟨de.tag, de.vr, evenLen (t.length % 4294967296)⟩ with
        | error x => rfl
        | ok e1 =>
          dsimp only
          split <;> simp [Enc.push, Nat.add_assoc]
    · -- binary path
      rename_i hvr
      have hpv : paddedValue e.ts.bigEndian de.vr v
          = padTo (encodePrimitive e.ts.bigEndian v).1 (binPad de.vr) := by
        unfold paddedValue
        split
        · exact absurd rfl (hnstr _)
        · exact absurd rfl (hnstrs _)
        · rfl
        · simp [hvr]
      rw [hpv] at hsz ⊢
      have hcnt := primitive_count e.ts.bigEndian v
      have hL : (padTo (encodePrimitive e.ts.bigEndian v).1 (binPad de.vr)).length
          = evenUp v.calculateByteLen := by
        rw [padTo_length, ← hcnt, ← byte_len_even_rounding]
      rw [headerAndValue_padTo e de (v.calculateByteLen % 4294967296) _ _ hsz
        ((hdrLen_mod (hL ▸ hsz)).trans hL.symm)]
      generalize encodePrimitive e.ts.bigEndian v = p at hcnt ⊢
      obtain ⟨bs, n⟩ := p
      dsimp only at hcnt
      subst hcnt
      cases e.elementHeader ⟨de.tag, de.vr, v.calculateByteLen % 4294967296⟩ with
      | error x => rfl
      | ok e1 =>
        dsimp only
        by_cases hodd : bs.length % 2 = 1 <;> simp [hodd]

theorem paddedValue_length_even (be : Bool) (vr : VR) (v : PValue) : (paddedValue be vr v).length % 2 = 0 := by
  unfold paddedValue
  split
  · exact padTo_even _ _
  · exact padTo_even _ _
  · rfl
  · split <;> exact padTo_even _ _

/-- **Each defined length equals the number of value bytes that follow and is even; odd values are
padded with the VR-specific byte.** Whatever the recorded header length, a primitive element (its value
after the OW/U8 re-packing) is written as the header carrying the true (padded) value length, followed by exactly `paddedValue`. -/
theorem primitive_element_layout {e e' : Enc} (de : ElemHeader) (v : PValue)
    (hascii : ValueAscii v) (hsize : (paddedValue e.ts.bigEndian de.vr v).length < 4294967295)
    (he : e.primitiveElement de v = .ok e') :
    let vb := paddedValue e.ts.bigEndian de.vr v
    vb.length % 2 = 0 ∧
    ∃ hbs n, encodeHeader e.ts ⟨de.tag, de.vr, vb.length⟩ = .ok (hbs, n) ∧ e'.out = e.out ++ hbs ++ vb := by
  intro vb
  have heven : vb.length % 2 = 0 := paddedValue_length_even _ _ _
  by_cases hds : DsIsOk de.vr v
  · rw [primitiveElement_eq e de v hascii hds hsize] at he
    obtain ⟨e1, h1, rfl⟩ := headerAndValue_ok.mp he
    obtain ⟨hbs, n, henc, rfl⟩ := elementHeader_ok.mp h1
    rw [hdrLen_of_even heven hsize] at henc
    exact ⟨heven, hbs, n, henc, rfl⟩
  · rw [primitiveElement_panic e de v hds] at he
    cases he

theorem push_ts (e : Enc) (bs : Bytes) (n : Nat) : (e.push bs n).ts = e.ts := rfl

theorem elementHeader_total (e : Enc) (hd : ElemHeader)
    (hfit : e.ts.explicit = true → hd.vr ∈ C03.ps35 → hdrLen hd.len ≤ 0xFFFF) :
    ∃ e', e.elementHeader hd = .ok e' ∧ e'.ts = e.ts := by
  obtain ⟨⟨bs, n⟩, hr⟩ := (C03.encode_ok_iff e.ts ⟨hd.tag, hd.vr, hdrLen hd.len⟩).mpr
    (fun h => Nat.not_lt.mpr (hfit h.1 h.2.1) h.2.2)
  exact ⟨_, elementHeader_ok.mpr ⟨bs, n, hr, rfl⟩, rfl⟩

theorem sq_not_short : VR.SQ ∉ C03.ps35 := by decide
theorem ob_not_short : VR.OB ∉ C03.ps35 := by decide

/-- **`encode_primitive_element`, past its OW/U8 arm, never fails** for a value in the default repertoire
that fits its header -/
theorem primitiveElement_total (e : Enc) (de : ElemHeader) (v : PValue)
    (hascii : ValueAscii v) (hds : DsIsOk de.vr v)
    (hfit : FitsHeader e.ts de.vr (paddedValue e.ts.bigEndian de.vr v).length) :
    ∃ e', e.primitiveElement de v = .ok e' ∧ e'.ts = e.ts := by
  obtain ⟨hsz, hshort⟩ := hfit
  have heven := paddedValue_length_even e.ts.bigEndian de.vr v
  obtain ⟨e1, h1, t1⟩ := elementHeader_total e
    ⟨de.tag, de.vr, (paddedValue e.ts.bigEndian de.vr v).length % 4294967296⟩
    (fun hx hv => by rw [hdrLen_of_even heven hsz]; exact hshort hx hv)
  rw [primitiveElement_eq e de v hascii hds hsz]
  exact ⟨_, headerAndValue_ok.mpr ⟨e1, h1, rfl⟩, t1⟩

/-- the OW/U8 re-packing keeps a value writable -/
theorem owWords_ascii (vr : VR) (v : PValue) (h : ValueAscii v) : ValueAscii (owWords vr v) := by
  cases v <;> simp only [owWords] <;> first | exact h | (split <;> trivial)

theorem owWords_dsis (vr : VR) (v : PValue) (h : DsIsOk vr v) : DsIsOk vr (owWords vr v) := by
  cases v <;> simp only [owWords] <;> first | exact h | (split <;> first | exact h | (intro hx; trivial))

mutual
/-- what writing in syntax `ts` needs besides the token-level `WF`: text in the default repertoire, no dates
or tags under DS / IS, every value (after the OW/U8 re-packing) fits the length field of its header -/
def Elem.Writable (ts : Syntax) : Elem → Prop
  | .prim _ vr _ v =>
    ValueAscii v ∧ DsIsOk vr v ∧ FitsHeader ts vr (paddedValue ts.bigEndian vr (owWords vr v)).length
  | .seq _ _ items => Items.Writable ts items
  | .pix _ _ => True
def Items.Writable (ts : Syntax) : Items → Prop
  | .nil => True
  | .cons _ elems rest => Elems.Writable ts elems ∧ Items.Writable ts rest
def Elems.Writable (ts : Syntax) : Elems → Prop
  | .nil => True
  | .cons e rest => Elem.Writable ts e ∧ Elems.Writable ts rest
end

theorem recFrags_ts (frags : List Bytes) : ∀ e : Enc, (recFrags e frags).ts = e.ts := by
  induction frags with
  | nil => intro e; rfl
  | cons f r ih =>
    intro e
    simp only [recFrags, ih]
    unfold recFrag
    split
    · rfl
    · unfold Enc.writeBytes
      dsimp only
      split <;> rfl

theorem recBot_ts (bot : List Nat) (e : Enc) : (recBot e bot).ts = e.ts := by
  unfold recBot; split <;> rfl

theorem exBind_total {ts : Syntax} {x : Except WErr Enc} {f : Enc → Except WErr Enc}
    (hx : ∃ e1, x = .ok e1 ∧ e1.ts = ts) (hf : ∀ e1, e1.ts = ts → ∃ e2, f e1 = .ok e2 ∧ e2.ts = ts) :
    ∃ e2, exBind x f = .ok e2 ∧ e2.ts = ts := by
  obtain ⟨e1, rfl, t1⟩ := hx
  exact hf e1 t1

mutual
theorem recElem_total (ts : Syntax) : ∀ (el : Elem), Elem.Writable ts el → ∀ (e : Enc), e.ts = ts →
    ∃ e', recElem e el = .ok e' ∧ e'.ts = ts
  | .prim tag vr len v, hw, e, he => by
    obtain ⟨h1, h2, h3⟩ := hw
    subst he
    exact primitiveElement_total e ⟨tag, vr, len⟩ (owWords vr v) (owWords_ascii vr v h1) (owWords_dsis vr v h2) h3
  | .seq tag len items, hw, e, he => by
    subst he
    rw [recElem]
    exact exBind_total (elementHeader_total e _ fun _ h => absurd h sq_not_short) fun e1 t1 =>
      exBind_total (recItems_total _ items hw e1 t1) fun e2 t2 => ⟨_, rfl, t2⟩
  | .pix bot frags, _, e, he => by
    subst he
    rw [recElem]
    refine exBind_total (elementHeader_total e _ fun _ h => absurd h ob_not_short) fun e1 t1 => ⟨_, rfl, ?_⟩
    show (recFrags (recBot e1 bot) frags).ts = _
    rw [recFrags_ts, recBot_ts, t1]
theorem recItems_total (ts : Syntax) : ∀ (its : Items), Items.Writable ts its → ∀ (e : Enc), e.ts = ts →
    ∃ e', recItems e its = .ok e' ∧ e'.ts = ts
  | .nil, _, e, he => ⟨e, rfl, he⟩
  | .cons len elems rest, hw, e, he => by
    rw [recItems]
    exact exBind_total (recElems_total ts elems hw.1 (e.itemHeader undefinedLen) he) fun e1 t1 =>
      recItems_total ts rest hw.2 e1.itemDelimiter t1
theorem recElems_total (ts : Syntax) : ∀ (es : Elems), Elems.Writable ts es → ∀ (e : Enc), e.ts = ts →
    ∃ e', recElems e es = .ok e' ∧ e'.ts = ts
  | .nil, _, e, he => ⟨e, rfl, he⟩
  | .cons el rest, hw, e, he => by
    rw [recElems]
    exact exBind_total (recElem_total ts el hw.1 e he) fun e1 t1 => recElems_total ts rest hw.2 e1 t1
end

/-- **The data set writer is a structural recursion** (all depths, default strategy): the token state
machine produces exactly what the recursive writer `recElems` produces. -/
theorem write_tree_eq_rec (ts : Syntax) (t : Elems) (hwf : t.WF) :
    writeDataset ts .setUndefined t = exBind (recElems (Enc.new ts) t) (fun e => .ok e.out) :=
  writeDataset_eq_rec ts t hwf

/-- **Writing never fails and never panics** for a well-formed data set of any depth (default strategy):
no `Err`, no `panic` outcome of the model writer. -/
theorem write_total (ts : Syntax) (t : Elems) (hwf : t.WF) (hw : Elems.Writable ts t) :
    ∃ bs, writeDataset ts .setUndefined t = .ok bs := by
  rw [write_tree_eq_rec ts t hwf]
  obtain ⟨e', h, _⟩ := recElems_total ts t hw (Enc.new ts) rfl
  exact ⟨e'.out, by simp [exBind, h]⟩

/-! ### regression witness of a repaired defect (fix f2b04a4)

Before the fix `DataSetWriter::write` kept `last_de` = the Pixel Data header after an encapsulated
pixel data element had ended; under `SetUndefined` the next `ItemStart` then kept its recorded
explicit length while the item's content was rewritten with undefined lengths (structurally invalid
output). The tree below is the witness found by the correspondence run (case #0 of the runner). -/

def witnessTree : Elems :=
  .cons (.seq ⟨0x0008, 0x1140⟩ undefinedLen
    (.cons undefinedLen (.cons (.pix [] []) .nil)
      (.cons 20 (.cons (.seq ⟨0x0008, 0x1140⟩ 8 (.cons 0 .nil .nil)) .nil) .nil))) .nil

def explicitLECfg : Valid.Cfg := ⟨true, false, fun _ _ => false⟩

theorem set_undefined_witness_valid :
    ∃ bs, writeDataset .explicitLE .setUndefined witnessTree = .ok bs ∧
      Valid.validPS35 explicitLECfg bs = true := by
  refine ⟨_, rfl, ?_⟩
  decide +kernel

/-- with the recorded lengths left alone (`NoChange`) the same consistent tree is written validly -/
theorem no_change_witness_valid :
    ∃ bs, writeDataset .explicitLE .noChange witnessTree = .ok bs ∧
      Valid.validPS35 explicitLECfg bs = true := by
  refine ⟨_, rfl, ?_⟩
  decide +kernel

/-! ### text elements under any Specific Character Set (`encode_text_element` / `encode_texts_element`)

The declared length and the padding follow the *encoded* bytes, whatever the codec does to the length of the
text (a Latin-1 or Cyrillic page shortens non-ASCII text relative to UTF-8, UTF-8 may lengthen it): for EVERY
codec environment, set in force and text element, the value field written is the encoded text, plus exactly
one VR-specific padding byte when (and only when) that is odd; its length is even. -/

/-- the encoded text of an element before padding: the codec of the set in force (the default repertoire for
AE, AS, CS, DA, DS, DT, IS, TM, UI), components joined with the backslash byte -/
def textBody (codec : Charset.Gen.Cs → Charset.Codec) (cur : Charset.Gen.Cs) (e : Charset.Elem) : Option (List Nat) :=
  let c := if Charset.writerUsesDefault e.vr then codec .Default else codec cur
  match e.form with
  | .str => c.encode (e.vals.headD [])
  | .strs => (Charset.mapM' c.encode e.vals).map Charset.joinBs

open Charset in
theorem writeElem_eq (codec : Gen.Cs → Codec) (cur : Gen.Cs) (e : Charset.Elem) :
    writeElem codec cur e = (textBody codec cur e).map fun b =>
      (⟨e.tag, e.vr, padEven e.vr b⟩, if e.tag = scsTag then switchTo cur e.vals.head? else cur) := by
  obtain ⟨tag, vr, form, vals⟩ := e
  cases form
  · simp only [writeElem, textBody]
    cases (if writerUsesDefault vr = true then codec .Default else codec cur).encode (vals.headD []) <;> rfl
  · simp only [writeElem, textBody]
    cases mapM' (if writerUsesDefault vr = true then codec .Default else codec cur).encode vals <;> rfl

open Charset in
theorem writeElem_some {codec : Gen.Cs → Codec} {cur cur' : Gen.Cs} {e : Charset.Elem} {w : Wire}
    (h : writeElem codec cur e = some (w, cur')) :
    ∃ b, textBody codec cur e = some b ∧ w = ⟨e.tag, e.vr, padEven e.vr b⟩ := by
  rw [writeElem_eq] at h
  cases hb : textBody codec cur e with
  | none => simp [hb] at h
  | some b =>
    simp only [hb, Option.map, Option.some.injEq, Prod.mk.injEq] at h
    exact ⟨b, rfl, h.1.symm⟩

open Charset in
theorem text_value_even (codec : Gen.Cs → Codec) (cur : Gen.Cs) (e : Charset.Elem) (w : Wire) (cur' : Gen.Cs)
    (h : writeElem codec cur e = some (w, cur')) : w.bytes.length % 2 = 0 := by
  obtain ⟨b, _, rfl⟩ := writeElem_some h
  exact padTo_even b _

open Charset in
theorem text_value_padding (codec : Gen.Cs → Codec) (cur : Gen.Cs) (e : Charset.Elem) (w : Wire) (cur' : Gen.Cs)
    (h : writeElem codec cur e = some (w, cur')) :
    ∃ raw, textBody codec cur e = some raw ∧ w.tag = e.tag ∧ w.vr = e.vr ∧
      (raw.length % 2 = 0 → w.bytes = raw) ∧
      (raw.length % 2 = 1 → w.bytes = raw ++ [if e.vr = .UI then 0 else 32]) := by
  obtain ⟨b, hb, rfl⟩ := writeElem_some h
  refine ⟨b, hb, rfl, rfl, ?_, ?_⟩ <;> intro hl <;> simp [padEven, hl]

/-- non-vacuity and the point of the statement: under ISO_IR 100 the PN "ã" (2 bytes of UTF-8) is ONE byte on
the wire and is padded; "ãb" (3 bytes of UTF-8) is two bytes and is not (kernel evaluation over the dumped page) -/
theorem latin1_padding_follows_encoded_length :
    (Charset.writeElem (Charset.codecOf fun _ => ⟨fun _ => none, fun _ => []⟩) .IsoIr100
        ⟨0x00100010, .PN, .strs, [[0xE3]]⟩).map (·.1.bytes) = some [0xE3, 32] ∧
    (Charset.writeElem (Charset.codecOf fun _ => ⟨fun _ => none, fun _ => []⟩) .IsoIr100
        ⟨0x00100010, .PN, .strs, [[0xE3, 98]]⟩).map (·.1.bytes) = some [0xE3, 98] := by
  decide +kernel

end Dicom.C04
