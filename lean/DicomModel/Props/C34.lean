import DicomModel.Lemmas.Fault
/-
C34 — I/O failures are always reported.

Every theorem quantifies over ALL behaviours of the underlying writer / reader: the sink (source)
answers each call through an arbitrary state machine `beh` (so every script `Ok n | Err | Ok 0`,
also adaptive ones), over all call sequences `ops` of the encoder, all data, all buffer contents.
"The failure was reached" is the ghost counter `fails` of the sink: it counts the `Err` / `Ok(0)`
answers actually handed to the stack.

Proved in full: direct writer stack (`write_dataset_with_ts`, `FileMetaTable::write`, `write_pdu`),
`BufWriter` stack with the final flush (`FileDicomObject::write_all` / `write_dataset`),
`PDataWriter` + `finish`, `read_pdu_from_wire`, `PDataReader`, reader programs for non-EOF errors.
False of the real code, negation proved on witnesses (and reproduced by the correspondence run):
the deflated writers finish the stream in `Drop` (`deflate_*_swallowed`), and a reader `Err` of
kind `UnexpectedEof` is taken for the end of the data set (`read_eofkind_swallowed`).
-/
namespace Dicom.Fault

/-! ## writing straight to the caller's writer -/

theorem res_cases (r : Res Unit) (hp : r ≠ .panic) (hk : r ≠ .ok ()) : r = .err := by
  cases r with
  | ok u => exact absurd rfl hk
  | err => rfl
  | panic => exact absurd rfl hp

/-- `InMemDicomObject::write_dataset_with_ts` (plain syntaxes), `FileMetaTable::write`, `write_pdu`:
if the sink failed at any call that was reached, the operation returns `Err`. -/
theorem direct_fault_reported (ops : List Op) (s : Sink β)
    (h : (pubDirect ops s).2.fails > s.fails) : (pubDirect ops s).1 = .err := by
  apply res_cases
  · exact runOps_no_panic _ (sink_noPanic β) ops s
  · intro hk
    have := runOps_ok _ (sink_honest β) ops s hk
    simp only [pubDirect, sinkLayer] at h this; omega

/-- … and `Ok` means the whole output, in order, was accepted by the sink. -/
theorem direct_ok_complete (ops : List Op) (s : Sink β) (h : (pubDirect ops s).1 = .ok ()) :
    (pubDirect ops s).2.content = s.content ++ opsData ops := by
  have := runOps_content _ (sink_faithful β) ops s h
  simpa [sinkLayer, pubDirect] using this

theorem direct_no_panic (ops : List Op) (s : Sink β) : (pubDirect ops s).1 ≠ .panic :=
  runOps_no_panic _ (sink_noPanic β) ops s

/-! ## `FileDicomObject::write_all` / `write_dataset`: `BufWriter`, final flush, drop -/

theorem file_no_panic (ops : List Op) (s : Sink β) : (pubFile ops s).1 ≠ .panic :=
  runOps_no_panic _ (buf_noPanic _ (sink_noPanic β)) ops _

theorem opsData_snoc_f (ops : List Op) : opsData (ops ++ [.f]) = opsData ops := by
  induction ops with
  | nil => rfl
  | cons op rest ih => rw [List.cons_append, opsData_cons, opsData_cons, ih]

/-- what `pubFile` returns when it returns `Ok`: no failure anywhere (including the drop-flush,
which has nothing left to write), and the sink holds the complete output. -/
theorem file_ok (ops : List Op) (s : Sink β) (h : (pubFile (ops ++ [.f]) s).1 = .ok ()) :
    (pubFile (ops ++ [.f]) s).2.inner.fails = s.fails ∧
    (pubFile (ops ++ [.f]) s).2.inner.content = s.content ++ opsData ops := by
  have FB := buf_faithful _ (sink_honest β) (sink_faithful β)
  have hok := runOps_ok _ (buf_honest _ (sink_honest β)) (ops ++ [Op.f]) ⟨s, [], bufCap⟩ h
  have hpe := runOps_flushed _ FB ops ⟨s, [], bufCap⟩ h
  have hco := runOps_content _ FB (ops ++ [Op.f]) ⟨s, [], bufCap⟩ h
  have hdr := FB.drop_idle _ hpe
  rw [hpe, opsData_snoc_f] at hco
  exact ⟨hdr.2.trans hok, hdr.1.trans (by simpa [bufLayer, sinkLayer] using hco)⟩

/-- The file writer reports every fault: if the sink failed at any call reached by the
operation — inside any `write_all`, the meta group flush, the final flush or the `BufWriter`'s
drop — the operation returns `Err`. -/
theorem file_fault_reported (ops : List Op) (s : Sink β)
    (h : (pubFile (ops ++ [.f]) s).2.inner.fails > s.fails) :
    (pubFile (ops ++ [.f]) s).1 = .err := by
  apply res_cases _ (file_no_panic _ s)
  intro hk
  have := (file_ok ops s hk).1; omega

/-- … never `Ok` with incomplete output. -/
theorem file_ok_complete (ops : List Op) (s : Sink β) (h : (pubFile (ops ++ [.f]) s).1 = .ok ()) :
    (pubFile (ops ++ [.f]) s).2.inner.content = s.content ++ opsData ops := (file_ok ops s h).2

/-- a sink that refuses every call -/
def alwaysErr : Sink Unit := ⟨fun _ _ _ => (.err false, ()), (), [], 0, 0⟩

/-- The final `flush` in `write_dataset_impl` is what makes the theorem true: without it the
buffered bytes are written by the `BufWriter`'s destructor, which swallows the error. -/
theorem file_needs_final_flush :
    (pubFile [.w [1, 2, 3]] alwaysErr).1 = .ok () ∧
    (pubFile [.w [1, 2, 3]] alwaysErr).2.inner.fails = 1 ∧
    (pubFile [.w [1, 2, 3]] alwaysErr).2.inner.content = [] := by
  decide +kernel

/-! ## the deflated transfer syntax -/

/-- Partial (all that is true of the code): while the encoder's calls run — every `write_all` and
the final `flush` — no failure of the sink is hidden by the deflate adapter or the `BufWriter`
under it; an `Ok` of that phase means the sink failed at no call so far. -/
theorem deflate_calls_fault_reported_partial (C : Comp) (L : Layer σ) (H : Honest L)
    (ops : List Op) (d : Defl C σ) (h : (runOps (deflLayer C L) ops d).1 = .ok ()) :
    L.fails (runOps (deflLayer C L) ops d).2.inner = L.fails d.inner :=
  runOps_ok (deflLayer C L) (defl_honest L H) ops d h

/-- … and after a successful `flush` the adapter holds no compressed byte back. -/
theorem deflate_flush_delivers (C : Comp) (L : Layer σ) (H : Honest L) (d : Defl C σ)
    (h : (d.flush L).1 = .ok ()) : (d.flush L).2.pending = [] := (defl_flush_ok L H d h).2

theorem deflate_no_panic (C : Comp) (z0 : C.Z) (ops : List Op) (s : Sink β) :
    (pubDatasetDeflate C z0 ops s).1 ≠ .panic :=
  runOps_no_panic _ (defl_noPanic _ (sink_noPanic β)) ops _

/-- a compressor that buffers its input, emits two bytes on a sync flush and one final byte -/
def comp1 : Comp := ⟨Unit, fun _ _ => ((), []), fun _ => ((), [1, 2]), fun _ => ((), [3])⟩

/-- a sink that accepts `n` bytes and refuses every call after that -/
def errAfter (n : Nat) : Sink Unit :=
  ⟨fun _ pos r => match r with
      | .write len => if pos < n then (.ok (min len (n - pos)), ()) else (.err false, ())
      | .flush => (.ok 0, ()), (), [], 0, 0⟩

/-- **The full statement is false for `FileDicomObject::write_all` with a deflated syntax**: the
final deflate block is produced by `Drop for zio::Writer` (`let _ = self.finish()`), after the last
`flush` — a sink that fails there goes unnoticed: `Ok`, one failure, output one byte short. -/
theorem deflate_file_final_block_swallowed :
    let r := pubFileDeflate comp1 () [.w [9], .f] [.w [7, 7], .f] (errAfter 3)
    r.1 = .ok () ∧ r.2.inner.inner.fails = 1 ∧ r.2.inner.inner.content = [9, 1, 2] := by
  decide +kernel

/-- **… and for `InMemDicomObject::write_dataset_with_ts`**, which never flushes the adapter: with
a small data set *nothing* reaches the sink before the destructor runs; every failure is lost. -/
theorem deflate_dataset_swallowed :
    let r := pubDatasetDeflate comp1 () [.w [7, 7]] alwaysErr
    r.1 = .ok () ∧ r.2.inner.fails = 1 ∧ r.2.inner.content = [] := by
  decide +kernel

/-! ## `PDataWriter` -/

/-- what `Ok` from `write_all`… + `finish()` means: the stream failed at no call, and the buffer is
empty — the last PDU went out (the `Drop` that follows has nothing to send). -/
theorem pdata_ok (chunks : List Bytes) (pcid maxPdu : Nat) (s : Sink β)
    (hk : (pubPData chunks pcid maxPdu s).1 = .ok ()) :
    (pubPData chunks pcid maxPdu s).2.inner.fails = s.fails ∧
    (pubPData chunks pcid maxPdu s).2.buffer = [] := by
  have hr := runOps_ok _ (pdata_honest _ (sink_honest β)) (chunks.map .w)
    (PDataW.new s pcid maxPdu)
  unfold pubPData at hk ⊢
  simp only at hk ⊢
  split
  · rename_i heq
    rw [heq] at hk
    obtain ⟨h1, h2⟩ := pdata_finish_ok (sinkLayer β) (sink_honest β) _ hk
    rw [pdata_drop_idle _ _ h2]
    exact ⟨h1.trans (hr heq), h2⟩
  · rename_i r hne
    simp only at hk
    exact absurd hk hne

theorem pdata_no_panic (chunks : List Bytes) (pcid maxPdu : Nat) (s : Sink β) (hm : 6 ≤ maxPdu) :
    (pubPData chunks pcid maxPdu s).1 ≠ .panic := by
  have N := sink_noPanic β
  have hnew : PDataW.Wf (PDataW.new s pcid maxPdu) :=
    ⟨Nat.le_refl 12, Nat.add_le_add_right hm 6⟩
  have hrun := runOps_no_panic_of _ PDataW.Wf (pdata_run_wf (sinkLayer β) N) (chunks.map .w) _ hnew
  unfold pubPData
  simp only
  split
  · exact pdata_finish_no_panic _ N _ hrun.2
  · exact hrun.1

/-- `PDataWriter` reports every fault: if the stream failed at any call reached by the
`write_all`s, `finish` or the destructor, the user sees `Err` (for any maximum PDU length ≥ 6;
`MINIMUM_PDU_SIZE`, the smallest one `ul/src/pdu/mod.rs` calls negotiable, is 1018). -/
theorem pdata_fault_reported (chunks : List Bytes) (pcid maxPdu : Nat) (s : Sink β)
    (hm : 6 ≤ maxPdu) (h : (pubPData chunks pcid maxPdu s).2.inner.fails > s.fails) :
    (pubPData chunks pcid maxPdu s).1 = .err := by
  apply res_cases _ (pdata_no_panic chunks pcid maxPdu s hm)
  intro hk
  have := (pdata_ok chunks pcid maxPdu s hk).1; omega

/-- the hypothesis on the maximum PDU length is needed: with a smaller one the slice
`&buf[..total_len - self.buffer.len()]` underflows -/
theorem pdata_small_max_panics :
    (pubPData [[1, 2, 3]] 1 2 alwaysErr).1 = .panic := by
  decide +kernel

/-! ## reading -/

/-- **`read_pdu_from_wire`**: for every framing function, every source behaviour and every content
of the read buffer — if any read of the source returned `Err` (any kind), the result is `Err`.
(Termination of the loop is part of the definition: every round consumes ≥ 1 byte of the stream.) -/
theorem wire_fault_reported (frame : Bytes → Frame) (s : Src β) (rb : Bytes)
    (h : s.pos ≤ s.data.length) (hf : (wireLoop frame s rb h).2.fails > s.fails) :
    ∃ e, (wireLoop frame s rb h).1 = .err e := by
  rcases hr : wireLoop frame s rb h with ⟨r, s'⟩
  cases r with
  | ok x => have := wireLoop_ok frame s rb h x s' hr; rw [hr] at hf; simp only at hf; omega
  | err e => exact ⟨e, rfl⟩

/-- **`PDataReader`** read to the end, over any number of PDUs: `Ok` only if no read returned `Err`
(cases 5 and 6 are the two `Ok` branches of `pdataReadAll`). -/
theorem pdata_read_fault_reported (frame : Bytes → Frame) :
    ∀ (fuel : Nat) (s : Src β) (rb : Bytes) (h : s.pos ≤ s.data.length) (x : Bytes),
      (pdataReadAll frame fuel s rb h).1 = .ok x → (pdataReadAll frame fuel s rb h).2.fails = s.fails := by
  intro fuel s rb h
  fun_induction pdataReadAll frame fuel s rb h with
  | case5 _ s rb h pdu rb' s' hw => exact fun _ _ => wireLoop_ok frame s rb h _ s' hw
  | case6 _ s rb h pdu rb' s' hw _ _ _ _ _ g s'' hr ih =>
    have := ih g (by rw [hr])
    rw [hr] at this
    exact fun _ _ => this.trans (wireLoop_ok frame s rb h _ s' hw)
  | _ => nofun

/-- **file / data set readers** (`from_reader`, `read_dataset_with_ts`, `FileMetaTable::from_reader`)
as reader programs: whatever the program, if a read failed with an error whose kind is not
`UnexpectedEof`, the operation does not return `Ok`. -/
theorem read_io_fault_reported (p : Prog) (s : Src β)
    (h : (pubRead p s).2.inner.ioFails > s.ioFails) : (pubRead p s).1 = false := by
  cases hr : (pubRead p s).1 with
  | false => rfl
  | true => have := Prog.run_ok p ⟨s, []⟩ hr; simp only [pubRead] at h this; omega

theorem read_file_io_fault_reported (p : Prog) (s : Src β)
    (h : (pubReadFile p s).2.inner.ioFails > s.ioFails) : (pubReadFile p s).1 = false := by
  cases hr : (pubReadFile p s).1 with
  | false => rfl
  | true =>
    unfold pubReadFile at h hr
    have hd := detectPreamble_spec (⟨s, []⟩ : BufR β)
    rcases hdp : detectPreamble (⟨s, []⟩ : BufR β) with ⟨r, b⟩
    rw [hdp] at h hr hd
    cases r with
    | ok u =>
      have := Prog.run_ok (magicThen p) b hr
      have : b.inner.ioFails = s.ioFails := hd nofun
      simp only at h; omega
    | err e => cases hr

/-- a source whose every read fails with an `io::Error` of kind `UnexpectedEof` -/
def alwaysEofErr (data : Bytes) : Src Unit := ⟨fun _ _ _ => (.err true, ()), (), data, 0, 0, 0⟩

/-- a data set reader: element header of 8 bytes or a graceful end on `UnexpectedEof`
(`parser/src/dataset/read.rs`, the `ReadHeaderTag` arm) -/
def headerOrEnd : Prog := .need 8 (fun _ => .done true) (.done true)

/-- **The full statement is false of the data set readers for errors of kind `UnexpectedEof`**:
the reader cannot tell such an `Err` from the end of the stream and reports success. -/
theorem read_eofkind_swallowed :
    (pubRead headerOrEnd (alwaysEofErr [1, 2, 3])).1 = true ∧
    (pubRead headerOrEnd (alwaysEofErr [1, 2, 3])).2.inner.eofFails = 1 := by
  decide +kernel

/-- non-vacuity: the hypotheses of the positive theorems are met by concrete failing runs -/
example : (pubDirect [.w [1, 2]] alwaysErr).2.fails > alwaysErr.fails ∧
    (pubDirect [.w [1, 2]] alwaysErr).1 = .err := by
  decide +kernel

example : (pubFile ([.w [1, 2]] ++ [.f]) alwaysErr).2.inner.fails > alwaysErr.fails ∧
    (pubFile ([.w [1, 2]] ++ [.f]) alwaysErr).1 = .err := by
  decide +kernel

end Dicom.Fault
