import DicomModel.Model.StoreScp
import DicomModel.Lemmas.StoreScp
/-
C32 — The storage SCP stores exactly what it receives, only in its output directory.

Model: `DicomModel/Model/StoreScp.lean` (`storescp/src/store_sync.rs`, `store_async.rs`).

Part 1 (where the file lands).  `stored_inside`: the statement's first clause at full strength —
for EVERY SOP Instance UID text (separators, `..`, absolute paths, NUL, …), every directory text,
working directory and directory tree, a created file lies directly inside the output directory;
`stored_inside_created`: and it is created there under the evident file-system conditions;
`fileName_of_legal_uid`: well-formed UIDs keep the name `<uid>.dcm`.  The clause was FALSE of the
code before fix 08d5699 (`legacy_stored_inside_refuted`, witnesses `legacy_escape_*`; finding
`uid-path-escape`).

Part 2 (what is stored).  `store_message`: for any state, any command, any split
of the data set bytes into P-DATA values and any grouping into PDUs, exactly one file is written; its
data set is the decoding, in the transfer syntax negotiated for the presentation context, of the
concatenation of the received fragments; its meta group carries that transfer syntax and the SOP
class / instance of that data set.  `writes_sound`: in ANY event sequence (also ill-formed ones)
every file written has these properties.  The data-set codec is a parameter.
-/
namespace Dicom.StoreScp

/-! ## Part 1: where the file lands -/

theorem directlyInside_iff (D f : Comps) : directlyInside D f = true ↔ ∃ name, f = D ++ [name] := by
  constructor
  · intro h
    simp only [directlyInside, Bool.and_eq_true, Bool.not_eq_true', beq_iff_eq] at h
    obtain ⟨h1, h2⟩ := h
    have hne : f ≠ [] := by
      intro e; subst e; simp at h1
    refine ⟨f.getLast hne, ?_⟩
    rw [← h2]
    exact (List.dropLast_concat_getLast hne).symm
  · rintro ⟨n, rfl⟩
    simp [directlyInside]

/-- The first clause of the statement for a naming function `path dir uid`: whatever the UID
text, the directory text, the working directory and the existing directories, a file that gets
created lies directly inside the configured directory. -/
def StoredInside (path : Str → Str → Str) : Prop :=
  ∀ (dirs : List Comps) (cwd : Comps) (dir uid : Str) (D f : Comps),
    locateDir dirs cwd dir = some D → locate dirs cwd (path dir uid) = some f →
    directlyInside D f = true

theorem locate_of_pieces (dirs : List Comps) (cwd : Comps) (p : Str) (pre : List Str) (name : Str)
    (D : Comps) (hp : p ≠ []) (hn : nul ∉ p) (hs : splitOn '/' p = pre ++ [name])
    (h0 : name ≠ []) (h1 : name ≠ dot) (h2 : name ≠ dotdot)
    (hlen : (utf8Encode name).length ≤ 255)
    (hw : walk dirs (if isAbs p then [] else cwd) pre = some D) (hfree : D ++ [name] ∉ dirs) :
    locate dirs cwd p = some (D ++ [name]) := by
  unfold locate
  have hl : ¬ (utf8Encode name).length > 255 := by omega
  simp [hp, hn, hs, h0, h1, h2, hl, hw, hfree]

/-- conversely: whenever a file is created, it is the last piece, in the directory the walk over
the other pieces reaches -/
theorem pieces_of_locate (dirs : List Comps) (cwd : Comps) (p : Str) (pre : List Str) (name : Str)
    (D f : Comps) (hs : splitOn '/' p = pre ++ [name])
    (hw : walk dirs (if isAbs p then [] else cwd) pre = some D)
    (h : locate dirs cwd p = some f) : f = D ++ [name] := by
  unfold locate at h
  simp only [hs, List.getLast?_append, List.getLast?_singleton, Option.some_or, Option.getD_some,
    List.dropLast_concat, hw] at h
  split at h
  · simp at h
  · split at h
    · simp at h
    · split at h
      · simp at h
      · exact (Option.some.inj h).symm

theorem isAbs_append_of_ne_nil {a : Str} (b : Str) (h : a ≠ []) : isAbs (a ++ b) = isAbs a := by
  cases a with
  | nil => exact absurd rfl h
  | cons x xs => simp [isAbs]

theorem dcm_name_facts (base : Str) (hb : '/' ∉ base) :
    '/' ∉ base ++ dcmExt ∧ base ++ dcmExt ≠ [] ∧ base ++ dcmExt ≠ dot ∧ base ++ dcmExt ≠ dotdot := by
  have hlen : (base ++ dcmExt).length ≥ 4 := by simp [dcmExt]
  refine ⟨?_, ?_, ?_, ?_⟩
  · intro h
    rcases List.mem_append.mp h with h | h
    · exact hb h
    · revert h; decide
  · intro e; rw [e] at hlen; simp at hlen
  · intro e; rw [e] at hlen; simp [dot] at hlen
  · intro e; rw [e] at hlen; simp [dotdot] at hlen

theorem push_rel (dir n : Str) (hn : isAbs n = false) :
    (dir = [] ∧ push dir n = n) ∨
    ∃ d, (dir = d ∨ dir = d ++ ['/']) ∧ dir ≠ [] ∧ push dir n = d ++ '/' :: n := by
  by_cases hd : dir = []
  · subst hd
    exact .inl ⟨rfl, by simp [push, hn]⟩
  · by_cases hl : dir.getLast? = some '/'
    · have hdir : dir = dir.dropLast ++ ['/'] := by
        rw [List.getLast?_eq_some_getLast hd, Option.some.injEq] at hl
        rw [← hl]
        exact (List.dropLast_concat_getLast hd).symm
      refine .inr ⟨dir.dropLast, .inr hdir, hd, ?_⟩
      rw [hdir]
      simp [push, hn]
    · have : dir.isEmpty = false := by simpa using hd
      exact .inr ⟨dir, .inl rfl, hd, by simp [push, hn, this, hl]⟩

/-- `push`ing a non-empty name without separator adds exactly one piece, and the other pieces walk to
the directory the directory text names -/
theorem push_pieces (dir n : Str) (hs : '/' ∉ n) (h0 : n ≠ []) :
    ∃ pre, splitOn '/' (push dir n) = pre ++ [n] ∧ push dir n ≠ [] ∧
      (∀ c, c ∈ push dir n → c ∈ dir ∨ c = '/' ∨ c ∈ n) ∧
      ∀ (dirs : List Comps) (cwd D : Comps), locateDir dirs cwd dir = some D →
        walk dirs (if isAbs (push dir n) then [] else cwd) pre = some D := by
  have hab : isAbs n = false := by
    cases n with
    | nil => exact absurd rfl h0
    | cons x xs =>
      have : x ≠ '/' := fun e => hs (by simp [e])
      simp [isAbs, this]
  rcases push_rel dir n hab with ⟨rfl, hp⟩ | ⟨d, hd, hne, hp⟩
  · rw [hp]
    refine ⟨[], by simpa using splitOn_of_not_mem hs, h0, fun c hc => .inr (.inr hc), ?_⟩
    intro dirs cwd D hD
    rw [hab]
    simpa [locateDir, isAbs, splitOn, walk] using hD
  · rw [hp]
    refine ⟨splitOn '/' d, by rw [splitOn_append_sep, splitOn_of_not_mem hs], by simp, ?_, ?_⟩
    · intro c hc
      rcases List.mem_append.mp hc with h | h
      · rcases hd with rfl | rfl
        · exact .inl h
        · exact .inl (List.mem_append_left _ h)
      · exact .inr (List.mem_cons.mp h)
    · intro dirs cwd D hD
      unfold locateDir at hD
      rcases hd with rfl | rfl
      · rwa [isAbs_append_of_ne_nil _ hne]
      · -- the empty last piece of `d ++ "/"` is skipped by the walk
        have habs : isAbs (d ++ '/' :: n) = isAbs (d ++ ['/']) := by
          cases d <;> simp [isAbs]
        rw [splitOn_append_sep, walk_append] at hD
        obtain ⟨e, he, hD⟩ := Option.bind_eq_some_iff.mp hD
        rw [habs, he]
        simpa [splitOn, walk] using hD

/-- any naming that pushes `<separator-free base>.dcm` on the directory satisfies the clause -/
theorem stored_inside_of_plain_base (base : Str → Str) (hb : ∀ uid, '/' ∉ base uid) :
    StoredInside fun dir uid => push dir (base uid ++ dcmExt) := by
  intro dirs cwd dir uid D f hD hf
  obtain ⟨hs0, h0, _, _⟩ := dcm_name_facts _ (hb uid)
  obtain ⟨pre, hs, _, _, hw⟩ := push_pieces dir _ hs0 h0
  have := pieces_of_locate dirs cwd _ pre _ D f hs (hw dirs cwd D hD) hf
  exact (directlyInside_iff D f).mpr ⟨_, this⟩

/-- The first clause of the statement, at full strength, for the code as it
is (after fix 08d5699): for EVERY UID text, directory text, working directory and directory tree,
a file that `storescp` creates lies directly inside its output directory. -/
theorem stored_inside : StoredInside outPath :=
  stored_inside_of_plain_base (fun uid => sanitise (trimEndBy isNul uid))
    (fun _ h => (mem_sanitise h).1 rfl)

/-- … and the file IS created there (the store is not refused) whenever the directory exists, its
text has no NUL, the name fits `NAME_MAX` and is not an existing directory -/
theorem stored_inside_created (dirs : List Comps) (cwd D : Comps) (dir uid : Str)
    (hdn : nul ∉ dir) (hD : locateDir dirs cwd dir = some D)
    (hlen : (utf8Encode (fileName uid)).length ≤ 255)
    (hfree : D ++ [fileName uid] ∉ dirs) :
    locate dirs cwd (outPath dir uid) = some (D ++ [fileName uid]) := by
  have hb : '/' ∉ sanitise (trimEndBy isNul uid) := fun h => (mem_sanitise h).1 rfl
  have hbn : nul ∉ sanitise (trimEndBy isNul uid) := fun h => (mem_sanitise h).2 rfl
  obtain ⟨hs0, h0, h1, h2⟩ := dcm_name_facts _ hb
  obtain ⟨pre, hs, hne, hmem, hw⟩ := push_pieces dir _ hs0 h0
  refine locate_of_pieces dirs cwd _ pre _ D hne ?_ hs h0 h1 h2 hlen (hw dirs cwd D hD) hfree
  intro h
  rcases hmem _ h with h | h | h
  · exact hdn h
  · revert h; decide
  · rcases List.mem_append.mp h with h | h
    · exact hbn h
    · revert h; decide

/-- the repair changes nothing for texts without separator or NUL (every well-formed UID) -/
theorem sanitise_id_of_plain {s : Str} (h1 : '/' ∉ s) (h2 : nul ∉ s) : sanitise s = s := by
  unfold sanitise
  induction s with
  | nil => rfl
  | cons x xs ih =>
    have hx1 : x ≠ '/' := fun e => h1 (by simp [e])
    have hx2 : x ≠ nul := fun e => h2 (by simp [e])
    have := ih (fun m => h1 (by simp [m])) (fun m => h2 (by simp [m]))
    simp [hx1, hx2, this]

/-- a legal DICOM UID: digits and dots only -/
def LegalUid (uid : Str) : Prop := ∀ c ∈ uid, c.isDigit = true ∨ c = '.'

/-- legal UIDs keep the file name they always had: `<uid>.dcm` -/
theorem fileName_of_legal_uid (uid : Str) (hu : LegalUid uid) : fileName uid = uid ++ dcmExt := by
  have hmem : ∀ c ∈ uid, c ≠ '/' ∧ c ≠ nul := by
    intro c hc
    rcases hu c hc with h | h
    · constructor <;> (intro e; subst e; revert h; decide)
    · subst h; exact ⟨by decide, by decide⟩
  have htrim : trimEndBy isNul uid = uid := by
    unfold trimEndBy
    cases hr : uid.reverse with
    | nil => simpa using hr
    | cons x xs =>
      have hx : x ∈ uid := List.mem_reverse.mp (by rw [hr]; simp)
      have : isNul x = false := by
        have := (hmem x hx).2
        simp [isNul, this]
      rw [List.dropWhile_cons_of_neg (by simp [this]), ← hr, List.reverse_reverse]
  unfold fileName
  rw [htrim, sanitise_id_of_plain (fun h => (hmem _ h).1 rfl) (fun h => (hmem _ h).2 rfl)]

/-! ### the code before fix 08d5699 did not satisfy the clause -/

private def w : Str := ['w']
private def o : Str := ['o']
private def s : Str := ['s']
private def dirs0 : List Comps := [[], [w], [w, o], [w, s], [w, o, s]]

/-- `../x`: the file was created in the parent of the output directory -/
theorem legacy_escape_parent :
    locateDir dirs0 [w] o = some [w, o] ∧
    locate dirs0 [w] (outPathLegacy o ['.', '.', '/', 'x']) = some [w, ['x', '.', 'd', 'c', 'm']] := by
  decide +kernel

/-- an absolute UID text replaced the output directory altogether -/
theorem legacy_escape_absolute :
    locate dirs0 [w] (outPathLegacy o ['/', 'w', '/', 's', '/', 'x']) = some [w, s, ['x', '.', 'd', 'c', 'm']] := by
  decide +kernel

/-- `s/x` with an existing sub-directory `s`: inside, but not directly inside -/
theorem legacy_escape_subdir :
    locate dirs0 [w] (outPathLegacy o ['s', '/', 'x']) = some [w, o, s, ['x', '.', 'd', 'c', 'm']] := by
  decide +kernel

theorem legacy_stored_inside_refuted : ¬ StoredInside outPathLegacy := by
  intro h
  have := h dirs0 [w] o ['.', '.', '/', 'x'] [w, o] [w, ['x', '.', 'd', 'c', 'm']]
    legacy_escape_parent.1 legacy_escape_parent.2
  revert this
  decide +kernel

-- the hypotheses are satisfiable, and the same inputs now stay inside
example : locate dirs0 [w] (outPath o ['1', '.', '2']) = some [w, o, ['1', '.', '2', '.', 'd', 'c', 'm']] := by
  decide +kernel
example : locate dirs0 [w] (outPath o ['.', '.', '/', 'x']) = some [w, o, ['.', '.', '_', 'x', '.', 'd', 'c', 'm']] := by
  decide +kernel
example : locate dirs0 [w] (outPath o ['/', 'w', '/', 's', '/', 'x']) =
    some [w, o, ['_', 'w', '_', 's', '_', 'x', '.', 'd', 'c', 'm']] := by
  decide +kernel

/-! ## Part 2: what is stored -/

variable {δ : Type}

def dataPdv (pc : Nat) (last : Bool) (b : Bytes) : Pdv := ⟨pc, .data, last, b⟩

theorem stepPdvs_append (env : Env δ) (s : St) (a b : List Pdv) :
    stepPdvs env s (a ++ b) =
      match stepPdvs env s a with
      | (some s', es) => ((stepPdvs env s' b).1, es ++ (stepPdvs env s' b).2)
      | (none, es) => (none, es) := by
  induction a generalizing s with
  | nil => simp [stepPdvs]
  | cons v vs ih =>
    simp only [List.cons_append, stepPdvs]
    cases h : stepPdv env s v with
    | none => simp
    | some r =>
      obtain ⟨s1, es1⟩ := r
      simp only [ih s1]
      cases h2 : stepPdvs env s1 vs with
      | mk r2 es2 =>
        cases r2 with
        | none => simp
        | some s2 => simp [List.append_assoc]

/-- **PDU grouping is irrelevant**: the values of one PDU may as well arrive in two -/
theorem run_pdata_split (env : Env δ) (s : St) (a b : List Pdv) (evs : List Ev) :
    run env s (.pdata (a ++ b) :: evs) = run env s (.pdata a :: .pdata b :: evs) := by
  simp only [run, stepPdvs_append]
  cases h : stepPdvs env s a with
  | mk r es =>
    cases r with
    | none => simp
    | some s1 =>
      cases h2 : stepPdvs env s1 b with
      | mk r2 es2 =>
        cases r2 with
        | none => simp [h2]
        | some s2 => simp [h2]

theorem run_pdata_nil (env : Env δ) (s : St) (evs : List Ev) :
    run env s (.pdata [] :: evs) = run env s evs := by
  simp [run, stepPdvs]

/-- any grouping of a value sequence into PDUs gives the same effects as one PDU -/
theorem run_any_grouping (env : Env δ) (s : St) (pdus : List (List Pdv)) (evs : List Ev) :
    run env s (pdus.map Ev.pdata ++ evs) = run env s (.pdata pdus.flatten :: evs) := by
  induction pdus generalizing s with
  | nil => simp [run_pdata_nil]
  | cons p ps ih =>
    simp only [List.map_cons, List.cons_append, List.flatten_cons]
    rw [run_pdata_split]
    simp only [run]
    cases h : stepPdvs env s p with
    | mk r es =>
      cases r with
      | none => rfl
      | some s1 =>
        have := ih s1
        simp only [run] at this
        simp only [this]

/-- non-final data fragments only accumulate in the instance buffer -/
theorem stepPdvs_fragments (env : Env δ) (s : St) (pc : Nat) (fs : List Bytes) :
    stepPdvs env s (fs.map (dataPdv pc false)) = (some { s with buf := s.buf ++ fs.flatten }, []) := by
  induction fs generalizing s with
  | nil => simp [stepPdvs]
  | cons f fs ih =>
    simp only [List.map_cons, stepPdvs, stepPdv, dataPdv, List.flatten_cons]
    have := ih { s with buf := s.buf ++ f }
    simp [this, List.append_assoc]

/-- **fragmentation is irrelevant**: a data set sent as fragments `fs` + final fragment `l`
is processed exactly like the same bytes sent as one final fragment -/
theorem chunking_irrelevant (env : Env δ) (s : St) (pc : Nat) (fs : List Bytes) (l : Bytes) :
    stepPdvs env s (fs.map (dataPdv pc false) ++ [dataPdv pc true l]) =
    stepPdvs env s [dataPdv pc true (fs.flatten ++ l)] := by
  rw [stepPdvs_append, stepPdvs_fragments]
  simp only [stepPdvs, stepPdv, dataPdv, List.append_assoc]
  cases lookupPc env.pcs pc with
  | none => rfl
  | some ts =>
    simp only
    cases env.decodeDs ts (s.buf ++ (fs.flatten ++ l)) with
    | none => rfl
    | some ds =>
      simp only
      cases env.sopClass ds <;> cases env.sopInst ds <;> simp

/-- One C-STORE message — a command, then the data set in any number of
fragments — makes the loop write exactly one file, named after the command's Affected SOP Instance
UID, whose data set is the received bytes decoded in the transfer syntax negotiated for the
presentation context, with that transfer syntax and the data set's SOP class/instance in the meta
group; then a success response for the command's message id. Earlier state does not matter. -/
theorem store_message (env : Env δ) (s : St) (pcC pc : Nat) (cbytes : Bytes) (c : Cmd)
    (f m : Nat) (k u : Str) (fs : List Bytes) (l : Bytes) (ts : Str) (ds : δ) (dc di : Str)
    (hc : env.decodeCmd cbytes = some c) (hf : c.field = some f) (hne : f ≠ 0x30)
    (hm : c.msgId = some m) (hk : c.cls = some k) (hu : c.inst = some u)
    (hpc : lookupPc env.pcs pc = some ts)
    (hds : env.decodeDs ts (fs.flatten ++ l) = some ds)
    (hdc : env.sopClass ds = some dc) (hdi : env.sopInst ds = some di)
    (hw : env.canWrite (outPath env.outDir (toStrText u)) = true) :
    stepPdvs env s (⟨pcC, .command, true, cbytes⟩ :: (fs.map (dataPdv pc false) ++ [dataPdv pc true l])) =
      (some ⟨fs.flatten ++ l, m, toStrText k, toStrText u⟩,
       [.wrote ⟨outPath env.outDir (toStrText u), ts, dc, di, ds⟩,
        .storeRsp pc m (toStrText k) (toStrText u)]) := by
  rw [stepPdvs]
  simp only [stepPdv, hc, hf, hne, if_false, hm, hk, hu]
  rw [chunking_irrelevant]
  simp [stepPdvs, stepPdv, dataPdv, hpc, hds, hdc, hdi, hw]

/-- with a codec that re-encodes what it decoded, the stored data set bytes ARE the received bytes -/
theorem stored_bytes (decode : Bytes → Option δ) (encode : δ → Bytes)
    (hcodec : ∀ b d, decode b = some d → encode d = b)
    (fs : List Bytes) (l : Bytes) (ds : δ) (h : decode (fs.flatten ++ l) = some ds) :
    encode ds = fs.flatten ++ l := hcodec _ _ h

/-- what every written file satisfies -/
def WriteOk (env : Env δ) (f : FileOut δ) : Prop :=
  ∃ pc buf u, lookupPc env.pcs pc = some f.ts ∧ env.decodeDs f.ts buf = some f.ds ∧
    env.sopClass f.ds = some f.cls ∧ env.sopInst f.ds = some f.inst ∧
    f.path = outPath env.outDir u ∧ env.canWrite f.path = true

theorem stepPdv_effects (env : Env δ) (s s' : St) (v : Pdv) (es : List (Effect δ))
    (h : stepPdv env s v = some (s', es)) :
    es = [] ∨ es = [.echoRsp v.pc s.msgId] ∨
    ∃ ts ds dc di, lookupPc env.pcs v.pc = some ts ∧
      env.decodeDs ts (s.buf ++ v.data) = some ds ∧
      env.sopClass ds = some dc ∧ env.sopInst ds = some di ∧
      env.canWrite (outPath env.outDir s.inst) = true ∧
      es = [.wrote ⟨outPath env.outDir s.inst, ts, dc, di, ds⟩,
            .storeRsp v.pc s.msgId s.cls s.inst] := by
  unfold stepPdv at h
  split at h
  · cases h; exact .inl rfl
  · cases h; exact .inl rfl
  · split at h
    · cases h
    · split at h
      · cases h
      · split at h
        · cases h; exact .inr (.inl rfl)
        · split at h
          · cases h; exact .inl rfl
          · cases h
  · split at h
    · cases h
    · next ts hts =>
      dsimp only at h
      split at h
      · cases h
      · next ds hds =>
        split at h
        · next dc di hdc hdi =>
          split at h
          · next hw =>
            cases h
            exact .inr (.inr ⟨ts, ds, dc, di, hts, hds, hdc, hdi, hw, rfl⟩)
          · cases h
        · cases h

theorem stepPdv_writes (env : Env δ) (s s' : St) (v : Pdv) (es : List (Effect δ))
    (h : stepPdv env s v = some (s', es)) (f : FileOut δ) (hf : Effect.wrote f ∈ es) :
    WriteOk env f := by
  rcases stepPdv_effects env s s' v es h with rfl | rfl | ⟨ts, ds, dc, di, hts, hds, hdc, hdi, hw, rfl⟩
  · cases hf
  · cases List.mem_singleton.mp hf
  · rcases List.mem_cons.mp hf with e | e
    · cases e
      exact ⟨v.pc, _, s.inst, hts, hds, hdc, hdi, rfl, hw⟩
    · cases List.mem_singleton.mp e

theorem stepPdvs_writes (env : Env δ) (vs : List Pdv) (s : St) (f : FileOut δ)
    (hf : Effect.wrote f ∈ (stepPdvs env s vs).2) : WriteOk env f := by
  induction vs generalizing s with
  | nil => simp [stepPdvs] at hf
  | cons v vs ih =>
    simp only [stepPdvs] at hf
    cases h : stepPdv env s v with
    | none => simp [h] at hf
    | some r =>
      obtain ⟨s1, es1⟩ := r
      simp only [h] at hf
      rcases List.mem_append.mp hf with hf | hf
      · exact stepPdv_writes env s s1 v es1 h f hf
      · exact ih s1 hf

/-- In ANY sequence of received PDUs (well-formed or not), from any state, every
file the loop writes (a) is named by `push`ing `<some UID text>.dcm` on the output directory,
(b) has the transfer syntax negotiated for the presentation context of its final fragment,
(c) holds a data set decoded in that syntax, and (d) has that data set's SOP class and instance
in its meta group. -/
theorem writes_sound (env : Env δ) (evs : List Ev) (s : St) (f : FileOut δ)
    (hf : Effect.wrote f ∈ run env s evs) : WriteOk env f := by
  induction evs generalizing s with
  | nil => simp [run] at hf
  | cons e evs ih =>
    cases e with
    | pdata vs =>
      simp only [run] at hf
      have hes := stepPdvs_writes env vs s f
      cases h : stepPdvs env s vs with
      | mk r es =>
        rw [h] at hf hes
        cases r with
        | none => exact hes hf
        | some s1 => exact (List.mem_append.mp hf).elim hes (ih s1)
    | releaseRq => simp [run] at hf
    | abortRq => simp [run] at hf
    | other => simp only [run] at hf; exact ih s hf

/-- the loop never answers a data set it could not store: a store response is always directly
preceded by the file write -/
theorem response_follows_write (env : Env δ) (s s' : St) (v : Pdv) (es : List (Effect δ))
    (h : stepPdv env s v = some (s', es)) (pc m : Nat) (k u : Str)
    (hr : Effect.storeRsp pc m k u ∈ es) :
    ∃ f, es = [.wrote f, .storeRsp pc m k u] ∧ f.path = outPath env.outDir u := by
  rcases stepPdv_effects env s s' v es h with rfl | rfl | ⟨ts, ds, dc, di, _, _, _, _, _, rfl⟩
  · cases hr
  · cases List.mem_singleton.mp hr
  · rcases List.mem_cons.mp hr with e | e
    · cases e
    · cases List.mem_singleton.mp e
      exact ⟨_, rfl, rfl⟩

/-- the file layout the driver's oracle parses: splitting a written file gives back the meta
elements and the data set bytes -/
theorem splitFile_fileBytes (metaBody dsBytes : Bytes) (hm : metaBody.length < 4294967296) :
    splitFile (fileBytes metaBody dsBytes) = some (metaBody, dsBytes) := by
  unfold fileBytes
  -- the preamble matters by its length only
  generalize hp : List.replicate 128 (0 : Nat) = pre
  have hpre : pre.length = 128 := by rw [← hp, List.length_replicate]
  unfold splitFile
  have hlen : ¬ (pre ++ ([68, 73, 67, 77] ++ ([2, 0, 0, 0, 85, 76, 4, 0] ++
      (le32 metaBody.length ++ (metaBody ++ dsBytes))))).length < 144 := by
    simp [le32, hpre]
    omega
  rw [if_neg hlen]
  simp only [List.drop_left' hpre]
  simp [rdLe32_le32 _ hm, takeN_append]

end Dicom.StoreScp
