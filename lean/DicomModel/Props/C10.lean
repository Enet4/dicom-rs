import DicomModel.Model.Charset
import DicomModel.Lemmas.Utf8
import DicomModel.Lemmas.CollectOpt
import DicomModel.Props.C16
/-
C10 — Text is encoded and decoded faithfully in every supported character set.

(1) defined terms: `name_roundtrip` for all 16 sets, every alias of `from_code` resolves to the set
    it is listed under, trailing blanks are ignored, decode and encode arms are bound to the same
    codec.
(2) single-byte sets (10 of the 16; their pages are dumped exhaustively from the running `encoding`
    crate): the two dumped maps are mutually inverse (decided on the tables), hence for every string
    `decode (encode s) = s`, encoding fails exactly on strings with a character outside the
    repertoire, `encode (decode bs) = bs` on hole-free bytes; the backslash byte is only produced by
    the backslash.
(3) data sets: for any codec environment, text written after a Specific Character Set element reads
    back unchanged (up to the even-length padding) GIVEN, for the sets in force, `CodecRT`
    (decode ∘ encode = id), `NoSep` (no backslash byte in the encoding of backslash-free text) and
    `PadOK` (a trailing blank decodes to a blank). The three hypotheses are *proved* for the
    single-byte sets and for UTF-8 (`known_hypotheses`: 11 of the 16 sets); for the other multi-byte
    sets they are assumptions about the `encoding` crate, tested by the correspondence run — and
    FALSE in places (see findings C10-*: byte 0x5C inside multi-byte characters, ISO 2022 state at
    the end of a value, U+00A5/U+203E, ESC, GB18030 U+E5E5).
    VRs restricted to the default repertoire are written with the default codec whatever the
    character set in force (`default_vrs_unaffected`).
-/
namespace Dicom.Charset
open Dicom.CodePage Dicom.Charset.Gen
open Dicom.Registry (eqStr isWhitespace)

/-! ## (1) defined terms -/

/-- **name_roundtrip**: the defined term of every supported set maps back to that set. -/
theorem name_roundtrip : ∀ cs : Cs, fromCode cs.term = some cs := by
  intro cs; cases cs <;> decide +kernel

/-- distinct sets have distinct defined terms -/
theorem term_injective {a b : Cs} (h : a.term = b.term) : a = b := by
  have ha := name_roundtrip a
  rw [h, name_roundtrip b] at ha
  exact (Option.some.inj ha).symm

/-- every code string listed in `from_code` resolves to the set it is listed under
(no arm is shadowed by an earlier one) -/
theorem aliases_resolve :
    (Gen.fromCodeTable.all fun e => match fromCode e.1 with
      | some c => decide (c = e.2)
      | none => false) = true := by decide +kernel

def AllWs (p : Str) : Prop := ∀ c ∈ p, isWhitespace c = true

theorem trimEndWs_allWs {p : Str} (h : AllWs p) : trimEndWs p = [] := by
  induction p with
  | nil => rfl
  | cons c cs ih =>
    obtain ⟨hc, hcs⟩ := List.forall_mem_cons.mp h
    simp [trimEndWs, ih hcs, hc]

theorem trimEndWs_append (s : Str) {p : Str} (h : AllWs p) : trimEndWs (s ++ p) = trimEndWs s := by
  induction s with
  | nil => simp [trimEndWs_allWs h, trimEndWs]
  | cons c cs ih => simp [trimEndWs, ih]

/-- trailing blanks (the padding of CS values) never change which set a code selects -/
theorem fromCode_padded (code : Str) {pad : Str} (h : AllWs pad) : fromCode (code ++ pad) = fromCode code := by
  simp [fromCode, trimEndWs_append code h]

/-- in particular the padded defined term still selects the set -/
theorem name_roundtrip_padded (cs : Cs) {pad : Str} (h : AllWs pad) : fromCode (cs.term ++ pad) = some cs := by
  rw [fromCode_padded _ h, name_roundtrip]

/-- decode and encode of every set are bound to the same `encoding` constant -/
theorem bindings_agree : ∀ cs : Cs, cs.decBinding = cs.encBinding := by
  intro cs; cases cs <;> rfl

theorem all_complete : ∀ cs : Cs, cs ∈ Cs.all := by
  intro cs; cases cs <;> decide

end Dicom.Charset

namespace Dicom.CodePage

/-! ## (2) single-byte pages -/

theorem optIs_iff {o : Option Nat} {y : Nat} : optIs o y = true ↔ o = some y := by
  cases o with
  | none => simp [optIs]
  | some x => simp [optIs, Nat.beq_eq]

theorem find_mem_aux (t : Tree) (acc : List (Nat × Nat)) {k v : Nat} (h : t.find k = some v) :
    (k, v) ∈ t.toListAux acc := by
  induction t generalizing acc with
  | leaf => cases h
  | node l key val r ihl ihr =>
    rw [Tree.find] at h
    rw [Tree.toListAux]
    split at h
    · exact ihl _ h
    · split at h
      · exact mem_toListAux_acc l _ (List.mem_cons_of_mem _ (ihr acc h))
      · next h1 h2 =>
        have hk : k = key := by simp only [Nat.blt_eq] at h1 h2; omega
        cases h
        subst hk
        exact mem_toListAux_acc l _ (List.mem_cons_self ..)
where
  mem_toListAux_acc (t : Tree) (acc : List (Nat × Nat)) {x : Nat × Nat} (h : x ∈ acc) : x ∈ t.toListAux acc := by
    induction t generalizing acc with
    | leaf => exact h
    | node l key val r ihl ihr => exact ihl _ (List.mem_cons_of_mem _ (ihr _ h))

theorem find_mem {t : Tree} {k v : Nat} (h : t.find k = some v) : (k, v) ∈ t.toList :=
  find_mem_aux t [] h

theorem inverseIn_sound {a b : Tree} (h : inverseIn a b = true) {k v : Nat} (hk : a.find k = some v) :
    b.find v = some k := by
  have := List.all_eq_true.mp h (k, v) (find_mem hk)
  exact optIs_iff.mp this

/-- a page whose two dumped maps are mutually inverse -/
def Page.Good (p : Page) : Prop := p.good = true

theorem Page.Good.iff {p : Page} (h : p.Good) {c b : Nat} :
    p.encodeChar c = some b ↔ p.dec.find b = some c := by
  simp only [Page.Good, Page.good, Bool.and_eq_true] at h
  exact ⟨inverseIn_sound h.2, inverseIn_sound h.1⟩

/-- a character is in the repertoire of a page iff some byte decodes to it -/
def Page.InRepertoire (p : Page) (c : Nat) : Prop := ∃ b, p.dec.find b = some c

/-- the encoder accepts exactly the repertoire -/
theorem Page.Good.encodable_iff {p : Page} (h : p.Good) (c : Nat) :
    (p.encodeChar c).isSome = true ↔ p.InRepertoire c := by
  constructor
  · intro hs
    obtain ⟨b, hb⟩ := Option.isSome_iff_exists.mp hs
    exact ⟨b, h.iff.mp hb⟩
  · rintro ⟨b, hb⟩
    rw [h.iff.mpr hb]; rfl

open Dicom.NumConv (collectOpt collectOpt_cons_eq_some collectOpt_mem_result collectOpt_mem_source)

theorem Page.encode_eq_collectOpt (p : Page) : ∀ s : Str, p.encode s = collectOpt p.encodeChar s
  | [] => rfl
  | c :: cs => by
    rw [Page.encode, collectOpt, Page.encode_eq_collectOpt p cs]
    cases p.encodeChar c <;> cases collectOpt p.encodeChar cs <;> rfl

theorem Page.encode_cons_eq_some {p : Page} {c : Nat} {cs : Str} {bs : List Nat} :
    p.encode (c :: cs) = some bs ↔
      ∃ b rest, p.encodeChar c = some b ∧ p.encode cs = some rest ∧ bs = b :: rest := by
  simp only [Page.encode_eq_collectOpt]
  exact collectOpt_cons_eq_some

/-- **singlebyte_rt** (general form): on a good page, whatever `encode` accepts decodes back to
the original string — for every string. -/
theorem Page.Good.decode_encode {p : Page} (h : p.Good) :
    ∀ (s : Str) (bs : List Nat), p.encode s = some bs → p.decode bs = s
  | [], bs, he => by cases he; rfl
  | c :: cs, bs, he => by
    obtain ⟨b, rest, hc, hr, rfl⟩ := Page.encode_cons_eq_some.mp he
    simp only [Page.decode, Page.decodeByte, h.iff.mp hc, h.decode_encode cs rest hr]
    rfl

/-- encoding fails — it never substitutes — as soon as one character is outside the repertoire -/
theorem Page.Good.encode_fails_outside {p : Page} (h : p.Good) (s : Str) (c : Nat) (hc : c ∈ s)
    (hout : ¬ p.InRepertoire c) : p.encode s = none := by
  cases he : p.encode s with
  | none => rfl
  | some bs =>
    rw [Page.encode_eq_collectOpt] at he
    obtain ⟨b, _, hb⟩ := collectOpt_mem_source he hc
    exact absurd ⟨b, h.iff.mp hb⟩ hout

/-- and succeeds on every string over the repertoire -/
theorem Page.Good.encode_total {p : Page} (h : p.Good) :
    ∀ (s : Str), (∀ c ∈ s, p.InRepertoire c) → ∃ bs, p.encode s = some bs
  | [], _ => ⟨[], rfl⟩
  | c :: cs, hall => by
    obtain ⟨⟨b, hb⟩, hcs⟩ := List.forall_mem_cons.mp hall
    obtain ⟨bs, hbs⟩ := h.encode_total cs hcs
    exact ⟨b :: bs, Page.encode_cons_eq_some.mpr ⟨b, bs, h.iff.mpr hb, hbs, rfl⟩⟩

/-- conversely, bytes without holes encode back to themselves -/
theorem Page.Good.encode_decode {p : Page} (h : p.Good) :
    ∀ (bs : List Nat), (∀ b ∈ bs, (p.dec.find b).isSome = true) → p.encode (p.decode bs) = some bs
  | [], _ => rfl
  | b :: bs, hall => by
    obtain ⟨hb, hbs⟩ := List.forall_mem_cons.mp hall
    obtain ⟨c, hc⟩ := Option.isSome_iff_exists.mp hb
    have ih := h.encode_decode bs hbs
    simp only [Page.decode, Page.decodeByte, hc, List.cons_append, List.nil_append, Page.encode,
      h.iff.mpr hc, ih]

/-- decoding is a homomorphism (single bytes are decoded independently) -/
theorem Page.decode_append (p : Page) (a b : List Nat) : p.decode (a ++ b) = p.decode a ++ p.decode b := by
  induction a with
  | nil => rfl
  | cons x xs ih => simp [Page.decode, ih]

/-- ASCII bytes and characters are mapped identically -/
def Page.Ascii (p : Page) : Prop := p.asciiOk = true

theorem Page.Ascii.dec {p : Page} (h : p.Ascii) {b : Nat} (hb : b < 128) : p.dec.find b = some b := by
  have := List.all_eq_true.mp h b (List.mem_range.mpr hb)
  simp only [Bool.and_eq_true] at this
  exact optIs_iff.mp this.1

theorem Page.Ascii.enc {p : Page} (h : p.Ascii) {c : Nat} (hc : c < 128) : p.encodeChar c = some c := by
  have := List.all_eq_true.mp h c (List.mem_range.mpr hc)
  simp only [Bool.and_eq_true] at this
  exact optIs_iff.mp this.2

/-- the backslash byte is produced by the backslash character only -/
theorem Page.backslash_only {p : Page} (hg : p.Good) (ha : p.Ascii) {c : Nat}
    (h : p.encodeChar c = some 92) : c = 92 := by
  have h1 := hg.iff.mp h
  rw [ha.dec (by decide : 92 < 128)] at h1
  exact (Option.some.inj h1).symm

end Dicom.CodePage

namespace Dicom.Charset
open Dicom.CodePage Dicom.Charset.Gen
open Dicom.Registry (eqStr isWhitespace)
open Dicom.NumConv (collectOpt collectOpt_cons_eq_some collectOpt_mem_result collectOpt_length
  collectOpt_append collectOpt_map_some)

/-- **the dumped pages**: every page generated from the running crate is good (the two maps are mutually
inverse) and ASCII-transparent — decided on the whole tables: 256 bytes and every accepted character -/
theorem pages_good : Gen.pageOfTerm.all (fun e => e.2.good && e.2.asciiOk) = true := by
  -- identical dumps share a page: each of the nine pages is evaluated once
  have each : Gen.pages.all (fun p => p.good && p.asciiOk) = true := by decide +kernel
  have listed : ∀ e ∈ Gen.pageOfTerm, e.2 ∈ Gen.pages := by simp [Gen.pageOfTerm, Gen.pages]
  exact List.all_eq_true.mpr fun e he => List.all_eq_true.mp each e.2 (listed e he)

theorem pageOf_good (cs : Cs) (p : Page) (h : pageOf cs = some p) : p.Good ∧ p.Ascii := by
  simp only [pageOf, Option.map_eq_some_iff] at h
  obtain ⟨e, he, rfl⟩ := h
  have := List.all_eq_true.mp pages_good e (List.mem_of_find?_eq_some he)
  simp only [Bool.and_eq_true] at this
  exact this

/-- **singlebyte_rt**: for each of the single-byte sets (ISO_IR 6, 100, 101, 109, 110, 126, 127, 138,
144, 166) and every string: if `encode` accepts it, decoding the bytes gives it back; `encode` accepts
it iff all its characters are in the set's repertoire. -/
theorem singlebyte_rt (cs : Cs) (p : Page) (h : pageOf cs = some p) (s : Str) :
    (∀ bs, p.encode s = some bs → p.decode bs = s) ∧
    ((p.encode s).isSome = true ↔ ∀ c ∈ s, p.InRepertoire c) := by
  have hg := (pageOf_good cs p h).1
  refine ⟨fun bs => hg.decode_encode s bs, ?_, ?_⟩
  · intro hs c hc
    apply Classical.byContradiction
    intro hout
    rw [hg.encode_fails_outside s c hc hout] at hs
    cases hs
  · intro hall
    obtain ⟨bs, hbs⟩ := hg.encode_total s hall
    rw [hbs]; rfl

/-- which sets are single-byte (as dumped) -/
theorem singlebyte_sets :
    Cs.all.filter (fun cs => (pageOf cs).isSome) =
      [.Default, .IsoIr100, .IsoIr101, .IsoIr109, .IsoIr110, .IsoIr126, .IsoIr127, .IsoIr138, .IsoIr144, .IsoIr166] := by
  decide +kernel

/-- a hole of a page decodes to the octal escape, which is not silently the original byte: e.g.
byte 0xA5 of ISO_IR 109 (ISO-8859-3) -/
example : (Gen.pageOfTerm.find? fun e => eqStr e.1 Cs.IsoIr109.term).map (fun e => e.2.decode [0xA5]) =
    some [92, 50, 52, 53] := by decide +kernel

/-! ## (3) data sets -/

def CodecRT (c : Codec) : Prop := ∀ s bs, c.encode s = some bs → c.decode bs = s
/-- backslash-free text has backslash-free bytes -/
def NoSep (c : Codec) : Prop := ∀ s bs, c.encode s = some bs → 92 ∉ s → 92 ∉ bs
/-- a padding blank after an encoded text decodes to a blank after that text -/
def PadOK (c : Codec) : Prop := ∀ s bs, c.encode s = some bs → c.decode (bs ++ [32]) = c.decode bs ++ [32]
/-- ASCII text is encoded and decoded as itself -/
def AsciiTransparent (c : Codec) : Prop :=
  ∀ s : Str, (∀ x ∈ s, x < 128) → c.encode s = some s ∧ c.decode s = s

theorem page_codecRT {p : Page} (hg : p.Good) : CodecRT (pageCodec p) := fun s bs h => hg.decode_encode s bs h

theorem page_noSep {p : Page} (hg : p.Good) (ha : p.Ascii) : NoSep (pageCodec p) := by
  intro s bs h hs hm
  obtain ⟨c, hc, hb⟩ := collectOpt_mem_result ((Page.encode_eq_collectOpt p s).symm.trans h) hm
  exact hs (Page.backslash_only hg ha hb ▸ hc)

theorem page_padOK {p : Page} (ha : p.Ascii) : PadOK (pageCodec p) := by
  intro _ bs _
  simp only [pageCodec, Page.decode_append, Page.decode, Page.decodeByte, ha.dec (by decide : 32 < 128)]
  rfl

theorem page_asciiTransparent {p : Page} (ha : p.Ascii) : AsciiTransparent (pageCodec p) := by
  intro s
  induction s with
  | nil => intro _; exact ⟨rfl, rfl⟩
  | cons c cs ih =>
    intro h
    obtain ⟨hc, hcs⟩ := List.forall_mem_cons.mp h
    obtain ⟨h1, h2⟩ := ih hcs
    simp only [pageCodec] at h1 h2 ⊢
    exact ⟨by simp [Page.encode, ha.enc hc, h1], by simp [Page.decode, Page.decodeByte, ha.dec hc, h2]⟩

/-- the three hypotheses of the data set theorem hold for every single-byte set, in any environment -/
theorem singlebyte_hypotheses (ext : Cs → Codec) (cs : Cs) (p : Page) (h : pageOf cs = some p) :
    CodecRT (codecOf ext cs) ∧ NoSep (codecOf ext cs) ∧ PadOK (codecOf ext cs) ∧
    AsciiTransparent (codecOf ext cs) := by
  obtain ⟨hg, ha⟩ := pageOf_good cs p h
  have : codecOf ext cs = pageCodec p := by simp [codecOf, known, h]
  rw [this]
  exact ⟨page_codecRT hg, page_noSep hg ha, page_padOK ha, page_asciiTransparent ha⟩

/-- UTF-8 (ISO_IR 192) satisfies the three hypotheses as well (`Lemmas/Utf8.lean`) -/
theorem utf8_hypotheses : CodecRT utf8Codec ∧ NoSep utf8Codec ∧ PadOK utf8Codec := by
  have hall : ∀ (s : Str) (bs : List Nat), utf8Codec.encode s = some bs →
      (∀ n ∈ s, n < 0x110000) ∧ bs = utf8Enc s := by
    intro s bs h
    simp only [utf8Codec] at h
    split at h
    · next hv => exact ⟨fun n hn => by simpa using List.all_eq_true.mp hv n hn, (Option.some.inj h).symm⟩
    · cases h
  refine ⟨?_, ?_, ?_⟩
  · intro s bs h
    obtain ⟨hv, rfl⟩ := hall s bs h
    exact utf8_rt s hv
  · intro s bs h h92
    obtain ⟨_, rfl⟩ := hall s bs h
    exact utf8Enc_no92 s h92
  · intro s bs h
    obtain ⟨hv, rfl⟩ := hall s bs h
    have h1 : utf8Enc s ++ [32] = utf8Enc (s ++ [32]) := by simp [utf8Enc, utf8EncodeNat]
    show utf8Dec (utf8Enc s ++ [32]) = utf8Dec (utf8Enc s) ++ [32]
    rw [h1, utf8_rt (s ++ [32]) (List.forall_mem_append.mpr ⟨hv, by simp⟩), utf8_rt s hv]

/-- the sets for which the hypotheses of the data set theorem are theorems: the 10 single-byte sets
and ISO_IR 192 — in any environment (`h` says `known cs ≠ .ext`) -/
theorem known_hypotheses (ext : Cs → Codec) (cs : Cs) (h : ∀ p : Known, known cs = p → p ≠ .ext) :
    CodecRT (codecOf ext cs) ∧ NoSep (codecOf ext cs) ∧ PadOK (codecOf ext cs) := by
  cases hk : known cs with
  | page p =>
    have hp : pageOf cs = some p := by
      unfold known at hk
      split at hk
      · next q hq => cases hk; exact hq
      · split at hk <;> cases hk
    obtain ⟨h1, h2, h3, _⟩ := singlebyte_hypotheses ext cs p hp
    exact ⟨h1, h2, h3⟩
  | utf8 =>
    have : codecOf ext cs = utf8Codec := by simp [codecOf, hk]
    rw [this]; exact utf8_hypotheses
  | ext => exact absurd rfl (h _ hk)

theorem splitBs_no92 : ∀ (a : List Nat), 92 ∉ a → splitBs a = [a]
  | [], _ => rfl
  | x :: xs, h => by
    have hx : x ≠ 92 := fun e => h (by simp [e])
    have := splitBs_no92 xs (fun m => h (by simp [m]))
    simp [splitBs, hx, this]

theorem splitBs_append : ∀ (a rest : List Nat), 92 ∉ a →
    splitBs (a ++ 92 :: rest) = a :: splitBs rest
  | [], rest, _ => by simp [splitBs]
  | x :: xs, rest, h => by
    have hx : x ≠ 92 := fun e => h (by simp [e])
    have := splitBs_append xs rest (fun m => h (by simp [m]))
    simp [splitBs, hx, this]

theorem splitBs_join : ∀ (parts : List (List Nat)), parts ≠ [] → (∀ p ∈ parts, 92 ∉ p) →
    splitBs (joinBs parts) = parts
  | [a], _, h => by simpa [joinBs] using splitBs_no92 a (h a (by simp))
  | a :: b :: r, _, h => by
    obtain ⟨ha, hr⟩ := List.forall_mem_cons.mp h
    rw [joinBs, splitBs_append a _ ha, splitBs_join (b :: r) (by simp) hr]

/-- append one element to the last list -/
def appendLast : List (List Nat) → Nat → List (List Nat)
  | [], x => [[x]]
  | [a], x => [a ++ [x]]
  | a :: b :: r, x => a :: appendLast (b :: r) x

theorem appendLast_concat : ∀ (l : List (List Nat)) (a : List Nat) (x : Nat),
    appendLast (l ++ [a]) x = l ++ [a ++ [x]]
  | [], _, _ => rfl
  | [_], _, _ => rfl
  | b :: c :: r, a, x => congrArg (b :: ·) (appendLast_concat (c :: r) a x)

theorem joinBs_appendLast : ∀ (parts : List (List Nat)) (x : Nat), parts ≠ [] →
    joinBs (appendLast parts x) = joinBs parts ++ [x]
  | [a], x, _ => by simp [appendLast, joinBs]
  | a :: b :: r, x, _ => by
    have ih := joinBs_appendLast (b :: r) x (by simp)
    cases hq : appendLast (b :: r) x with
    | nil => cases r <;> simp [appendLast] at hq
    | cons q qs =>
      rw [hq] at ih
      simp only [appendLast, hq, joinBs, List.append_assoc, List.cons_append]
      rw [ih]

theorem appendLast_no92 (parts : List (List Nat)) (x : Nat) (hx : x ≠ 92) (h : ∀ p ∈ parts, 92 ∉ p) :
    ∀ p ∈ appendLast parts x, 92 ∉ p := by
  rcases List.eq_nil_or_concat parts with rfl | ⟨l, a, rfl⟩
  · simpa [appendLast] using hx.symm
  · rw [List.concat_eq_append] at h ⊢
    rw [appendLast_concat]
    simp only [List.forall_mem_append, List.forall_mem_singleton] at h ⊢
    exact ⟨h.1, by simpa [h.2] using hx.symm⟩

theorem appendLast_ne_nil (parts : List (List Nat)) (x : Nat) : appendLast parts x ≠ [] := by
  cases parts with
  | nil => simp [appendLast]
  | cons a r => cases r <;> simp [appendLast]

theorem mapM'_eq_collectOpt (f : Str → Option (List Nat)) : ∀ vs, mapM' f vs = collectOpt f vs
  | [] => rfl
  | v :: vs => by
    rw [mapM', collectOpt, mapM'_eq_collectOpt f vs]
    cases f v <;> cases collectOpt f vs <;> rfl

theorem map_decode_parts {c : Codec} (hrt : CodecRT c) : ∀ {vals : List Str} {parts : List (List Nat)},
    collectOpt c.encode vals = some parts → parts.map c.decode = vals
  | [], parts, h => by cases h; rfl
  | v :: vs, parts, h => by
    obtain ⟨b, bs, hv, hr, rfl⟩ := collectOpt_cons_eq_some.mp h
    rw [List.map_cons, hrt v b hv, map_decode_parts hrt hr]

/-- with a blank appended to the last part: split `vals` at its last value -/
theorem map_appendLast {c : Codec} (hrt : CodecRT c) (hpad : PadOK c) {vals : List Str}
    {parts : List (List Nat)} (h : collectOpt c.encode vals = some parts) (hne : vals ≠ []) :
    (appendLast parts 32).map c.decode = appendLast vals 32 := by
  obtain ⟨vs, v, rfl⟩ : ∃ vs v, vals = vs ++ [v] :=
    ⟨_, _, (List.dropLast_concat_getLast hne).symm⟩
  rw [collectOpt_append] at h
  obtain ⟨ps, hvs, h⟩ := Option.bind_eq_some_iff.mp h
  obtain ⟨bs, hv, rfl⟩ := Option.map_eq_some_iff.mp h
  obtain ⟨b, _, hb, hnil, rfl⟩ := collectOpt_cons_eq_some.mp hv
  cases hnil
  rw [appendLast_concat, appendLast_concat, List.map_append, map_decode_parts hrt hvs,
    List.map_singleton, hpad v b hb, hrt v b hb]

theorem parts_no92 {c : Codec} (hns : NoSep c) {vals : List Str} {parts : List (List Nat)}
    (h : collectOpt c.encode vals = some parts) (hv92 : ∀ v ∈ vals, 92 ∉ v) : ∀ p ∈ parts, 92 ∉ p := by
  intro p hp
  obtain ⟨v, hv, hvp⟩ := collectOpt_mem_result h hp
  exact hns v p hvp (hv92 v hv)

theorem parts_ne_nil {c : Codec} {vals : List Str} {parts : List (List Nat)}
    (h : collectOpt c.encode vals = some parts) (hne : vals ≠ []) : parts ≠ [] := by
  intro e
  have := collectOpt_length h
  rw [e] at this
  exact hne (List.length_eq_zero_iff.mp this.symm)

/-- the value list with the padding blank that the writer may have added to its last value -/
def padLast (vals : List Str) (padded : Bool) : List Str :=
  if padded then appendLast vals 32 else vals

/-- **value_rt_strs**: a multi-valued text value (backslash-free values, VR not UI) written by
`encode_texts_element` and read by `read_value_strs` comes back as the same list of values, the last
one followed by the padding blank when the byte length was odd. -/
theorem value_rt_strs {c : Codec} (hrt : CodecRT c) (hns : NoSep c) (hpad : PadOK c)
    {vals : List Str} (hne : vals ≠ []) (h92 : ∀ v ∈ vals, 92 ∉ v) {vr : VR} (hvr : vr ≠ .UI)
    {parts : List (List Nat)} (henc : mapM' c.encode vals = some parts) :
    (splitBs (padEven vr (joinBs parts))).map c.decode =
      padLast vals (decide ((joinBs parts).length % 2 = 1)) := by
  rw [mapM'_eq_collectOpt] at henc
  have hpne := parts_ne_nil henc hne
  have hno := parts_no92 hns henc h92
  have hdec := map_decode_parts hrt henc
  by_cases hodd : (joinBs parts).length % 2 = 1
  · simp only [padEven, hodd, if_true, hvr, if_false, padLast, decide_true]
    rw [← joinBs_appendLast parts 32 hpne,
      splitBs_join _ (appendLast_ne_nil parts 32) (appendLast_no92 parts 32 (by decide) hno),
      map_appendLast hrt hpad henc hne]
  · simp only [padEven, hodd, if_false, padLast, decide_false, Bool.false_eq_true]
    rw [splitBs_join parts hpne hno, hdec]

/-- **value_rt_str**: a single text (ST, LT, UT: read without splitting) comes back unchanged up to the
padding blank — backslashes inside are irrelevant here. -/
theorem value_rt_str {c : Codec} (hrt : CodecRT c) (hpad : PadOK c) {s : Str} {vr : VR} (hvr : vr ≠ .UI)
    {bs : List Nat} (henc : c.encode s = some bs) :
    c.decode (padEven vr bs) = if bs.length % 2 = 1 then s ++ [32] else s := by
  by_cases hodd : bs.length % 2 = 1
  · simp only [padEven, hodd, if_true, hvr, if_false]
    rw [hpad s bs henc, hrt s bs henc]
  · simp only [padEven, hodd, if_false]
    exact hrt s bs henc

/-- both sides switch to the same set: the reader sees the first value of (0008,0005), decoded with
the default codec and possibly padded, and `from_code` ignores the padding -/
theorem switch_agrees (cur : Cs) (name : Str) :
    switchTo cur (some (name ++ [32])) = switchTo cur (some name) := by
  simp only [switchTo]
  rw [fromCode_padded name (pad := [32]) (by intro c hc; simp at hc; subst hc; decide)]

/-- the elements the property speaks about -/
inductive TextElem (e : Elem) : Prop
  /-- LO, SH, PN, UC: a non-empty list of backslash-free values, encoded with the set in force -/
  | strs (hvr : e.vr = .LO ∨ e.vr = .SH ∨ e.vr = .PN ∨ e.vr = .UC) (hform : e.form = .strs)
      (hne : e.vals ≠ []) (h92 : ∀ v ∈ e.vals, 92 ∉ v) (htag : e.tag ≠ scsTag)
  /-- ST, LT, UT: one text (may contain backslashes), encoded with the set in force -/
  | str (hvr : e.vr = .ST ∨ e.vr = .LT ∨ e.vr = .UT) (hform : e.form = .str)
      (hone : ∃ s, e.vals = [s]) (htag : e.tag ≠ scsTag)
  /-- the Specific Character Set element itself: CS, always the default codec -/
  | scs (htag : e.tag = scsTag) (hvr : e.vr = .CS) (hform : e.form = .strs)
      (hne : e.vals ≠ []) (h92 : ∀ v ∈ e.vals, 92 ∉ v)

/-- same element, the last value possibly followed by the padding blank -/
def SameUpToPad (e r : Elem) : Prop :=
  r.tag = e.tag ∧ r.vr = e.vr ∧ r.form = e.form ∧ ∃ padded, r.vals = padLast e.vals padded

theorem switchTo_padLast (cur : Cs) (v : Str) (vs : List Str) (padded : Bool) :
    switchTo cur (padLast (v :: vs) padded).head? = switchTo cur (some v) := by
  cases padded with
  | false => rfl
  | true =>
    cases vs with
    | nil => exact switch_agrees cur v
    | cons x xs => rfl

theorem writeElem_strs (codec : Cs → Codec) (cur : Cs) (tag : Nat) (vr : VR) (vals : List Str) :
    writeElem codec cur ⟨tag, vr, .strs, vals⟩ =
      (mapM' (if writerUsesDefault vr then codec .Default else codec cur).encode vals).map fun parts =>
        (⟨tag, vr, padEven vr (joinBs parts)⟩, if tag = scsTag then switchTo cur vals.head? else cur) := by
  simp only [writeElem]
  cases mapM' (if writerUsesDefault vr then codec .Default else codec cur).encode vals <;> rfl

theorem writeElem_str (codec : Cs → Codec) (cur : Cs) (tag : Nat) (vr : VR) (vals : List Str) :
    writeElem codec cur ⟨tag, vr, .str, vals⟩ =
      ((if writerUsesDefault vr then codec .Default else codec cur).encode (vals.headD [])).map fun b =>
        (⟨tag, vr, padEven vr b⟩, if tag = scsTag then switchTo cur vals.head? else cur) := by
  simp only [writeElem]
  cases (if writerUsesDefault vr then codec .Default else codec cur).encode (vals.headD []) <;> rfl

/-- **elem_rt** (`dataset_text_rt` for one element, any codec environment): GIVEN `CodecRT`, `NoSep`,
`PadOK` for the codecs involved, what `readElem` returns for what `writeElem` produced is the element
itself up to the padding of its last value, and writer and reader end up with the same character set —
also across a Specific Character Set element. (`hnz`: zero bytes always read as `PrimitiveValue::Empty`.) -/
theorem elem_rt (codec : Cs → Codec)
    (H : ∀ cs, CodecRT (codec cs) ∧ NoSep (codec cs) ∧ PadOK (codec cs))
    (cur : Cs) (e : Elem) (he : TextElem e)
    {w : Wire} {cur' : Cs} (hw : writeElem codec cur e = some (w, cur')) (hnz : w.bytes ≠ []) :
    ∃ r, readElem codec cur w = (r, cur') ∧ SameUpToPad e r := by
  obtain ⟨tag, vr, form, vals⟩ := e
  cases he with
  | strs hvr hform hne h92 htag =>
    subst hform
    obtain ⟨hd, hk, hui⟩ :
        writerUsesDefault vr = false ∧ readKind vr = .strsDeclared ∧ vr ≠ .UI := by
      rcases hvr with rfl | rfl | rfl | rfl <;> exact ⟨rfl, rfl, by decide⟩
    rw [writeElem_strs, hd, if_neg htag] at hw
    obtain ⟨parts, henc, e⟩ := Option.map_eq_some_iff.mp hw
    cases e
    simp only [readElem, hnz, if_false, hk]
    obtain ⟨hrt, hns, hpad⟩ := H cur
    rw [value_rt_strs hrt hns hpad hne h92 hui henc]
    exact ⟨_, rfl, rfl, rfl, rfl, _, rfl⟩
  | str hvr hform hone htag =>
    subst hform
    obtain ⟨s, rfl⟩ := hone
    obtain ⟨hd, hk, hui⟩ : writerUsesDefault vr = false ∧ readKind vr = .str ∧ vr ≠ .UI := by
      rcases hvr with rfl | rfl | rfl <;> exact ⟨rfl, rfl, by decide⟩
    rw [writeElem_str, hd, if_neg htag] at hw
    obtain ⟨bs, henc, e⟩ := Option.map_eq_some_iff.mp hw
    cases e
    simp only [readElem, hnz, if_false, hk]
    obtain ⟨hrt, _, hpad⟩ := H cur
    rw [value_rt_str hrt hpad hui henc]
    refine ⟨_, rfl, rfl, rfl, rfl, decide (bs.length % 2 = 1), ?_⟩
    by_cases hodd : bs.length % 2 = 1 <;> simp [hodd, padLast, appendLast]
  | scs htag hvr hform hne h92 =>
    subst hform; subst hvr; subst htag
    rw [writeElem_strs, if_pos rfl] at hw
    obtain ⟨parts, henc, e⟩ := Option.map_eq_some_iff.mp hw
    cases e
    simp only [readElem, hnz, if_false, readKind, and_self, if_true]
    obtain ⟨hrt, hns, hpad⟩ := H .Default
    rw [value_rt_strs hrt hns hpad hne h92 (by decide) henc]
    cases vals with
    | nil => exact absurd rfl hne
    | cons v vs =>
      rw [switchTo_padLast]
      exact ⟨_, rfl, rfl, rfl, rfl, _, rfl⟩

inductive AllSame : List Elem → List Elem → Prop
  | nil : AllSame [] []
  | cons {e r : Elem} {es rs : List Elem} : SameUpToPad e r → AllSame es rs → AllSame (e :: es) (r :: rs)

/-- **dataset_text_rt** (whole data set, by induction over its elements, the character set being
switched whenever a Specific Character Set element passes): every element reads back as written, up
to padding. -/
theorem dataset_text_rt (codec : Cs → Codec)
    (H : ∀ cs, CodecRT (codec cs) ∧ NoSep (codec cs) ∧ PadOK (codec cs)) :
    ∀ (es : List Elem) (cur : Cs) (ws : List Wire), (∀ e ∈ es, TextElem e) →
      writeElems codec cur es = some ws → (∀ w ∈ ws, w.bytes ≠ []) →
      AllSame es (readElems codec cur ws) := by
  intro es
  induction es with
  | nil =>
    intro cur ws _ hw _
    simp only [writeElems, Option.some.injEq] at hw
    subst hw
    exact .nil
  | cons e es ih =>
    intro cur ws hall hw hnz
    obtain ⟨he, hes⟩ := List.forall_mem_cons.mp hall
    rw [writeElems] at hw
    split at hw
    · cases hw
    · next w cur' h1 =>
      split at hw
      · cases hw
      · next ws' h2 =>
        cases hw
        obtain ⟨hw, hws⟩ := List.forall_mem_cons.mp hnz
        obtain ⟨r, hr, hsame⟩ := elem_rt codec H cur e he h1 hw
        simp only [readElems, hr]
        exact .cons hsame (ih cur' ws' hes h2 hws)

/-- **default_vrs_unaffected**: what is written for a VR restricted to the default repertoire
(AE AS CS DA DS DT IS TM UI) does not depend on the character set in force … -/
theorem default_vrs_unaffected (codec : Cs → Codec) (cur cur₂ : Cs) (e : Elem)
    (h : writerUsesDefault e.vr = true) :
    (writeElem codec cur e).map (·.1) = (writeElem codec cur₂ e).map (·.1) := by
  obtain ⟨tag, vr, form, vals⟩ := e
  cases form <;> simp only [writeElem_str, writeElem_strs, if_pos h, Option.map_map] <;> rfl

/-- … and ASCII text in such a VR is written as exactly its ASCII bytes (joined by backslashes, padded
to even length), whatever the set in force -/
theorem default_vrs_ascii (codec : Cs → Codec) (hd : AsciiTransparent (codec .Default)) (cur : Cs)
    (tag : Nat) (vr : VR) (vals : List Str) (h : writerUsesDefault vr = true)
    (hascii : ∀ v ∈ vals, ∀ x ∈ v, x < 128) :
    (writeElem codec cur ⟨tag, vr, .strs, vals⟩).map (·.1.bytes) = some (padEven vr (joinBs vals)) := by
  have hm : mapM' (codec .Default).encode vals = some vals := by
    rw [mapM'_eq_collectOpt]
    simpa using collectOpt_map_some _ id vals fun v hv => (hd v (hascii v hv)).1
  rw [writeElem_strs, if_pos h, hm]
  rfl

/-- the AE / AS / CS values are also *read* with the default codec, whatever the set in force -/
theorem default_vrs_read_unaffected (codec : Cs → Codec) (cur cur₂ : Cs) (w : Wire)
    (h : w.vr = .AE ∨ w.vr = .AS ∨ (w.vr = .CS ∧ w.tag ≠ scsTag)) :
    (readElem codec cur w).1.vals = (readElem codec cur₂ w).1.vals := by
  by_cases hb : w.bytes = []
  · simp [readElem, hb]
  · rcases h with h | h | ⟨h, _⟩ <;> simp [readElem, hb, h, readKind]

/-- non-vacuity: the hypotheses of `dataset_text_rt` are satisfiable — the environment in which every
set is bound to the ISO_IR 100 page — and a concrete data set goes through model writer and reader -/
example : ∃ codec : Cs → Codec, (∀ cs, CodecRT (codec cs) ∧ NoSep (codec cs) ∧ PadOK (codec cs)) := by
  obtain ⟨hg, ha⟩ := pageOf_good .Default Gen.page0 rfl
  exact ⟨fun _ => pageCodec Gen.page0, fun _ => ⟨page_codecRT hg, page_noSep hg ha, page_padOK ha⟩⟩

example :
    let es : List Elem := [⟨scsTag, .CS, .strs, [Cs.IsoIr144.term]⟩, ⟨0x00100010, .PN, .strs, [[0x418, 0x432, 0x430, 0x43D]]⟩]
    (writeElems (codecOf (fun _ => utf8Codec)) .Default es).map (fun ws => (readElems (codecOf (fun _ => utf8Codec)) .Default ws).map (·.vals)) =
      some [[Cs.IsoIr144.term], [[0x418, 0x432, 0x430, 0x43D]]] := by decide +kernel

end Dicom.Charset
