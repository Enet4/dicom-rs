import DicomModel.Model.Ops
/-
C13 — attribute operations follow their documented semantics.

`apply` is the code model of `InMemDicomObject::apply` (navigation, creation of sequences and items,
`apply_leaf` with its remove-then-reinsert pattern); `applySpec` the reference semantics written from the
documentation of `AttributeAction` over the map interface `get` / `set` / `erase`.
On well-formed objects (ascending tags, sequences under VR SQ, pixel sequences under OB, recursively)
`apply = applySpec`; well-formedness, the frame properties and the behaviour on missing paths are then
read off `applySpec`. The shipped `Push*` gives a missing attribute a value in the kind of the pushed
number, which need not suit the VR (known finding, witness `push_creates_unsuitable_value`); the
proposed repair has its own theorems (`*_repaired`).
That a well-formed object of type-suitable values is written and read back equal in every writable
transfer syntax is C01's theorem; here it is executed on every final object by the correspondence run.
-/
namespace Dicom.Ops

/-! ### map laws of the attribute map -/

theorem get_set_same (o : Obj) (k : Nat) (vr : VR) (v : Val) : (o.set k vr v).get k = some (vr, v) := by
  fun_induction Obj.set o k vr v <;> simp_all [Obj.get] <;> omega

theorem get_set_other (o : Obj) (k k' : Nat) (vr : VR) (v : Val) (h : k ≠ k') :
    (o.set k' vr v).get k = o.get k := by
  fun_induction Obj.set o k' vr v <;> grind [Obj.get]

theorem set_set (o : Obj) (k : Nat) (a c : VR) (b d : Val) : (o.set k a b).set k c d = o.set k c d := by
  fun_induction Obj.set o k a b <;> simp_all [Obj.set] <;> (split <;> first | rfl | omega)

theorem set_get_self (o : Obj) (k : Nat) (vr : VR) (v : Val) (h : o.get k = some (vr, v)) :
    o.set k vr v = o := by
  fun_induction Obj.get o k <;> simp_all [Obj.set]
  all_goals (repeat' split) <;> first | rfl | omega | simp_all

theorem erase_of_get_none (o : Obj) (k : Nat) (h : o.get k = none) : o.erase k = o := by
  fun_induction Obj.get o k <;> simp_all [Obj.erase]

/-! ### well-formedness and the map -/

/-- a value that may sit under the VR: sequence headers consistent, nested items well formed -/
def Good (vr : VR) (v : Val) : Prop := vrOk vr v = true ∧ v.wf = true

theorem wfFrom_cons {t : Nat} {vr : VR} {v : Val} {r : Obj} {lo : Nat} :
    (Obj.cons t vr v r).wfFrom lo = true ↔ lo ≤ t ∧ Good vr v ∧ r.wfFrom (t + 1) = true := by
  simp only [Obj.wfFrom, Good, Bool.and_eq_true, decide_eq_true_eq, and_assoc]

theorem wfFrom_mono (o : Obj) (lo lo' : Nat) (h : o.wfFrom lo = true) (hl : lo' ≤ lo) : o.wfFrom lo' = true := by
  cases o with
  | nil => rfl
  | cons t vr v r => exact wfFrom_cons.2 ⟨Nat.le_trans hl (wfFrom_cons.1 h).1, (wfFrom_cons.1 h).2⟩

theorem get_none_of_lt (o : Obj) (lo k : Nat) (h : o.wfFrom lo = true) (hk : k < lo) : o.get k = none := by
  cases o with
  | nil => rfl
  | cons t vr v r =>
    have ht := (wfFrom_cons.1 h).1
    rw [Obj.get, if_neg (by omega), if_pos (by omega)]

theorem wfFrom_set (o : Obj) (k : Nat) (vr : VR) (v : Val) (lo : Nat) (h : o.wfFrom lo = true)
    (hk : lo ≤ k) (hv : Good vr v) : (o.set k vr v).wfFrom lo = true := by
  fun_induction Obj.set o k vr v generalizing lo with
  | case1 => exact wfFrom_cons.2 ⟨hk, hv, rfl⟩
  | case2 t vr' v' r k vr v hlt => exact wfFrom_cons.2 ⟨hk, hv, wfFrom_cons.2 ⟨hlt, (wfFrom_cons.1 h).2⟩⟩
  | case3 t vr' v' r vr v hlt => exact wfFrom_cons.2 ⟨hk, hv, (wfFrom_cons.1 h).2.2⟩
  | case4 t vr' v' r k vr v hlt hne ih =>
    obtain ⟨h1, h2, h3⟩ := wfFrom_cons.1 h
    exact wfFrom_cons.2 ⟨h1, h2, ih _ h3 (by omega) hv⟩

theorem wfFrom_erase (o : Obj) (k : Nat) (lo : Nat) (h : o.wfFrom lo = true) : (o.erase k).wfFrom lo = true := by
  fun_induction Obj.erase o k generalizing lo with
  | case1 => rfl
  | case2 vr v r k =>
    obtain ⟨h1, _, h3⟩ := wfFrom_cons.1 h
    exact wfFrom_mono r _ lo h3 (by omega)
  | case3 => exact h
  | case4 t vr v r k _ _ ih =>
    obtain ⟨h1, h2, h3⟩ := wfFrom_cons.1 h
    exact wfFrom_cons.2 ⟨h1, h2, ih _ h3⟩

/-! ### map laws that need ascending tags -/

theorem set_erase : ∀ (o : Obj) (k : Nat) (vr : VR) (v : Val) (lo : Nat), o.wfFrom lo = true →
    (o.erase k).set k vr v = o.set k vr v := by
  intro o k vr v lo h
  fun_induction Obj.erase o k generalizing lo with
  | case1 => rfl
  | case2 vr' v' r k =>
    -- all tags of `r` are above `k`
    rw [Obj.set, if_neg (Nat.lt_irrefl k), if_pos rfl]
    cases r with
    | nil => rfl
    | cons t2 vr2 v2 r2 =>
      have := (wfFrom_cons.1 (wfFrom_cons.1 h).2.2).1
      rw [Obj.set, if_pos (by omega)]
  | case3 => rfl
  | case4 t vr' v' r k hne hlt ih =>
    rw [Obj.set, Obj.set, if_neg hlt, if_neg hne, if_neg hlt, if_neg hne, ih _ (wfFrom_cons.1 h).2.2]

theorem get_erase (o : Obj) (k k' : Nat) (lo : Nat) (h : o.wfFrom lo = true) :
    (o.erase k').get k = if k = k' then none else o.get k := by
  fun_induction Obj.erase o k' generalizing lo with
  | case1 => exact (ite_self _).symm
  | case2 vr v r k' =>
    have hr := fun j => get_none_of_lt r (k' + 1) j (wfFrom_cons.1 h).2.2
    rw [Obj.get]
    split
    · next e => exact e ▸ hr k' (Nat.lt_succ_self _)
    · split
      · next hlt => exact hr k (Nat.lt_succ_of_lt hlt)
      · rfl
  | case3 t vr v r k' hne hlt =>
    split
    · next e => rw [e, Obj.get, if_neg hne, if_pos hlt]
    · rfl
  | case4 t vr v r k' hne hlt ih =>
    rw [Obj.get, Obj.get, ih _ (wfFrom_cons.1 h).2.2]
    split
    · next e => rw [if_neg (e ▸ Ne.symm hne)]
    · split <;> simp only [ite_self]

theorem get_erase_same : ∀ (o : Obj) (k : Nat) (lo : Nat), o.wfFrom lo = true → (o.erase k).get k = none :=
  fun o k lo h => by rw [get_erase o k k lo h, if_pos rfl]

def GoodAt : Option (VR × Val) → Prop
  | none => True
  | some (vr, v) => Good vr v

theorem get_good (o : Obj) (k : Nat) (lo : Nat) (h : o.wfFrom lo = true) : GoodAt (o.get k) := by
  fun_induction Obj.get o k generalizing lo with
  | case1 => trivial
  | case2 => exact (wfFrom_cons.1 h).2.1
  | case3 => trivial
  | case4 t vr v r k _ _ ih => exact ih _ (wfFrom_cons.1 h).2.2

theorem seq_of_get (o : Obj) (hw : o.wf = true) (t : Nat) (vr : VR) (items : Items)
    (hg : o.get t = some (vr, .seq items)) : vr = .SQ ∧ items.wf = true := by
  have h := get_good o t 0 hw
  rw [hg] at h
  exact ⟨by simpa [vrOk] using h.1, h.2⟩

theorem nil_wf : Obj.nil.wf = true := rfl

theorem items_wf_cons (o : Obj) (r : Items) : (Items.cons o r).wf = true ↔ o.wf = true ∧ r.wf = true := by
  simp only [Items.wf, Obj.wf, Bool.and_eq_true]

theorem items_get_wf : ∀ (items : Items) (i : Nat) (it : Obj), items.wf = true → items.get? i = some it →
    it.wf = true
  | .nil, _, _, _, h => nomatch h
  | .cons o r, 0, it, hw, h => by cases h; exact ((items_wf_cons o r).1 hw).1
  | .cons o r, i + 1, it, hw, h => items_get_wf r i it ((items_wf_cons o r).1 hw).2 h

theorem items_setAt_wf : ∀ (items : Items) (i : Nat) (x : Obj), items.wf = true → x.wf = true →
    (items.setAt i x).wf = true
  | .nil, _, _, _, _ => rfl
  | .cons o r, 0, x, hw, hx => (items_wf_cons x r).2 ⟨hx, ((items_wf_cons o r).1 hw).2⟩
  | .cons o r, i + 1, x, hw, hx =>
    have ⟨ho, hr⟩ := (items_wf_cons o r).1 hw
    (items_wf_cons o _).2 ⟨ho, items_setAt_wf r i x hr hx⟩

theorem items_push_wf : ∀ (items : Items) (x : Obj), items.wf = true → x.wf = true → (items.push x).wf = true
  | .nil, x, _, hx => (items_wf_cons x .nil).2 ⟨hx, rfl⟩
  | .cons o r, x, hw, hx =>
    have ⟨ho, hr⟩ := (items_wf_cons o r).1 hw
    (items_wf_cons o _).2 ⟨ho, items_push_wf r x hr hx⟩

theorem items_take_wf : ∀ (items : Items) (n : Nat), items.wf = true → (items.take n).wf = true
  | .nil, _, _ => rfl
  | .cons _ _, 0, _ => rfl
  | .cons o r, n + 1, hw =>
    have ⟨ho, hr⟩ := (items_wf_cons o r).1 hw
    (items_wf_cons o _).2 ⟨ho, items_take_wf r n hr⟩

/-! ### the code does what the documentation says -/

theorem put?_get (o : Obj) (tag : Nat) : o.put? tag (o.get tag) = o := by
  cases hg : o.get tag with
  | none => exact erase_of_get_none o tag hg
  | some c => exact set_get_self o tag c.1 c.2 hg

theorem put?_ite (o : Obj) (tag : Nat) (c : Prop) [Decidable c] (x : Option (VR × Val)) :
    (if c then o.put? tag x else o) = o.put? tag (if c then x else o.get tag) := by
  split
  · rfl
  · exact (put?_get o tag).symm

theorem changeValue_eq (dict : Nat → Option VR) (o : Obj) (tag : Nat) (p : Prim) :
    changeValue dict o tag p = o.put? tag (resetSpec dict tag (o.get tag) p) := by
  unfold changeValue resetSpec
  cases o.get tag <;> rfl

/-- the code removes the entry and inserts it again, changed or not: on a well-formed object that is `put?` -/
theorem pushImpl_eq (dict : Nat → Option VR) (o : Obj) (hw : o.wf = true) (tag : Nat)
    (ext : Prim → Option Prim) (fresh : Prim) (fb : VR) :
    pushImpl dict o tag ext fresh fb =
      (o.put? tag (pushSpec dict tag (o.get tag) ext fresh fb).1,
       (pushSpec dict tag (o.get tag) ext fresh fb).2) := by
  have hse := fun vr v => set_erase o tag vr v 0 hw
  unfold pushImpl pushSpec
  cases hg : o.get tag with
  | none => rfl
  | some c =>
    obtain ⟨vr, v⟩ := c
    cases v with
    | prim p => cases he : ext p <;> simp only [he, Obj.put?, hse]
    | seq items => simp only [Obj.put?, hse]
    | pix b f => simp only [Obj.put?, hse]

theorem leaf_refines (dict : Nat → Option VR) (o : Obj) (hw : o.wf = true) (tag : Nat) (a : Action) :
    applyLeaf dict o tag a =
      (o.put? tag (leafSpec dict tag (o.get tag) a).1, (leafSpec dict tag (o.get tag) a).2) := by
  cases a with
  | remove => rfl
  | pushStr s => exact pushImpl_eq dict o hw tag _ _ _
  | pushNum n => exact pushImpl_eq dict o hw tag _ _ _
  | set p | setStr p | setIfMissing p | setStrIfMissing p | replace p | replaceStr p =>
    simp only [applyLeaf, leafSpec, changeValue_eq, put?_ite]
  | setVr nvr =>
    simp only [applyLeaf, leafSpec]
    cases o.get tag with
    | none => rfl
    | some c => exact congrArg (·, none) (set_erase o tag _ _ 0 hw)
  | empty | truncate n =>
    -- a missing attribute stays missing: `put? none` erases what is not there
    simp only [applyLeaf, leafSpec]
    cases hg : o.get tag with
    | none => exact congrArg (·, none) (erase_of_get_none o tag hg).symm
    | some c => rfl

/-- **Refinement**: on every well-formed object, for every action and every selector (any depth),
the code model computes exactly the documented semantics — same object, same success/failure. -/
theorem apply_refines_spec (dict : Nat → Option VR) : ∀ (steps : List (Nat × Nat)) (o : Obj),
    o.wf = true → ∀ (tag : Nat) (a : Action), apply dict o steps tag a = applySpec dict o steps tag a
  | [], o, hw, tag, a => leaf_refines dict o hw tag a
  | (t, i) :: rest, o, hw, tag, a => by
    have ihn := apply_refines_spec dict rest .nil nil_wf tag a
    simp only [apply, applySpec]
    cases hg : o.get t with
    | none =>
      -- the code inserts an empty sequence and looks it up again
      by_cases hc : a.constructive = true
      · by_cases hvr : (dict t).getD .UN ≠ .SQ ∧ (dict t).getD .UN ≠ .UN
        · simp [hc, hvr]
        · cases i <;> simp [hc, hvr, get_set_same, set_set, ihn, Items.length, Items.push, Items.get?]
      · simp [hc]
    | some c =>
      obtain ⟨vr, v⟩ := c
      cases v with
      | prim p => simp [hg]
      | pix b f => simp [hg]
      | seq items =>
        simp only [hg, ihn]
        split
        · rfl
        · cases hit : items.get? i with
          | none => rfl
          | some it =>
            have hitw := items_get_wf items i it (seq_of_get o hw t vr items hg).2 hit
            simp only [apply_refines_spec dict rest it hitw tag a]

/-! ### well-formedness is invariant: reachable objects stay well formed -/

theorem good_prim (vr : VR) (p : Prim) : Good vr (.prim p) := ⟨rfl, rfl⟩

theorem good_truncate (n : Nat) (vr : VR) (v : Val) (h : Good vr v) :
    Good (vrAfterUpdate vr v) (v.truncate n) := by
  cases v with
  | prim p => exact good_prim _ _
  | seq items => exact ⟨rfl, items_take_wf items n h.2⟩
  | pix b f => exact ⟨rfl, rfl⟩

theorem good_newValue (vr : VR) (p : Prim) : Good vr (newValue vr p) := by
  unfold newValue; split
  · next h => rw [h.1]; exact ⟨rfl, rfl⟩
  · exact good_prim _ _

theorem good_emptyValue (vr : VR) : Good vr (emptyValue vr) := by
  unfold emptyValue; split
  · next h => rw [h]; exact ⟨rfl, rfl⟩
  · exact good_prim _ _

theorem good_setVr (nvr vr : VR) (v : Val) (h : Good vr v) : Good (setVrOf nvr vr v) v := by
  cases v with
  | prim p => exact good_prim _ _
  | seq items => exact h
  | pix b f => exact h

theorem leafSpec_good (dict : Nat → Option VR) (tag : Nat) (cur : Option (VR × Val)) (hc : GoodAt cur)
    (a : Action) : GoodAt (leafSpec dict tag cur a).1 := by
  have hreset : ∀ p, GoodAt (resetSpec dict tag cur p) := fun p => good_newValue _ p
  have hpush : ∀ ext fresh fb, GoodAt (pushSpec dict tag cur ext fresh fb).1 := by
    intro ext fresh fb
    unfold pushSpec
    split
    · exact good_prim _ _
    · split
      · exact good_prim _ _
      · exact hc
    · exact hc
  cases a with
  | remove => trivial
  | set p | setStr p => exact hreset _
  | pushStr s | pushNum s => exact hpush _ _ _
  | setIfMissing p | setStrIfMissing p | replace p | replaceStr p =>
    simp only [leafSpec]
    split
    · exact hreset _
    · exact hc
  | empty =>
    cases cur with
    | none => trivial
    | some c => exact good_emptyValue c.1
  | setVr nvr =>
    cases cur with
    | none => exact good_emptyValue nvr
    | some c => exact good_setVr nvr c.1 c.2 hc
  | truncate n =>
    cases cur with
    | none => trivial
    | some c => exact good_truncate n c.1 c.2 hc

theorem put?_wf (o : Obj) (hw : o.wf = true) (tag : Nat) (x : Option (VR × Val)) (hx : GoodAt x) :
    (o.put? tag x).wf = true := by
  cases x with
  | none => exact wfFrom_erase o tag 0 hw
  | some c => exact wfFrom_set o tag c.1 c.2 0 hw (Nat.zero_le _) hx

/-- one navigation step of `applySpec` fails and leaves `o` as it is, or rewrites attribute `t` with a sequence -/
theorem applySpec_cons_cases (dict : Nat → Option VR) (o : Obj) (t i : Nat) (rest : List (Nat × Nat))
    (tag : Nat) (a : Action) {motive : Obj × Option Err → Prop}
    (fail : ∀ e, motive (o, some e))
    (create : o.get t = none → a.constructive = true →
      motive (o.set t .SQ (.seq (.cons (applySpec dict .nil rest tag a).1 .nil)),
        (applySpec dict .nil rest tag a).2))
    (createEmpty : o.get t = none → a.constructive = true →
      motive (o.set t .SQ (.seq .nil), some .missingSequence))
    (push : ∀ vr items, o.get t = some (vr, .seq items) → a.constructive = true →
      motive (o.set t vr (.seq (items.push (applySpec dict .nil rest tag a).1)),
        (applySpec dict .nil rest tag a).2))
    (inside : ∀ vr items it, o.get t = some (vr, .seq items) → items.get? i = some it →
      motive (o.set t vr (.seq (items.setAt i (applySpec dict it rest tag a).1)),
        (applySpec dict it rest tag a).2)) :
    motive (applySpec dict o ((t, i) :: rest) tag a) := by
  simp only [applySpec]
  split
  · next hg =>
    split
    · next hc =>
      split
      · exact fail _
      · split
        · exact create hg hc
        · exact createEmpty hg hc
    · exact fail _
  · next vr items hg =>
    split
    · next h => exact push vr items hg h.2
    · split
      · next it hit => exact inside vr items it hg hit
      · exact fail _
  · exact fail _

theorem applySpec_wf (dict : Nat → Option VR) : ∀ (steps : List (Nat × Nat)) (o : Obj), o.wf = true →
    ∀ (tag : Nat) (a : Action), (applySpec dict o steps tag a).1.wf = true
  | [], o, hw, tag, a => put?_wf o hw tag _ (leafSpec_good dict tag _ (get_good o tag 0 hw) a)
  | (t, i) :: rest, o, hw, tag, a => by
    have hset : ∀ items, Items.wf items = true → (o.set t .SQ (.seq items)).wf = true :=
      fun items h => wfFrom_set o t .SQ _ 0 hw (Nat.zero_le _) ⟨rfl, h⟩
    have ihn := applySpec_wf dict rest .nil nil_wf tag a
    refine applySpec_cons_cases dict o t i rest tag a (motive := fun r => r.1.wf = true)
      (fun _ => hw) (fun _ _ => hset _ (items_push_wf .nil _ rfl ihn)) (fun _ _ => hset _ rfl) ?_ ?_
    · intro vr items hg _
      obtain ⟨rfl, hiw⟩ := seq_of_get o hw t vr items hg
      exact hset _ (items_push_wf items _ hiw ihn)
    · intro vr items it hg hit
      obtain ⟨rfl, hiw⟩ := seq_of_get o hw t vr items hg
      exact hset _ (items_setAt_wf items i _ hiw
        (applySpec_wf dict rest it (items_get_wf items i it hiw hit) tag a))

/-- **Invariant**: every operation, successful or not, leads from a well-formed object to a
well-formed object … -/
theorem apply_wf (dict : Nat → Option VR) (o : Obj) (hw : o.wf = true) (steps : List (Nat × Nat))
    (tag : Nat) (a : Action) : (apply dict o steps tag a).1.wf = true := by
  rw [apply_refines_spec dict steps o hw]; exact applySpec_wf dict steps o hw tag a

/-- a history of operations -/
def applyAll (dict : Nat → Option VR) (o : Obj) : List (List (Nat × Nat) × Nat × Action) → Obj
  | [] => o
  | (steps, tag, a) :: ops => applyAll dict (apply dict o steps tag a).1 ops

/-- … hence every object reachable by any history (of any length) from a well-formed object is
well formed (so `apply_refines_spec` applies at every step of the history). -/
theorem reachable_writable (dict : Nat → Option VR) (o : Obj) (hw : o.wf = true)
    (ops : List (List (Nat × Nat) × Nat × Action)) : (applyAll dict o ops).wf = true := by
  induction ops generalizing o with
  | nil => exact hw
  | cons op ops ih => exact ih _ (apply_wf dict o hw op.1 op.2.1 op.2.2)

/-! ### frame: what is off the selector path is untouched -/

theorem put?_get_other (o : Obj) (hw : o.wf = true) (tag k : Nat) (x : Option (VR × Val)) (h : k ≠ tag) :
    (o.put? tag x).get k = o.get k := by
  cases x with
  | none => rw [Obj.put?, get_erase o k tag 0 hw, if_neg h]
  | some c => exact get_set_other o k tag c.1 c.2 h

/-- the first tag of a selector -/
def headTag (steps : List (Nat × Nat)) (tag : Nat) : Nat :=
  match steps with
  | [] => tag
  | (t, _) :: _ => t

/-- **Frame (attributes)**: every attribute of the object other than the one the selector starts
with is exactly as before — whatever the action, the depth, and whether it succeeds. -/
theorem frame (dict : Nat → Option VR) (o : Obj) (hw : o.wf = true) (steps : List (Nat × Nat))
    (tag : Nat) (a : Action) (k : Nat) (hk : k ≠ headTag steps tag) :
    (apply dict o steps tag a).1.get k = o.get k := by
  rw [apply_refines_spec dict steps o hw]
  cases steps with
  | nil => exact put?_get_other o hw tag k _ hk
  | cons s rest =>
    have hset := fun vr v => get_set_other o k s.1 vr v hk
    exact applySpec_cons_cases dict o s.1 s.2 rest tag a (motive := fun r => r.1.get k = o.get k)
      (fun _ => rfl) (fun _ _ => hset _ _) (fun _ _ => hset _ _) (fun _ _ _ _ => hset _ _)
      (fun _ _ _ _ _ => hset _ _)

theorem setAt_get_other : ∀ (items : Items) (i j : Nat) (x : Obj), j ≠ i →
    (items.setAt i x).get? j = items.get? j
  | .nil, _, _, _, _ => rfl
  | .cons _ _, 0, 0, _, h => absurd rfl h
  | .cons _ _, 0, _ + 1, _, _ => rfl
  | .cons _ _, _ + 1, 0, _, _ => rfl
  | .cons _ r, i + 1, j + 1, x, h => setAt_get_other r i j x (fun e => h (congrArg (· + 1) e))

theorem push_get_other : ∀ (items : Items) (j : Nat) (x : Obj), j < items.length →
    (items.push x).get? j = items.get? j
  | .nil, _, _, h => absurd h (Nat.not_lt_zero _)
  | .cons _ _, 0, _, _ => rfl
  | .cons _ r, j + 1, x, h => push_get_other r j x (Nat.lt_of_succ_lt_succ h)

/-- **Frame (items)**: in the sequence the selector goes through, every other item is untouched. -/
theorem frame_items (dict : Nat → Option VR) (o : Obj) (hw : o.wf = true) (t i : Nat)
    (rest : List (Nat × Nat)) (tag : Nat) (a : Action) (vr : VR) (items : Items)
    (hg : o.get t = some (vr, .seq items)) (j : Nat) (hj : j ≠ i) (hlt : j < items.length) :
    ∃ vr' items', (apply dict o ((t, i) :: rest) tag a).1.get t = some (vr', .seq items') ∧
      items'.get? j = items.get? j := by
  rw [apply_refines_spec dict _ o hw]
  simp only [applySpec, hg]
  split
  · exact ⟨vr, _, get_set_same _ _ _ _, push_get_other items j _ hlt⟩
  · cases hit : items.get? i with
    | none => exact ⟨vr, items, hg, rfl⟩
    | some it => exact ⟨vr, _, get_set_same _ _ _ _, setAt_get_other items i j _ hj⟩

/-! ### non-constructive actions on missing paths fail without side effects -/

theorem setAt_get_self : ∀ (items : Items) (i : Nat) (it : Obj), items.get? i = some it →
    items.setAt i it = items
  | .nil, _, _, h => nomatch h
  | .cons _ _, 0, _, h => by cases h; rfl
  | .cons o r, i + 1, it, h => congrArg (Items.cons o) (setAt_get_self r i it h)

/-- a non-constructive action never fails at the leaf -/
theorem leafSpec_nonconstructive_ok (dict : Nat → Option VR) (tag : Nat) (cur : Option (VR × Val))
    (a : Action) (ha : a.constructive = false) : (leafSpec dict tag cur a).2 = none := by
  cases a <;> first | rfl | cases ha

/-- **Fail clean**: whenever a non-constructive action reports an error (the only possible ones are
a missing sequence, a missing item, or a non-sequence on the path), the object is unchanged — at
any depth. -/
theorem nonconstructive_missing_fails_clean (dict : Nat → Option VR) (a : Action)
    (ha : a.constructive = false) : ∀ (steps : List (Nat × Nat)) (o : Obj), o.wf = true → ∀ (tag : Nat) (e : Err),
    (apply dict o steps tag a).2 = some e → (apply dict o steps tag a).1 = o
  | [], o, hw, tag, e, h => by
    rw [apply_refines_spec dict [] o hw] at h
    simp [applySpec, leafSpec_nonconstructive_ok dict tag _ a ha] at h
  | (t, i) :: rest, o, hw, tag, e, h => by
    have hnc : ¬ a.constructive = true := by simp [ha]
    rw [apply_refines_spec dict _ o hw] at h ⊢
    revert h
    refine applySpec_cons_cases dict o t i rest tag a (motive := fun r => r.2 = some e → r.1 = o)
      (fun _ _ => rfl) (fun _ hc => absurd hc hnc) (fun _ hc => absurd hc hnc)
      (fun _ _ _ hc => absurd hc hnc) ?_
    -- inside item `i`: by induction the item is unchanged, and it is put back where it was
    intro vr items it hg hit h
    have hitw := items_get_wf items i it (seq_of_get o hw t vr items hg).2 hit
    rw [← apply_refines_spec dict rest it hitw] at h ⊢
    rw [nonconstructive_missing_fails_clean dict a ha rest it hitw tag e h,
      setAt_get_self items i it hit, set_get_self o t vr _ hg]

/-- the path of a selector exists in the object -/
def pathOk : Obj → List (Nat × Nat) → Bool
  | _, [] => true
  | o, (t, i) :: rest =>
    match o.get t with
    | some (_, .seq items) =>
      (match items.get? i with
       | some it => pathOk it rest
       | none => false)
    | _ => false

/-- … and a non-constructive action on a missing path does fail. -/
theorem nonconstructive_missing_fails (dict : Nat → Option VR) (a : Action)
    (ha : a.constructive = false) : ∀ (steps : List (Nat × Nat)) (o : Obj), pathOk o steps = false →
    ∀ (tag : Nat), (apply dict o steps tag a).2 ≠ none
  | [], _, h, _ => by simp [pathOk] at h
  | (t, i) :: rest, o, h, tag => by
    simp only [apply, ha]
    simp only [pathOk] at h
    cases hg : o.get t with
    | none => simp
    | some c =>
      obtain ⟨vr, v⟩ := c
      cases v with
      | prim p => simp [hg]
      | pix b f => simp [hg]
      | seq items =>
        simp only [hg] at h ⊢
        simp only [Bool.false_eq_true, and_false, if_false]
        cases hit : items.get? i with
        | none => simp
        | some it =>
          simp only [hit] at h
          exact nonconstructive_missing_fails dict a ha rest it h tag

/-! ### constructive actions create what is missing -/

/-- at the leaf a constructive action creates the attribute and succeeds -/
theorem constructive_creates_leaf (dict : Nat → Option VR) (o : Obj) (tag : Nat) (a : Action)
    (ha : a.constructive = true) (hg : o.get tag = none) :
    (apply dict o [] tag a).2 = none ∧ ((apply dict o [] tag a).1.get tag).isSome = true := by
  cases a <;> simp_all [apply, applyLeaf, Action.constructive, changeValue, pushImpl, get_set_same]

/-- a missing sequence is created (VR from the dictionary, which must allow a sequence) together
with its first item, in which the rest of the operation takes place; it is held under VR SQ -/
theorem constructive_creates (dict : Nat → Option VR) (o : Obj) (t : Nat) (rest : List (Nat × Nat))
    (tag : Nat) (a : Action) (ha : a.constructive = true) (hg : o.get t = none)
    (hvr : dict t = none ∨ dict t = some .SQ) :
    let inner := apply dict .nil rest tag a
    (apply dict o ((t, 0) :: rest) tag a).1.get t = some (.SQ, .seq (.cons inner.1 .nil)) ∧
    (apply dict o ((t, 0) :: rest) tag a).2 = inner.2 := by
  have hv : ¬ ((dict t).getD .UN ≠ .SQ ∧ (dict t).getD .UN ≠ .UN) := by
    rcases hvr with h | h <;> simp [h]
  simp only [apply, hg, ha, hv, if_true, if_false, get_set_same, Items.length, true_and]
  simp [Items.push]

/-- … and the next item of an existing sequence is appended -/
theorem constructive_appends_item (dict : Nat → Option VR) (o : Obj) (t : Nat) (vr : VR) (items : Items)
    (rest : List (Nat × Nat)) (tag : Nat) (a : Action) (ha : a.constructive = true)
    (hg : o.get t = some (vr, .seq items)) :
    let inner := apply dict .nil rest tag a
    (apply dict o ((t, items.length) :: rest) tag a).1.get t = some (vr, .seq (items.push inner.1)) ∧
    (apply dict o ((t, items.length) :: rest) tag a).2 = inner.2 := by
  simp [apply, hg, ha, get_set_same]

/-! ### `Push*` and the kind of the created value: the shipped code and the proposed repair -/

/-- **Witness (shipped code)**: `PushI16(256)` on the missing FD attribute (0018,9182) creates
`I16 [256]` under VR FD — a value whose kind does not suit the VR; written as it is (2 bytes under
FD) it does not read back equal. Executed on the implementation as class
`value-type-incompatible-with-vr`. -/
theorem push_creates_unsuitable_value :
    let dict : Nat → Option VR := fun t => if t = 0x00189182 then some .FD else none
    (match (apply dict .nil [] 0x00189182 (.pushNum (.i16 256))).1.get 0x00189182 with
     | some (.FD, .prim p) => p == .i16 [256]
     | _ => false) = true ∧
    primSuits .FD (.i16 [256]) = false := by decide

/-- `pushImplRepaired` is the map-level `pushSpecRepaired` (same refinement as for the shipped code) -/
theorem push_refines_spec_repaired (dict : Nat → Option VR) (o : Obj) (hw : o.wf = true) (tag : Nat)
    (ext mk : Prim → Option Prim) (fb : VR) :
    pushImplRepaired dict o tag ext mk fb =
      (o.put? tag (pushSpecRepaired dict tag (o.get tag) ext mk fb).1,
       (pushSpecRepaired dict tag (o.get tag) ext mk fb).2) := by
  have hse := fun vr v => set_erase o tag vr v 0 hw
  unfold pushImplRepaired pushSpecRepaired
  cases hg : o.get tag with
  | none =>
    simp only
    split
    · simp [Obj.put?, erase_of_get_none o tag hg]
    · split <;> simp [Obj.put?, erase_of_get_none o tag hg]
  | some c =>
    obtain ⟨vr, v⟩ := c
    cases v with
    | prim p => cases he : ext (normEmpty vr p) <;> simp only [he, Obj.put?, hse]
    | seq items => simp only [Obj.put?, hse]
    | pix b f => simp only [Obj.put?, hse]

theorem typedEmpty_suits (vr : VR) (hvr : vr ≠ .DA ∧ vr ≠ .DT ∧ vr ≠ .TM) :
    primSuits vr (typedEmpty vr) = true := by
  cases vr <;> first | rfl | simp at hvr

/-- extending a value that has a kind keeps the kind, and `primSuits` looks at nothing else -/
theorem extendNum_primSuits (vr : VR) (n : Num) (p p' : Prim) (hp : p ≠ .empty)
    (h : p.extendNum n = some p') : primSuits vr p' = primSuits vr p := by
  cases p with
  | empty => exact absurd rfl hp
  | tags l | dates l => cases h
  | _ => cases h; rfl

/-- **Repaired `Push*` of a number on a missing attribute**: either nothing is created and the
action fails, or a primitive value is created under the dictionary's VR (the number's own for an
unknown tag), which it suits whenever that VR has a kind of its own (not OB / UN) -/
theorem push_creates_or_fails_clean_repaired (dict : Nat → Option VR) (o : Obj) (tag : Nat) (n : Num)
    (hg : o.get tag = none)
    (hvr : (dict tag).getD n.fallbackVr ≠ .DA ∧ (dict tag).getD n.fallbackVr ≠ .DT ∧
           (dict tag).getD n.fallbackVr ≠ .TM) :
    let r := pushImplRepaired dict o tag (Prim.extendNum n) (Prim.extendNum n) n.fallbackVr
    let vr := (dict tag).getD n.fallbackVr
    (r.2 ≠ none ∧ r.1 = o) ∨
    (r.2 = none ∧ ∃ p', r.1.get tag = some (vr, .prim p') ∧
      (typedEmpty vr ≠ .empty → primSuits vr p' = true)) := by
  simp only [pushImplRepaired, hg]
  split
  · exact Or.inl ⟨by simp, rfl⟩
  · cases he : (typedEmpty ((dict tag).getD n.fallbackVr)).extendNum n with
    | none => exact Or.inl ⟨by simp, rfl⟩
    | some p' =>
      refine Or.inr ⟨rfl, p', get_set_same _ _ _ _, fun hne => ?_⟩
      exact (extendNum_primSuits _ n _ p' hne he).trans (typedEmpty_suits _ hvr)

/-- on the witness of the shipped code the repaired push creates `F64 [256]` (`.half 512`: floats
are counted in halves), which suits FD -/
theorem push_repaired_on_witness :
    let dict : Nat → Option VR := fun t => if t = 0x00189182 then some .FD else none
    (match (pushImplRepaired dict .nil 0x00189182 (Prim.extendNum (.i16 256)) (Prim.extendNum (.i16 256)) .SS).1.get 0x00189182 with
     | some (.FD, .prim p) => p == .f64 [.half 512]
     | _ => false) = true ∧ primSuits .FD (.f64 [.half 512]) = true := by decide

/-! ### non-vacuity and the defect that was repaired -/

/-- a concrete well-formed object and a depth-2 constructive operation on it -/
example :
    let o : Obj := .cons 0x00100010 .PN (.prim (.str [0x41])) (.cons 0x00400275 .SQ (.seq (.cons .nil .nil)) .nil)
    o.wf = true ∧
    (apply (fun _ => none) o [(0x00400275, 1), (0x00400008, 0)] 0x00080100 (.pushStr [0x58])).2 = none ∧
    pathOk o [(0x00400275, 1)] = false := by decide

/-- defect #6 (fixed by 0c32f21): `PushStr` on a sequence element fails *and* leaves it in place -/
example :
    let o : Obj := .cons 0x00400275 .SQ (.seq (.cons .nil .nil)) .nil
    Obj.beq (apply (fun _ => none) o [] 0x00400275 (.pushStr [0x58])).1 o = true ∧
    (apply (fun _ => none) o [] 0x00400275 (.pushStr [0x58])).2 = some .incompatibleTypes := by decide

/-- the code as found created the sequence of an unknown tag under VR UN, and `SetVr` re-labelled
sequences: such objects are outside `wf` — the data set writer panics on them (`unreachable!` in
`DataElementTokens`); executed on the implementation as class `sequence-under-non-sq-vr` -/
example : Obj.wf (.cons 0x55550042 .UN (.seq (.cons .nil .nil)) .nil) = false ∧
    Obj.wf (.cons 0x55550042 .SQ (.seq (.cons .nil .nil)) .nil) = true := by decide
