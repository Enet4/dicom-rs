/-
C14 — Tags, keywords and attribute selectors have a lossless text syntax.

Model: `Model/TagText.lean` (`Display`/`FromStr` for `Tag`, selector `Display`,
`DataDictionary::parse_tag` / `parse_selector`), instantiated with the standard dictionary of C15 in
`Model/TagTextStd.lean`. Texts are UTF-8 byte strings; `utf8Encode cs` ranges over all Rust strings.
-/
import DicomModel.Lemmas.TagText
import DicomModel.Model.TagTextStd
import DicomModel.Props.C15
namespace Dicom.TagText
open Dicom.Dict

def Tag.Valid (t : Tag) : Prop := t.1 < 65536 ∧ t.2 < 65536

/-! ## tags -/

/-- **Every tag printed in any of its accepted text forms parses back to the same tag**:
3 layouts × upper/lower case, all 2^32 tags. -/
theorem tag_forms_rt (f : Form) (upper : Bool) (t : Tag) (h : t.Valid) :
    parseTag (tagForm f upper t) = .ok t :=
  (parseTag_ok_iff _ _).mpr (specTagOfText_tagForm f upper t h.1 h.2)

/-- `Display` then `FromStr` -/
theorem tag_display_rt (t : Tag) (h : t.Valid) : parseTag (printTag t) = .ok t :=
  tag_forms_rt .paren true t h

/-- what "one of the accepted forms of `t`" means, spelled out: eight hexadecimal digit characters
(each of either case) whose values are the nibbles of group and element, laid out in one of the
three ways -/
def IsTagText (s : Bytes) (t : Tag) : Prop :=
  ∃ a b c d e f g h, specHex4 a b c d = some t.1 ∧ specHex4 e f g h = some t.2 ∧
    (s = [0x28, a, b, c, d, 0x2C, e, f, g, h, 0x29] ∨ s = [a, b, c, d, 0x2C, e, f, g, h] ∨
      s = [a, b, c, d, e, f, g, h])

theorem specPair_eq_some {x y : Option Nat} {t : Tag} (h : specPair x y = some t) :
    x = some t.1 ∧ y = some t.2 := by
  unfold specPair at h
  cases x <;> cases y <;> simp at h
  subst h; exact ⟨rfl, rfl⟩

theorem spec_iff_isTagText (s : Bytes) (t : Tag) : specTagOfText s = some t ↔ IsTagText s t := by
  constructor
  · intro h
    unfold specTagOfText at h
    split at h
    · rename_i p a b c d q e f g h' r
      split at h
      · rename_i hc
        obtain ⟨h1, h2⟩ := specPair_eq_some h
        obtain ⟨rfl, rfl, rfl⟩ := hc
        exact ⟨a, b, c, d, e, f, g, h', h1, h2, Or.inl rfl⟩
      · cases h
    · rename_i a b c d q e f g h'
      split at h
      · rename_i hc
        obtain ⟨h1, h2⟩ := specPair_eq_some h
        subst hc
        exact ⟨a, b, c, d, e, f, g, h', h1, h2, Or.inr (Or.inl rfl)⟩
      · cases h
    · rename_i a b c d e f g h'
      obtain ⟨h1, h2⟩ := specPair_eq_some h
      exact ⟨a, b, c, d, e, f, g, h', h1, h2, Or.inr (Or.inr rfl)⟩
    · cases h
  · rintro ⟨a, b, c, d, e, f, g, h, h1, h2, rfl | rfl | rfl⟩ <;>
      simp [specTagOfText, h1, h2, specPair]

/-- **Parsing accepts exactly those forms** — over arbitrary byte strings `s`:
`s.parse::<Tag>() = Ok(t)` iff `s` is one of the forms of `t`. -/
theorem tag_accepts_exactly (s : Bytes) (t : Tag) : parseTag s = .ok t ↔ IsTagText s t :=
  (parseTag_ok_iff s t).trans (spec_iff_isTagText s t)

/-- an accepted text denotes a valid (16-bit, 16-bit) tag -/
theorem tag_parsed_valid {s : Bytes} {t : Tag} (h : parseTag s = .ok t) : t.Valid := by
  obtain ⟨a, b, c, d, e, f, g, h', h1, h2, _⟩ := (tag_accepts_exactly s t).mp h
  exact ⟨specHex4_lt h1, specHex4_lt h2⟩

/-- **No panic**: for every Rust string (any sequence of Unicode scalar values) the parser returns. -/
theorem tag_parse_no_panic (cs : List Char) : parseTag (utf8Encode cs) ≠ .panic :=
  parseTag_ne_panic (okAfterAscii_utf8 cs)

/-- **Any other string is rejected with an error.** -/
theorem tag_rejects (cs : List Char) (h : ∀ t, ¬ IsTagText (utf8Encode cs) t) :
    ∃ e, parseTag (utf8Encode cs) = .err e := by
  cases hp : parseTag (utf8Encode cs) with
  | ok t => exact absurd ((tag_accepts_exactly _ t).mp hp) (h t)
  | err e => exact ⟨e, rfl⟩
  | panic => exact absurd hp (tag_parse_no_panic cs)

/-- the input of defect #1 (`"abc\u{e9}abc"`, 8 bytes, byte 4 inside a character) is an error of the
repaired parser, not a panic; a valid lower-case form and a mixed-case form are accepted -/
example : parseTag [0x61, 0x62, 0x63, 0xC3, 0xA9, 0x61, 0x62, 0x63] = .err .number ∧
    parseTag [0x37, 0x66, 0x65, 0x30, 0x30, 0x30, 0x31, 0x30] = .ok (0x7FE0, 0x0010) ∧
    parseTag [0x28, 0x37, 0x46, 0x65, 0x30, 0x2C, 0x30, 0x30, 0x31, 0x30, 0x29] = .ok (0x7FE0, 0x0010) ∧
    parseTag [0x28, 0x37, 0x46, 0x65, 0x30, 0x2C, 0x30, 0x30, 0x31, 0x30, 0x20] = .err .end_ := by
  decide

/-! ## selectors -/

def Selector.Valid (s : Selector) : Prop :=
  (∀ p ∈ s.path, Tag.Valid p.1 ∧ p.2 < 4294967296) ∧ Tag.Valid s.leaf

/-- a printed tag is a selector key for its tag, whatever the dictionary -/
theorem keyText_printTag (byName : Bytes → Option Tag) (t : Tag) (h : t.Valid) :
    KeyText byName (printTag t) t where
  resolves := by unfold dictParseTag; rw [tag_display_rt t h]
  noDot := fun hm => by have := mem_printTag hm; omega
  noBracket := fun hm => by have := mem_printTag hm; omega
  noClose := by rw [printTag_getLast]; simp

/-- **Every attribute selector printed as text parses back to the same selector** — any depth, any
item indices below 2^32, with any dictionary. -/
theorem selector_rt (byName : Bytes → Option Tag) (s : Selector) (h : s.Valid) :
    parseSelector byName (printSelector s) = .ok s := by
  have hp : printSelector s =
      joinDots ((s.path.map fun p => (⟨printTag p.1, p.1, p.2, true⟩ : KeyStep)).map KeyStep.text ++
        [printTag s.leaf]) := by
    simp [printSelector, Selector.steps, printStep, KeyStep.text, nestedText, Function.comp_def]
  rw [hp, parseSelector_keys _ _ s.leaf _ (keyText_printTag byName s.leaf h.2)]
  · simp [Function.comp_def]
  · intro st hst
    obtain ⟨p, hp, rfl⟩ := List.mem_map.mp hst
    exact ⟨keyText_printTag byName p.1 (h.1 p hp).1, (h.1 p hp).2, by simp⟩

/-- the hypotheses of `selector_rt` are met by a concrete 3-step selector, which round-trips -/
example : stdParseSelector (printSelector ⟨[((0x0040, 0xA730), 1), ((0x0040, 0xA168), 4294967295)], (0x0008, 0x0100)⟩)
    = .ok ⟨[((0x0040, 0xA730), 1), ((0x0040, 0xA168), 4294967295)], (0x0008, 0x0100)⟩ :=
  selector_rt _ _ ⟨by simp [Tag.Valid], by simp [Tag.Valid]⟩

/-! ## keywords -/

/-- every keyword of the generated table passes `keywordOk`: its text is non-empty and alphanumeric,
and is not itself a tag form (kernel evaluation over the table) -/
theorem keywords_ok : Gen.entries.all (fun r => keywordOk r.alias) = true := by decide +kernel

/-- **Every dictionary keyword resolves to that keyword's tag**: `parse_tag(keyword)` is the tag of
the entry carrying the keyword. -/
theorem keyword_resolves {r : Row} (hr : r ∈ Gen.entries) :
    stdParseTag (bytesOf r.alias) = .tag (r.group, r.elem) ∧
      KeyText stdByName (bytesOf r.alias) (r.group, r.elem) := by
  obtain ⟨hal, _, hnat, herr⟩ := keywordOk_spec (List.all_eq_true.mp keywords_ok r hr)
  obtain ⟨h1, h2, h3, h4⟩ := alnum_facts hal
  have hres : stdParseTag (bytesOf r.alias) = .tag (r.group, r.elem) := by
    unfold stdParseTag dictParseTag
    cases hp : parseTag (bytesOf r.alias) with
    | ok t => rw [hp] at herr; cases herr
    | panic => rw [hp] at herr; cases herr
    | err e =>
      simp only []
      have : stdByName (bytesOf r.alias) = some (r.group, r.elem) := by
        unfold stdByName
        rw [if_neg h4, hnat, by_name_consistent hr]; rfl
      rw [this]
  exact ⟨hres, ⟨hres, h1, h2, h3⟩⟩

/-- **…used in a selector**: a selector written with dictionary keywords (items written or omitted)
parses to the selector of the keywords' tags. Stated for path entries `(row, item, written?)`. -/
theorem keyword_selector (path : List (Row × Nat × Bool)) (leaf : Row)
    (hp : ∀ p ∈ path, p.1 ∈ Gen.entries ∧ p.2.1 < 4294967296 ∧ (p.2.2 = false → p.2.1 = 0))
    (hl : leaf ∈ Gen.entries) :
    stdParseSelector (joinDots ((path.map fun p =>
        (⟨bytesOf p.1.alias, (p.1.group, p.1.elem), p.2.1, p.2.2⟩ : KeyStep).text) ++ [bytesOf leaf.alias])) =
      .ok ⟨path.map (fun p => ((p.1.group, p.1.elem), p.2.1)), (leaf.group, leaf.elem)⟩ := by
  have := parseSelector_keys (byName := stdByName)
    (path.map fun p => (⟨bytesOf p.1.alias, (p.1.group, p.1.elem), p.2.1, p.2.2⟩ : KeyStep))
    (bytesOf leaf.alias) (leaf.group, leaf.elem)
    (by
      intro st hst
      obtain ⟨p, hpm, rfl⟩ := List.mem_map.mp hst
      exact ⟨(keyword_resolves (hp p hpm).1).2, (hp p hpm).2.1, (hp p hpm).2.2⟩)
    (keyword_resolves hl).2
  simpa [stdParseSelector, Function.comp_def] using this

end Dicom.TagText
