import DicomModel.Model.Guard
import DicomModel.Model.Rle
import DicomModel.Model.Bytes
import DicomModel.Model.Pdu
import DicomModel.Lemmas.TagText
import DicomModel.Lemmas.Pdu
import DicomModel.Lemmas.PduNoPanic
import DicomModel.Lemmas.GuardText
import DicomModel.Props.C23
/-
C05 — untrusted input never makes a reader panic, abort or hang.  (partial, see below)

Proof part: no-panic / termination theorems about the executable models of the dicom-rs-OWNED
parsers, where those models carry an explicit `panic` outcome (so a theorem cannot hold because a
definition was totalised).  Collected here:

* text: `Tag::from_str` and `parse_selector` — every Rust string, every dictionary
  (`tag_from_str_no_panic`, `selector_no_panic`, `selector_slices_no_panic`);
* date / time / date-time / range parsers: the models of C12 are total `Option` functions, so their
  Rust panic sites (slices, indexes, `split_at`, `unwrap`) are modelled explicitly in
  `Model/GuardText.lean` and proved unreachable for every byte string (`parse_*_no_panic`), with
  `read_number_no_wrap` for the arithmetic that would wrap in a release build;
* header decoders: only constant ranges of fixed arrays (`header_decoders_slices_in_range`), and
  progress of 8 or 12 bytes per header (`header_decode_progress`, on `Model/Header.lean`);
* value readers of the stateful decoder: `remainder[..n]`, the padding-trim loop
  (`value_reader_slices_no_panic`); their `unreachable!()` in `read_value_cs` rests on
  `read_value_strs` returning `Strs` (a type invariant, not modelled); their allocation is the
  known finding `abort-alloc-dataset-reader`;
* DICOM JSON: the element / data set visitors over any parsed JSON document
  (`json_dataset_no_panic`, `json_element_no_panic`, from `Props/C23`);
* PDU decoding: `read_pdu` and everything under it, for every byte string — no unguarded
  `get_u8/get_u16/get_u32/copy_to_bytes` is reachable (`read_pdu_no_panic`), and the P-DATA value
  loop terminates with fuel = body length (`read_pdvs_no_hang`);
* file meta group: the `while total_bytes_read < group_length` loop ends after at most
  `group_length/8 + 1` rounds whatever the stream contains (`meta_loop_no_hang`);
* RLE Lossless after repair af5f450: `read_rle_header`, `decode_frame` and `decode` never panic
  (`rle_header_no_panic`, `rle_decode_frame_no_panic`, `rle_decode_no_panic`, models in
  `Model/Guard.lean`); what was shipped before is kept as `…_shipped_before_fix` (exact panic set of
  the old header reader);
* recursion depth of `build_object`/`build_sequence` equals the nesting depth of the input, which
  is unbounded: 20 bytes of input per two stack levels (`nesting_depth_unbounded`) — the stack overflow is
  reproduced by the fuzzing run (known finding). Allocation before reading: one evaluation of
  `valueAlloc` (`value_alloc_unbounded`).

Not proved (fuzzing only, labelled as such in props/C05.json): third-party decoders (jpeg-decoder,
flate2, serde_json's text layer, encoding_rs), the eager/lazy data set reader state machines as a
whole, `dump`, pixel decoders other than RLE.
-/
namespace Dicom.C05

/-! ## text parsers -/

/-- `Tag::from_str` returns for every Rust string (any sequence of Unicode scalar values). -/
theorem tag_from_str_no_panic (cs : List Char) : TagText.parseTag (utf8Encode cs) ≠ .panic :=
  TagText.parseTag_ne_panic (TagText.okAfterAscii_utf8 cs)

open TagText in
theorem parsePart_no_panic (byName : Bytes → Option TagText.Tag) (part : Bytes) (h : okAfterAscii part = true) :
    parsePart byName part ≠ .panic := by
  have key : ∀ s, okAfterAscii s = true → dictParseTag byName s ≠ .panic := by
    intro s hs
    unfold dictParseTag
    have := parseTag_ne_panic hs
    split
    · nofun
    · split <;> nofun
    · rename_i heq; exact absurd heq this
  unfold parsePart
  split
  · split
    · nofun
    · rename_i i _
      have hk := key (part.take i) (okAfterAscii_take part i h)
      simp only
      split
      · rename_i heq; exact absurd heq hk
      · nofun
      · split <;> nofun
  · have hk := key part h
    split
    · rename_i heq; exact absurd heq hk
    · nofun
    · nofun

open TagText in
/-- **`DataDictionary::parse_selector` returns for every Rust string**, whatever the dictionary:
the `Tag::from_str` calls inside cannot panic, and (`selector_slices_no_panic`) neither can the two
`str` slices of an intermediate `«key»[«item»]` part. -/
theorem selector_no_panic (byName : Bytes → Option TagText.Tag) (cs : List Char) :
    parseSelector byName (utf8Encode cs) ≠ .panic := by
  have hparts := (okAfterAscii_splitOn 0x2E (utf8Encode cs) (okAfterAscii_utf8 cs)).1
  have hp : ∀ (ps : List Bytes), (∀ q ∈ ps, okAfterAscii q = true) → parseParts byName ps ≠ .panic := by
    intro ps
    induction ps with
    | nil => intro _; nofun
    | cons p ps ih =>
      intro hq
      have h1 := parsePart_no_panic byName p (hq p (by simp))
      have h2 := ih (fun q hm => hq q (by simp [hm]))
      simp only [parseParts]
      split
      · split
        · nofun
        · nofun
        · rename_i heq; exact absurd heq h2
      · nofun
      · rename_i heq; exact absurd heq h1
  have := hp _ hparts
  unfold parseSelector
  split
  · split <;> nofun
  · nofun
  · rename_i heq; exact absurd heq this

open TagText Guard in
theorem selector_slices_no_panic (cs : List Char) :
    ∀ part ∈ splitOn 0x2E (utf8Encode cs), selectorSlicesG part ≠ .panic :=
  fun part hm => selectorSlicesG_np part
    ((okAfterAscii_splitOn 0x2E (utf8Encode cs) (okAfterAscii_utf8 cs)).1 part hm)

/-! ### date, time, date-time and range parsers: every slice, index and unwrap is in range

The functions are `Model/GuardText.lean`: `core/src/value/deserialize.rs` and `range.rs` rewritten with
checked slicing (`&buf[a..b]`, `buf[i]`, `split_at`, `dashes[i]`, `u8::try_from(n).unwrap()`), the
panic-free parts shared with `Model/Partial.lean`. For EVERY byte string: -/

open Guard in
theorem parse_date_no_panic (buf : Bytes) : parseDateG buf ≠ .panic := parseDateG_np buf
open Guard in
theorem parse_date_partial_no_panic (buf : Bytes) : parseDatePartialG buf ≠ .panic := parseDatePartialG_np buf
open Guard in
theorem parse_time_no_panic (buf : Bytes) : parseTimeG buf ≠ .panic := parseTimeG_np buf
open Guard in
theorem parse_time_partial_no_panic (buf : Bytes) : parseTimePartialG buf ≠ .panic := parseTimePartialG_np buf
open Guard in
theorem parse_datetime_partial_no_panic (buf : Bytes) : parseDateTimePartialG buf ≠ .panic :=
  parseDateTimePartialG_np buf
open Guard in
theorem parse_date_range_no_panic (buf : Bytes) : parseDateRangeG buf ≠ .panic := parseDateRangeG_np buf
open Guard in
theorem parse_time_range_no_panic (buf : Bytes) : parseTimeRangeG buf ≠ .panic := parseTimeRangeG_np buf
open Guard in
/-- for every ambiguity handler `mk` (`ToLocalTimeZone`, `ToKnownTimeZone`, `FailOnAmbiguousRange`,
`IgnoreTimeZone`: none of them indexes or slices) -/
theorem parse_datetime_range_no_panic (mk : Partial.Precise → Partial.Precise → Option Partial.DateTimeRange)
    (buf : Bytes) : parseDateTimeRangeG mk buf ≠ .panic := parseDateTimeRangeG_np mk buf

open Guard in
/-- **no wrap-around in `read_number`** (release builds wrap silently): an accepted text of `n ≤ 9`
digits yields a value below `10^n`; the call sites read 2 digits into `u8` (< 256), 4 into `u16`
(< 65536) and at most 9 into `u32`/`i32` (< 2^31). -/
theorem read_number_no_wrap (text : Bytes) (v : Nat) (h : readNumberG text = .ok v) :
    v < 10 ^ text.length ∧ (text.length ≤ 2 → v < 256) ∧ (text.length ≤ 4 → v < 65536) ∧
    v < 2147483648 := by
  have hr := readNumberG_ok.mp h
  have hv := Digits.readNumber_lt hr
  have h9 : text.length ≤ 9 := (Digits.readNumber_eq_some_iff.mp hr).2.1
  refine ⟨hv, ?_, ?_, ?_⟩
  · intro hl
    have : 10 ^ text.length ≤ 10 ^ 2 := Nat.pow_le_pow_right (by omega) hl
    omega
  · intro hl
    have : 10 ^ text.length ≤ 10 ^ 4 := Nat.pow_le_pow_right (by omega) hl
    omega
  · have : 10 ^ text.length ≤ 10 ^ 9 := Nat.pow_le_pow_right (by omega) h9
    omega

/-! ## header decoders and value readers -/

open Guard in
/-- the header decoders index only constant ranges of fixed-size arrays, all in range -/
theorem header_decoders_slices_in_range :
    headerSliceSites.all (fun (n, a, b) => decide (a ≤ b ∧ b ≤ n)) = true := headerSliceSites_in_range

/-- every successful element header decode (Implicit VR LE, Explicit VR LE, Explicit VR BE) consumes
8 or 12 bytes of its input, a short input is an error: readers that loop over headers terminate -/
theorem header_decode_progress (ts : Syntax) (dict : Tag → Option VR) (bs : Bytes)
    (h : ElemHeader) (n : Nat) (r : Bytes) (hd : decodeHeader ts dict bs = some (h, n, r)) :
    (n = 8 ∨ n = 12) ∧ r.length + n = bs.length :=
  ⟨Guard.decodeHeader_count hd, (decodeHeader_drops hd).length⟩

open Guard in
/-- value readers of the stateful decoder: `&mut remainder[..n]` of the 8-byte scratch array is in
range for the three ways it is called (`len & 1`, `len & 3`, `len & 7`), and the trailing-padding
loop `x = &x[..x.len() - 1]` never slices an empty text and stops within `len` rounds -/
theorem value_reader_slices_no_panic (len : Nat) (x : Bytes) :
    remainderSlice (len % 2) ≠ .panic ∧ remainderSlice (len % 4) ≠ .panic ∧
    remainderSlice (len % 8) ≠ .panic ∧ trimTrailG x.length x ≠ .panic :=
  ⟨remainderSlice_np (by omega), remainderSlice_np (by omega), remainderSlice_np (by omega),
   trimTrailG_np x.length x (Nat.le_refl _)⟩

/-! ## DICOM JSON -/

/-- the data set visitor on any JSON value whose strings are valid UTF-8 (all Rust strings are) -/
theorem json_dataset_no_panic (j : Json.J) (h : j.utf8 = true) : Json.dsOfJ j ≠ .panic :=
  Json.dsOfJ_ne_panic j h

theorem json_element_no_panic (tag : Nat) (j : Json.J) (h : j.utf8 = true) :
    Json.elemOfJ tag j ≠ .panic := Json.elemOfJ_ne_panic tag j h

/-! ## PDU decoding -/

open Pdu in
/-- **`read_pdu` never reaches an unguarded buffer access**: for every maximum length, both
strictness modes and every byte string the outcome is a PDU, "incomplete" or an error — never the
panic of `Buf::get_u8 / get_u16 / get_u32 / copy_to_bytes / advance` on a short buffer. -/
theorem read_pdu_no_panic (mx : Nat) (strict : Bool) (bs : Bytes) : NP (readPdu mx strict bs) :=
  NP_of_endsIn (Pdu.readPdu_noPanic mx strict bs)

open Pdu in
/-- the P-DATA value loop of `read_pdu` terminates: with the body length as fuel it never runs dry
(every round consumes at least 6 bytes), and it does not panic -/
theorem read_pdvs_no_hang (body : Bytes) (acc : List Pdv) :
    readPdvs body.length body acc ≠ .err .fuel ∧ readPdvs body.length body acc ≠ .err .panic :=
  ⟨(readPdvs_np _ _ _ (Nat.le_refl _)).2, (readPdvs_np _ _ _ (Nat.le_refl _)).1⟩

/-! ## file meta group loop -/

open Guard in
/-- **No hang in `FileMetaTable::read_from`**: every header is at least 8 bytes, so the saturating
counter reaches any `group_length` (a `u32`) within `group_length/8 + 1` rounds — for every stream
of elements, also an endless one, whatever lengths they declare (fuel = rounds + 1). -/
theorem meta_loop_no_hang (gl : Nat) (s : Nat → MetaElem) (hgl : gl ≤ u32Max)
    (hh : ∀ i, 8 ≤ (s i).hdr) : (metaLoop gl s (gl / 8 + 2) 0 0).2 ≠ .hang := by
  have key : ∀ (f total i : Nat), gl ≤ total + 8 * f → (metaLoop gl s (f + 1) total i).2 ≠ .hang := by
    intro f
    induction f with
    | zero =>
      intro total i h
      have : gl ≤ total := by omega
      simp [metaLoop, this]
    | succ f ih =>
      intro total i h
      unfold metaLoop
      split
      · simp
      · simp only
        split
        · simp
        · apply ih
          have := hh i
          unfold satAdd u32Max at *
          omega
  apply key
  omega

open Guard in
/-- … and the number of rounds is bounded by the declared group length alone (stated as the loop's
invariant; at `total = 0`, `i = 0`, `gl ≤ u32Max` it reads `rounds ≤ gl/8 + 1`). -/
theorem meta_loop_rounds (gl : Nat) (s : Nat → MetaElem) (hh : ∀ i, 8 ≤ (s i).hdr) :
    ∀ (f total i : Nat), 8 * i ≤ total ∨ u32Max ≤ total →
      (metaLoop gl s f total i).1 ≤ gl / 8 + 1 ∨ u32Max < gl ∨ (metaLoop gl s f total i).1 ≤ i := by
  by_cases hg : u32Max < gl
  · exact fun _ _ _ _ => .inr (.inl hg)
  intro f
  induction f with
  | zero => intro total i _; right; right; simp [metaLoop]
  | succ f ih =>
    intro total i hinv
    unfold metaLoop
    split
    · right; right; simp
    · rename_i hlt
      simp only
      split
      · -- error return in this round: i + 1 rounds, and total < gl
        left; simp only; omega
      · have hnext : 8 * (i + 1) ≤ satAdd (satAdd total (s i).hdr) (s i).len ∨
            u32Max ≤ satAdd (satAdd total (s i).hdr) (s i).len := by
          have := hh i
          unfold satAdd u32Max at *
          omega
        rcases ih _ (i + 1) hnext with h | h | h
        · exact .inl h
        · exact .inr (.inl h)
        · -- the recursive call made no further round: it stopped at i + 1
          left; omega

/-! ## recursion depth and allocation: measured quantities, not safe -/

open Guard in
theorem maxDepth_nested (n : Nat) : ∀ cur best, best ≤ cur →
    maxDepth (nestedToks n) cur best = if n = 0 then best else cur + 2 * n := by
  induction n with
  | zero => intro cur best _; simp [nestedToks, maxDepth]
  | succ n ih =>
    intro cur best h
    simp only [nestedToks, maxDepth]
    rw [ih (cur + 1 + 1) _ (by omega)]
    by_cases hn : n = 0
    · subst hn; simp; omega
    · simp [hn]; omega

open Guard in
/-- **The recursion depth of `build_object` ↔ `build_sequence` is chosen by the input**: for every
`n` there is a data set of `20·n` bytes (Explicit VR LE) that drives the recursion `2·n` frames deep.
Nothing bounds it — a thread's stack does (the fuzzing run reproduces the overflow = abort). -/
theorem nesting_depth_unbounded (n : Nat) :
    maxDepth (nestedToks n) 0 0 = 2 * n ∧ nestedBytes n = 20 * n := by
  refine ⟨?_, rfl⟩
  rw [maxDepth_nested n 0 0 (Nat.le_refl _)]
  by_cases hn : n = 0 <;> simp [hn]

open Guard in
/-- the value readers request the declared length before reading a byte: one evaluation, 8 bytes of
header ask for 4 GiB -/
theorem value_alloc_unbounded : valueAlloc 0xFFFFFFFE = 4294967294 := rfl

/-! ## RLE Lossless (repaired by af5f450): no panic; what was shipped before, as witnesses -/

theorem rdLe32_none_iff (bs : Bytes) : rdLe32 bs = none ↔ bs.length < 4 := by
  match bs with
  | [] => simp [rdLe32]
  | [_] => simp [rdLe32]
  | [_, _] => simp [rdLe32]
  | [_, _, _] => simp [rdLe32]
  | _ :: _ :: _ :: _ :: r => simp [rdLe32]

open Rle in
theorem rdLe32s_some (n : Nat) : ∀ (bs : Bytes), 4 * n ≤ bs.length → ∃ v, rdLe32s n bs = some v := by
  induction n with
  | zero => intro bs _; exact ⟨[], rfl⟩
  | succ n ih =>
    intro bs h
    match bs, h with
    | a :: b :: c :: d :: r, h =>
      have hr : 4 * n ≤ r.length := by simp only [List.length_cons] at h; omega
      obtain ⟨v, hv⟩ := ih r hr
      refine ⟨(a + 256 * b + 65536 * c + 16777216 * d) :: v, ?_⟩
      simp [rdLe32s, rdLe32, hv]
    | [], h => simp at h
    | [_], h => simp at h; omega
    | [_, _], h => simp at h; omega
    | [_, _, _], h => simp at h; omega

theorem rdLe32_val_lt {bs : Bytes} (hb : IsBytes bs) {n : Nat} {r : Bytes}
    (h : rdLe32 bs = some (n, r)) : n < 4294967296 ∧ r = bs.drop 4 ∧ 4 ≤ bs.length := by
  match bs, h with
  | a :: b :: c :: d :: r', h =>
    simp only [rdLe32, Option.some.injEq, Prod.mk.injEq] at h
    have ha := hb a (by simp); have hb' := hb b (by simp)
    have hc := hb c (by simp); have hd := hb d (by simp)
    refine ⟨by omega, by simp [h.2], by simp⟩

open Guard Rle in
/-- **`read_rle_header` (repaired) never panics**: for every fragment — any length, any contents —
the two slices it still takes are inside the fragment, because of the 64-byte and 15-segment tests
in front of them. -/
theorem rle_header_no_panic (frag : Bytes) : readRleHeaderFixed frag ≠ .panic := by
  unfold readRleHeaderFixed
  split
  · intro h; cases h
  · rename_i hlen
    cases hh : rdLe32 frag with
    | none => exact absurd ((rdLe32_none_iff frag).mp hh) (by omega)
    | some p =>
      obtain ⟨n, r⟩ := p
      simp only
      split
      · intro h; cases h
      · rename_i hn
        have h1 : ¬ frag.length < 4 * (n + 1) := by omega
        simp only [h1, if_false]
        obtain ⟨v, hv⟩ := rdLe32s_some n (frag.drop 4) (by simp only [List.length_drop]; omega)
        simp [hv]

open Rle in
/-- no panic, and where a buffer is returned it has length `n` -/
def KeepsLen (n : Nat) (x : Outcome Bytes) : Prop := x ≠ .panic ∧ ∀ d, x = .ok d → d.length = n

open Rle in
theorem KeepsLen.err {n : Nat} : KeepsLen n .err := ⟨nofun, nofun⟩
open Rle in
theorem KeepsLen.ok (d : Bytes) : KeepsLen d.length (.ok d) := ⟨nofun, fun _ h => by cases h; rfl⟩

open Guard Rle in
theorem scatterFixed_np_len (step e : Nat) : ∀ (src : Bytes) (pos : Nat) (dst : Bytes),
    e ≤ dst.length → KeepsLen dst.length (scatterFixed step e pos src dst) := by
  intro src
  induction src with
  | nil =>
    intro pos dst _
    simp only [scatterFixed]
    split
    · exact .ok dst
    · exact .err
  | cons x xs ih =>
    intro pos dst h
    simp only [scatterFixed]
    split
    · exact .ok dst
    · split
      · simpa using ih (pos + step) (dst.set pos x) (by simpa using h)
      · omega

open Guard Rle in
theorem placeSegmentFixed_np_len (P : Params) (frag : Bytes) (offs : List Nat) (base : Nat) (dst : Bytes)
    (sn bo : Nat) (h : base + P.frameSize ≤ dst.length) :
    KeepsLen dst.length (placeSegmentFixed P frag offs base dst sn bo) := by
  unfold placeSegmentFixed
  simp only
  split
  · split
    · exact .err
    · split
      · exact .err
      · exact scatterFixed_np_len _ _ _ _ _ h
  · exact .err

open Guard Rle in
theorem placeAllFixed_np_len (P : Params) (frag : Bytes) (offs : List Nat) (base : Nat) :
    ∀ (order : List (Nat × Nat)) (dst : Bytes), base + P.frameSize ≤ dst.length →
      KeepsLen dst.length (placeAllFixed P frag offs base order dst) := by
  intro order
  induction order with
  | nil => intro dst _; exact .ok dst
  | cons p rest ih =>
    intro dst h
    have hs := placeSegmentFixed_np_len P frag offs base dst p.1 p.2 h
    simp only [placeAllFixed]
    split
    · rename_i d1 heq
      exact hs.2 d1 heq ▸ ih d1 (by rw [hs.2 d1 heq]; exact h)
    · exact .err
    · rename_i heq; exact absurd heq hs.1

open Guard Rle in
theorem decodeFragmentIntoFixed_np_len (P : Params) (frag : Bytes) (base : Nat) (dst : Bytes)
    (h : base + P.frameSize ≤ dst.length) : KeepsLen dst.length (decodeFragmentIntoFixed P frag base dst) := by
  unfold decodeFragmentIntoFixed
  split
  · exact placeAllFixed_np_len P frag _ base _ dst h
  · exact .err
  · rename_i heq; exact absurd heq (rle_header_no_panic frag)

open Guard Rle in
/-- **`RleLosslessAdapter::decode_frame` (repaired) never panics**, for any image parameters, any
list of fragments, any frame number and any prior contents of the output vector. -/
theorem rle_decode_frame_no_panic (P : Params) (frags : List Bytes) (frame : Nat) (dst0 : Bytes) :
    decodeFrameFixed P frags frame dst0 ≠ .panic := by
  unfold decodeFrameFixed
  split
  · nofun
  · split
    · nofun
    · exact (decodeFragmentIntoFixed_np_len P _ _ _ (by simp)).1

open Guard Rle in
theorem decodeFramesFixed_np (P : Params) (base0 : Nat) : ∀ (frags : List Bytes) (i : Nat) (dst : Bytes),
    base0 + (i + frags.length) * P.frameSize ≤ dst.length →
      KeepsLen dst.length (decodeFramesFixed P base0 i frags dst) := by
  intro frags
  induction frags with
  | nil => intro i dst _; exact .ok dst
  | cons f rest ih =>
    intro i dst h
    simp only [List.length_cons, ← Nat.add_assoc, Nat.add_right_comm i _ 1] at h
    have hf := decodeFragmentIntoFixed_np_len P f (base0 + i * P.frameSize) dst (by
      rw [Nat.add_mul, Nat.add_mul] at h; omega)
    simp only [decodeFramesFixed]
    split
    · rename_i d1 heq
      exact hf.2 d1 heq ▸ ih (i + 1) d1 (by rw [hf.2 d1 heq]; exact h)
    · exact .err
    · rename_i heq; exact absurd heq hf.1

open Guard Rle in
/-- **`RleLosslessAdapter::decode` (repaired) never panics** -/
theorem rle_decode_no_panic (P : Params) (frags : List Bytes) (dst0 : Bytes) :
    decodeAllFixed P frags dst0 ≠ .panic := by
  unfold decodeAllFixed
  split
  · nofun
  · refine (decodeFramesFixed_np _ _ _ _ _ ?_).1
    simp only [List.length_append, List.length_replicate, Nat.zero_add]
    rw [Nat.mul_comm]; omega

open Guard Rle in
/-- What was shipped before the repair: exactly when the old `read_rle_header` panicked — the
fragment is shorter than its 4-byte segment count, the count is `0xFFFFFFFF` (`4·(n+1)` wraps to 0),
or the fragment is shorter than the `4·(n+1)` bytes the count announces. -/
theorem rle_header_panics_iff_shipped_before_fix (frag : Bytes) (hb : IsBytes frag) :
    readRleHeaderShipped frag = .panic ↔
      frag.length < 4 ∨ ∃ n r, rdLe32 frag = some (n, r) ∧
        (n = 4294967295 ∨ frag.length < 4 * (n + 1)) := by
  unfold readRleHeaderShipped
  cases hh : rdLe32 frag with
  | none => simp [(rdLe32_none_iff frag).mp hh]
  | some p =>
    obtain ⟨n, r⟩ := p
    obtain ⟨hn, -, hl⟩ := rdLe32_val_lt hb hh
    have hex : (∃ n' r', some (n, r) = some (n', r') ∧ (n' = 4294967295 ∨ frag.length < 4 * (n' + 1))) ↔
        (n = 4294967295 ∨ frag.length < 4 * (n + 1)) := by simp
    rw [hex]
    simp only
    by_cases c : n = 4294967295 ∨ frag.length < 4 * (n + 1)
    · have : 4 * ((n + 1) % 4294967296) < 4 ∨ frag.length < 4 * ((n + 1) % 4294967296) := by omega
      simp [this, c]
    · have : ¬ (4 * ((n + 1) % 4294967296) < 4 ∨ frag.length < 4 * ((n + 1) % 4294967296)) := by omega
      obtain ⟨v, hv⟩ := rdLe32s_some n (frag.drop 4) (by simp only [List.length_drop]; omega)
      simp [this, c, hv]; omega

open Guard Rle in
/-- witnesses for the shipped code: an empty fragment and one that stops after its segment count
panicked; the repaired reader answers `Err` on both -/
theorem rle_short_fragments_shipped_before_fix :
    readRleHeaderShipped [] = .panic ∧ readRleHeaderShipped [1, 0, 0, 0] = .panic ∧
    readRleHeaderFixed [] = .err ∧ readRleHeaderFixed [1, 0, 0, 0] = .err := by decide

end Dicom.C05
