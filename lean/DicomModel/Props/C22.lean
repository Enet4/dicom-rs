import DicomModel.Model.Lut
/-
C22 — Modality and VOI LUT outputs match the PS3.3 formulas.

The model (`Model/Lut.lean`) is generic over a record of arithmetic operations. Here it is
instantiated with exact rational arithmetic (`Rat`, core Lean), `exp` being an abstract function;
all theorems below are statements about exact arithmetic. That the `f64` evaluation of the same
expressions agrees with them up to rounding is *tested*, not proved: the correspondence run
evaluates the same generic model with `Float` and compares it bit for bit with the implementation
on every table entry (sigmoid: within 2 ulp), and compares the implementation with the exact value
within an explicit rounding bound.
-/
namespace Dicom.Lut

def ratOps (e : Rat → Rat) : Ops Rat where
  ofInt := fun n => (n : Rat)
  half := 1 / 2
  add := (· + ·)
  sub := (· - ·)
  mul := (· * ·)
  div := (· / ·)
  le := fun a b => decide (a ≤ b)
  lt := fun a b => decide (a < b)
  max := fun a b => if a ≤ b then b else a
  exp := e
  trunc := fun v => if 0 ≤ v then v.floor else -((-v).floor)
  toF32 := id

theorem div_bounds (n D : Rat) (hD : 0 < D) (h1 : -(D / 2) < n) (h2 : n ≤ D / 2) :
    -(1 / 2) < n / D ∧ n / D ≤ 1 / 2 := by
  have hi : 0 < D⁻¹ := Rat.inv_pos.mpr hD
  have e : D / 2 * D⁻¹ = 1 / 2 := by
    rw [Rat.div_def, Rat.mul_comm D, Rat.mul_assoc, Rat.mul_inv_cancel D (Rat.ne_of_gt hD), Rat.mul_one,
      Rat.div_def, Rat.one_mul]
  rw [Rat.div_def n D]
  constructor
  · have h := Rat.mul_lt_mul_of_pos_right h1 hi
    rwa [Rat.neg_mul, e] at h
  · have h := Rat.mul_le_mul_of_nonneg_right h2 (Rat.le_of_lt hi)
    rwa [e] at h

theorem div_mono (a b D : Rat) (hD : 0 < D) (h : a ≤ b) : a / D ≤ b / D := by
  rw [Rat.div_def a D, Rat.div_def b D]
  exact Rat.mul_le_mul_of_nonneg_right h (Rat.le_of_lt (Rat.inv_pos.mpr hD))

theorem inv_anti (a b : Rat) (hb : 0 < b) (hab : b ≤ a) : a⁻¹ ≤ b⁻¹ := by
  have ha : 0 < a := Std.lt_of_lt_of_le hb hab
  -- multiply `b ≤ a` by `a⁻¹ * b⁻¹`
  have h : b * (a⁻¹ * b⁻¹) ≤ a * (a⁻¹ * b⁻¹) :=
    Rat.mul_le_mul_of_nonneg_right hab
      (Rat.le_of_lt (Rat.mul_pos (Rat.inv_pos.mpr ha) (Rat.inv_pos.mpr hb)))
  rwa [Rat.mul_comm a⁻¹, ← Rat.mul_assoc, Rat.mul_inv_cancel b (Rat.ne_of_gt hb), Rat.one_mul,
    Rat.mul_comm b⁻¹, ← Rat.mul_assoc, Rat.mul_inv_cancel a (Rat.ne_of_gt ha), Rat.one_mul] at h

-- the integer literals of the model (`o.ofInt n`), read in `Rat`
theorem c0 : ((0 : Int) : Rat) = 0 := rfl
theorem c1 : ((1 : Int) : Rat) = 1 := rfl
theorem c2 : ((2 : Int) : Rat) = 2 := rfl
theorem cm4 : ((-4 : Int) : Rat) = -4 := rfl

/-! ### Integer logic: table index ↔ stored value -/

theorem pow_eq_double (bits : Nat) (h : 1 ≤ bits) : 2 ^ bits = 2 ^ (bits - 1) * 2 := by
  rw [← Nat.pow_succ, Nat.succ_eq_add_one, Nat.sub_add_cancel h]

theorem half_pow (bits : Nat) (h : 1 ≤ bits) : 2 ^ bits / 2 = 2 ^ (bits - 1) := by
  rw [pow_eq_double bits h, Nat.mul_div_cancel _ (by decide)]

/-- **lut_index_signed**: table index `i` of a signed LUT stands for the two's complement value of
`i` in `bits` bits: indices below `2^(bits-1)` are themselves, the others are `i - 2^bits`; the
value is in `[-2^(bits-1), 2^(bits-1))`. Unsigned: the index itself. -/
theorem lut_index_signed (bits : Nat) (hb : 1 ≤ bits) (i : Nat) (hi : i < 2 ^ bits) :
    lutInput bits false i = i ∧
    lutInput bits true i = (if i < 2 ^ (bits - 1) then (i : Int) else (i : Int) - (2 ^ bits : Nat)) ∧
    -((2 ^ (bits - 1) : Nat) : Int) ≤ lutInput bits true i ∧ lutInput bits true i < ((2 ^ (bits - 1) : Nat) : Int) := by
  have h2 := pow_eq_double bits hb
  unfold lutInput
  rw [half_pow bits hb]
  generalize 2 ^ (bits - 1) = P at *
  rw [h2] at hi ⊢
  refine ⟨if_neg (fun h => Bool.noConfusion h.1), ?_⟩
  by_cases h : i < P
  · rw [if_neg (fun hc => absurd hc.2 (Nat.not_le.2 h)), if_pos h]; omega
  · rw [if_pos ⟨rfl, Nat.not_lt.1 h⟩, if_neg h]; omega

/-- **mask_ignores_high_bits**: bits of the sample above `bits_stored` do not influence `Lut::get` -/
theorem mask_ignores_high_bits {α : Type} (o : Ops α) (c : Cfg α) (t : OutT) (sample high : Nat) :
    lutGet o c t (sample + high * 2 ^ c.bitsStored) = lutGet o c t sample := by
  simp [lutGet, sampleIndex, Nat.add_mul_mod_self_right]

/-- **sample_value_stored**: the input value of the table entry selected by a sample is the stored
value as the property reads it (low `bits` bits, two's complement when signed) -/
theorem sample_value_stored (bits : Nat) (hb : 1 ≤ bits) (signed : Bool) (sample : Nat) :
    lutInput bits signed (sampleIndex bits sample) = storedValue bits signed sample := by
  simp [lutInput, sampleIndex, storedValue, half_pow bits hb]

/-- for an image with 16 bits allocated the table is built for the image's bits stored; with 8 bits
allocated likewise (bits stored 1..8) -/
theorem lutBitsFor_eq (alloc stored : Nat) (h1 : 1 ≤ stored) (h2 : stored ≤ alloc) (ha : alloc = 8 ∨ alloc = 16) :
    lutBitsFor alloc stored = stored := by
  unfold lutBitsFor
  rcases ha with h | h <;> subst h <;> simp <;> repeat (first | omega | split)

/-! ### Default pipeline: rescale only -/

/-- **default_is_affine**: with the default pipeline (Modality LUT only) the table entry selected
by a sample is `slope * v + intercept`, `v` the stored value -/
theorem default_is_affine (e : Rat → Rat) (c : Cfg Rat) (hk : c.kind = .rescaleOnly) (hb : 1 ≤ c.bitsStored)
    (sample : Nat) :
    lutValue (ratOps e) c (sampleIndex c.bitsStored sample)
      = c.slope * (storedValue c.bitsStored c.signed sample : Int) + c.intercept := by
  simp [lutValue, lutFn, hk, rescale, ratOps, sample_value_stored _ hb]

/-- … and `Lut<f64>::get` returns exactly that value -/
theorem default_get_f64 (e : Rat → Rat) (c : Cfg Rat) (hk : c.kind = .rescaleOnly) (hb : 1 ≤ c.bitsStored)
    (sample : Nat) :
    lutGet (ratOps e) c .f64 sample
      = some (.flt (c.slope * (storedValue c.bitsStored c.signed sample : Int) + c.intercept)) := by
  have h := default_is_affine e c hk hb sample
  simp only [lutGet, lutEntry, convert, OutT.bounds]
  rw [h]; simp

/-! ### PS3.3 C.11.2.1.2.1 / C.11.2.1.3.2, transcribed from the standard -/

def ps33Linear (c w ymin ymax x : Rat) : Rat :=
  if x ≤ c - 1/2 - (w - 1) / 2 then ymin
  else if x > c - 1/2 + (w - 1) / 2 then ymax
  else ((x - (c - 1/2)) / (w - 1) + 1/2) * (ymax - ymin) + ymin

def ps33LinearExact (c w ymin ymax x : Rat) : Rat :=
  if x ≤ c - w / 2 then ymin
  else if x > c + w / 2 then ymax
  else ((x - c) / w + 1/2) * (ymax - ymin) + ymin

/-- effective window width: `WindowLevelTransform::new` clamps it -/
def effWidth (fn : VoiFn) (w : Rat) : Rat :=
  match fn with
  | .linearExact => if w ≤ 0 then 0 else w
  | _ => if w ≤ 1 then 1 else w

theorem clampWidth_eq (e : Rat → Rat) (fn : VoiFn) (w : Rat) : clampWidth (ratOps e) fn w = effWidth fn w := by
  cases fn <;> simp [clampWidth, effWidth, ratOps]

/-- LINEAR is LINEAR_EXACT with the center moved down by one half and the width reduced by one,
in the code and in the standard alike -/
theorem windowLinear_eq_exact {α : Type} (o : Ops α) (x ww wc ymax : α) :
    windowLinear o x ww wc ymax = windowLinearExact o x (o.sub ww (o.ofInt 1)) (o.sub wc o.half) ymax := rfl

theorem ps33Linear_eq_exact (c w ymin ymax x : Rat) :
    ps33Linear c w ymin ymax x = ps33LinearExact (c - 1/2) (w - 1) ymin ymax x := rfl

theorem windowLinearExact_eq (e : Rat → Rat) (x w c ymax : Rat) :
    windowLinearExact (ratOps e) x w c ymax = ps33LinearExact c w 0 ymax x := by
  simp only [windowLinearExact, ps33LinearExact, ratOps, decide_eq_true_eq, c0, c2,
    Rat.sub_eq_add_neg, Rat.neg_zero, Rat.add_zero]

/-- **linear_matches_C11_2_1_2**: the LINEAR window function of the code is the function of
PS3.3 C.11.2.1.2.1 with `ymin = 0` (and the width clamped to at least 1) -/
theorem linear_matches_C11_2_1_2 (e : Rat → Rat) (w c x ymax : Rat) :
    applyWindow (ratOps e) .linear w c x ymax = ps33Linear c (effWidth .linear w) 0 ymax x := by
  rw [ps33Linear_eq_exact, ← windowLinearExact_eq e, ← clampWidth_eq e]
  exact windowLinear_eq_exact _ _ _ _ _

/-- **linear_exact_matches_C11_2_1_3**: likewise LINEAR_EXACT and C.11.2.1.3.2 (width clamped to
at least 0) -/
theorem linear_exact_matches_C11_2_1_3 (e : Rat → Rat) (w c x ymax : Rat) :
    applyWindow (ratOps e) .linearExact w c x ymax = ps33LinearExact c (effWidth .linearExact w) 0 ymax x := by
  rw [← windowLinearExact_eq e, ← clampWidth_eq e]; rfl

/-! ### Range and monotonicity of the linear functions (exact arithmetic) -/

theorem effWidth_ge_one (fn : VoiFn) (hfn : fn ≠ .linearExact) (w : Rat) : 1 ≤ effWidth fn w := by
  cases fn with
  | linearExact => exact absurd rfl hfn
  | linear | sigmoid => unfold effWidth; split <;> grind

theorem effWidth_linear_ge (w : Rat) : 1 ≤ effWidth .linear w := effWidth_ge_one .linear (by decide) w

theorem effWidth_exact_ge (w : Rat) : 0 ≤ effWidth .linearExact w := by
  unfold effWidth; split <;> grind

theorem ramp_mid {c w x : Rat} (h1 : ¬ x ≤ c - w / 2) (h2 : ¬ x > c + w / 2) :
    0 < w ∧ 0 ≤ (x - c) / w + 1/2 ∧ (x - c) / w + 1/2 ≤ 1 := by
  have ⟨hw, hl, hu⟩ : 0 < w ∧ -(w / 2) < x - c ∧ x - c ≤ w / 2 := by grind
  have hb := div_bounds (x - c) w hw hl hu
  exact ⟨hw, by grind⟩

theorem ps33LinearExact_range (c w ymin ymax x : Rat) (hy : ymin ≤ ymax) :
    ymin ≤ ps33LinearExact c w ymin ymax x ∧ ps33LinearExact c w ymin ymax x ≤ ymax := by
  unfold ps33LinearExact
  split
  · exact ⟨Rat.le_refl, hy⟩
  · split
    · exact ⟨hy, Rat.le_refl⟩
    · next h1 h2 =>
      obtain ⟨_, h0, h1'⟩ := ramp_mid h1 h2
      have hd : 0 ≤ ymax - ymin := by grind
      have m1 := Rat.mul_nonneg h0 hd
      have m2 := Rat.mul_le_mul_of_nonneg_right h1' hd
      grind

/-- the three branches are in ascending order, and between the thresholds the ramp grows with `x` -/
theorem ps33LinearExact_mono (c w ymin ymax x1 x2 : Rat) (hy : ymin ≤ ymax) (hx : x1 ≤ x2) :
    ps33LinearExact c w ymin ymax x1 ≤ ps33LinearExact c w ymin ymax x2 := by
  have r1 := ps33LinearExact_range c w ymin ymax x1 hy
  have r2 := ps33LinearExact_range c w ymin ymax x2 hy
  unfold ps33LinearExact at r1 r2 ⊢
  by_cases a1 : x1 ≤ c - w / 2
  · rw [if_pos a1]; exact r2.1
  · have a2 : ¬ x2 ≤ c - w / 2 := fun h => a1 (Rat.le_trans hx h)
    rw [if_neg a2]
    by_cases b2 : x2 > c + w / 2
    · rw [if_pos b2]; exact r1.2
    · have b1 : ¬ x1 > c + w / 2 := Rat.not_lt.2 (Rat.le_trans hx (Rat.not_lt.1 b2))
      rw [if_neg a1, if_neg b1, if_neg b2]
      have hd := div_mono (x1 - c) (x2 - c) w (ramp_mid a1 b1).1 (by grind)
      have hm := Rat.mul_le_mul_of_nonneg_right (c := ymax - ymin)
        (Rat.add_le_add_right (c := 1/2) |>.2 hd) (by grind)
      exact Rat.add_le_add_right.2 hm

/-- **in_range**: a windowed value (LINEAR or LINEAR_EXACT, any width — it is clamped — and any
center) lies in `[0, ymax]` -/
theorem in_range (e : Rat → Rat) (fn : VoiFn) (hfn : fn ≠ .sigmoid) (w c x ymax : Rat) (hy : 0 ≤ ymax) :
    0 ≤ applyWindow (ratOps e) fn w c x ymax ∧ applyWindow (ratOps e) fn w c x ymax ≤ ymax := by
  cases fn with
  | linear => rw [linear_matches_C11_2_1_2]; exact ps33LinearExact_range _ _ _ _ _ hy
  | linearExact => rw [linear_exact_matches_C11_2_1_3]; exact ps33LinearExact_range _ _ _ _ _ hy
  | sigmoid => exact absurd rfl hfn

/-- the window functions LINEAR and LINEAR_EXACT never decrease -/
theorem window_mono (e : Rat → Rat) (fn : VoiFn) (hfn : fn ≠ .sigmoid) (w c ymax x1 x2 : Rat)
    (hy : 0 ≤ ymax) (hx : x1 ≤ x2) :
    applyWindow (ratOps e) fn w c x1 ymax ≤ applyWindow (ratOps e) fn w c x2 ymax := by
  cases fn with
  | linear =>
    rw [linear_matches_C11_2_1_2, linear_matches_C11_2_1_2]
    exact ps33LinearExact_mono _ _ _ _ _ _ hy hx
  | linearExact =>
    rw [linear_exact_matches_C11_2_1_3, linear_exact_matches_C11_2_1_3]
    exact ps33LinearExact_mono _ _ _ _ _ _ hy hx
  | sigmoid => exact absurd rfl hfn

theorem rescale_mono (e : Rat → Rat) (s i x1 x2 : Rat) (hs : 0 ≤ s) (hx : x1 ≤ x2) :
    rescale (ratOps e) s i x1 ≤ rescale (ratOps e) s i x2 := by
  simp only [rescale, ratOps]
  have := Rat.mul_le_mul_of_nonneg_right hx hs
  grind

theorem yMax_nonneg (bits : Nat) : (0 : Rat) ≤ ((yMax bits : Int) : Rat) := by
  have h : (0 : Int) < 2 ^ nextPow2 bits := Int.pow_pos (by decide)
  exact Rat.intCast_nonneg.2 (Int.le_sub_one_of_lt h)

/-- **monotone**: for the linear functions (rescale only, LINEAR, LINEAR_EXACT) and a
non-negative slope, the value computed for a stored value never decreases as the stored value
increases — for every `Lut` constructor -/
theorem monotone (e : Rat → Rat) (c : Cfg Rat) (hfn : c.fn ≠ .sigmoid) (hs : 0 ≤ c.slope)
    (x1 x2 : Rat) (hx : x1 ≤ x2) :
    lutFn (ratOps e) c x1 ≤ lutFn (ratOps e) c x2 := by
  have h255 : (0 : Rat) ≤ (ratOps e).ofInt 255 := by simp [ratOps]; decide
  have hym : (0 : Rat) ≤ (ratOps e).ofInt (yMax c.bitsStored) := yMax_nonneg _
  unfold lutFn
  cases c.kind with
  | rescaleOnly => exact rescale_mono e _ _ _ _ hs hx
  | rescaleWindow => exact window_mono e _ hfn _ _ _ _ _ hym (rescale_mono e _ _ _ _ hs hx)
  | windowOnly => exact window_mono e _ hfn _ _ _ _ _ hym hx
  | rescaleWindow8 => exact window_mono e _ hfn _ _ _ _ _ h255 (rescale_mono e _ _ _ _ hs hx)
  | window8 => exact window_mono e _ hfn _ _ _ _ _ h255 hx

/-- … in terms of table entries: a larger stored value never gets a smaller table value -/
theorem monotone_entries (e : Rat → Rat) (c : Cfg Rat) (hfn : c.fn ≠ .sigmoid) (hs : 0 ≤ c.slope)
    (i j : Nat) (h : lutInput c.bitsStored c.signed i ≤ lutInput c.bitsStored c.signed j) :
    lutValue (ratOps e) c i ≤ lutValue (ratOps e) c j := by
  unfold lutValue
  apply monotone e c hfn hs
  simp only [ratOps]
  exact_mod_cast h

/-! ### Sigmoid over an abstract, positive, monotone `exp` -/

theorem one_le_one_add (E : Rat) (hE : 0 < E) : 1 ≤ 1 + E := by
  have h := Rat.add_le_add_left (c := 1) |>.2 (Rat.le_of_lt hE)
  rwa [Rat.add_zero] at h

theorem sigmoid_core_range (E ymax : Rat) (hE : 0 < E) (hy : 0 ≤ ymax) :
    0 ≤ ymax / (1 + E) ∧ ymax / (1 + E) ≤ ymax := by
  have h1 := one_le_one_add E hE
  have hi : 0 < (1 + E)⁻¹ := Rat.inv_pos.mpr (Std.lt_of_lt_of_le (by decide) h1)
  rw [Rat.div_def]
  refine ⟨Rat.mul_nonneg hy (Rat.le_of_lt hi), ?_⟩
  have h := Rat.mul_le_mul_of_nonneg_left (inv_anti (1 + E) 1 (by decide) h1) hy
  rwa [Rat.inv_eq_of_mul_eq_one (Rat.mul_one 1), Rat.mul_one] at h

theorem sigmoid_core_mono (E1 E2 ymax : Rat) (h2 : 0 < E2) (h : E2 ≤ E1) (hy : 0 ≤ ymax) :
    ymax / (1 + E1) ≤ ymax / (1 + E2) := by
  have hp : 0 < 1 + E2 := Std.lt_of_lt_of_le (by decide) (one_le_one_add E2 h2)
  rw [Rat.div_def, Rat.div_def]
  exact Rat.mul_le_mul_of_nonneg_left (inv_anti _ _ hp (Rat.add_le_add_left.2 h)) hy

/-- **sigmoid_range**: `0 ≤ ymax / (1 + exp(-4 (x - c) / w)) ≤ ymax` whenever `exp` is positive -/
theorem sigmoid_range (e : Rat → Rat) (hpos : ∀ t, 0 < e t) (w c x ymax : Rat) (hy : 0 ≤ ymax) :
    0 ≤ applyWindow (ratOps e) .sigmoid w c x ymax ∧ applyWindow (ratOps e) .sigmoid w c x ymax ≤ ymax := by
  simp only [applyWindow, windowSigmoid, ratOps, c1]
  exact sigmoid_core_range _ _ (hpos _) hy

/-- **sigmoid_monotone**: for a positive, non-decreasing `exp` the SIGMOID function never decreases -/
theorem sigmoid_monotone (e : Rat → Rat) (hpos : ∀ t, 0 < e t) (hmono : ∀ a b, a ≤ b → e a ≤ e b)
    (w c ymax x1 x2 : Rat) (hy : 0 ≤ ymax) (hx : x1 ≤ x2) :
    applyWindow (ratOps e) .sigmoid w c x1 ymax ≤ applyWindow (ratOps e) .sigmoid w c x2 ymax := by
  simp only [applyWindow, windowSigmoid, clampWidth_eq]
  simp only [ratOps, c1, cm4]
  have hw : 0 < effWidth .sigmoid w := Std.lt_of_lt_of_le (by decide) (effWidth_ge_one .sigmoid (by decide) w)
  -- the exponent `-4 (x - c) / w` falls as `x` grows
  have ht : -4 * (x2 - c) / effWidth .sigmoid w ≤ -4 * (x1 - c) / effWidth .sigmoid w :=
    div_mono _ _ _ hw (by grind)
  exact sigmoid_core_mono _ _ ymax (hpos _) (hmono _ _ ht) hy

/-! ### Non-vacuity: the PS3.3 example (C.11.2.1.2.1: c = 2048, w = 4096, 8-bit output) -/

example : ps33Linear 2048 4096 0 255 0 = 0 ∧ ps33Linear 2048 4096 0 255 4096 = 255 ∧
    ps33Linear 2048 4096 0 255 (4095 / 2) = 255 / 2 := by
  decide +kernel

example : storedValue 12 true 0xFFF = -1 ∧ storedValue 12 true 0xF800 = -2048 ∧
    storedValue 12 false 0xF800 = 2048 := by decide

end Dicom.Lut
