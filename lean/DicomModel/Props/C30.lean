import DicomModel.Model.Release
/-
C30 — association release and abort follow the upper-layer protocol.

`Reachable` is the set of all states the two peers and the two channels can get into under ANY
interleaving of their actions (`Model/Release.lean`). `Inv` is an inductive invariant; the
statement's four clauses are corollaries for every reachable state:
* `release_completes_only_after_reply`
* `failure_during_release_closes` (+ `terminal_is_closed`)
* `nothing_follows_release` / `no_send_after_completed_release`
* `release_request_is_answered` / `replying_must_reply`
-/
namespace Dicom.Release

def Clean (T : List Msg) : Prop := ∀ m ∈ T, m = .data ∨ m = .other

/-- data / other PDUs, then exactly one `x`, then nothing -/
def EndsWith (T : List Msg) (x : Msg) : Prop := ∃ pre, Clean pre ∧ T = pre ++ [x]

/-- the state tells which control PDU, if any, a peer has sent, and that it was the last -/
def OutShape : PState → List Msg → Prop
  | .established, T | .replying, T | .peerAborted, T | .closed, T => Clean T
  | .awaitingRP, T | .released, T | .failed, T => EndsWith T .releaseRQ
  | .replied, T | .repliedClosed, T => EndsWith T .releaseRP
  | .aborted, T => EndsWith T .abort

def Replyish (st : PState) : Prop := st = .replying ∨ st = .replied ∨ st = .repliedClosed

instance (st : PState) : Decidable (Replyish st) := by unfold Replyish; infer_instance

/-- the requestor-side half of the invariant (the other half is the same on `s.swap`) -/
structure Half (s : Sys) : Prop where
  inflight : ∃ done, s.tRA = done ++ s.ra
  shape : OutShape s.r s.tRA
  replyish : Replyish s.r → EndsWith s.tAR .releaseRQ ∧ s.ar = []
  got : s.gotRQr = true ↔ Replyish s.r
  released : s.r = .released → s.a = .replied ∨ s.a = .repliedClosed

def Inv (s : Sys) : Prop := Half s ∧ Half s.swap

theorem swap_swap (s : Sys) : s.swap.swap = s := rfl

theorem inv_swap {s : Sys} (h : Inv s) : Inv s.swap := ⟨h.2, by rw [swap_swap]; exact h.1⟩

theorem clean_append {T : List Msg} {m : Msg} (h : Clean T) (hm : m = .data ∨ m = .other) :
    Clean (T ++ [m]) := by
  intro x hx
  simp only [List.mem_append, List.mem_singleton] at hx
  rcases hx with hx | hx
  · exact h x hx
  · subst hx; exact hm

theorem clean_not {T : List Msg} (h : Clean T) {x : Msg} (hx : x ∈ T) :
    x ≠ .releaseRQ ∧ x ≠ .releaseRP ∧ x ≠ .abort := by
  rcases h x hx with h | h <;> subst h <;> simp

theorem endsWith_mem {T : List Msg} {x y : Msg} (h : EndsWith T x) (hy : y ∈ T)
    (hn : y ≠ .data ∧ y ≠ .other) : y = x := by
  obtain ⟨pre, hc, rfl⟩ := h
  simp only [List.mem_append, List.mem_singleton] at hy
  rcases hy with hy | hy
  · rcases hc y hy with h | h
    · exact absurd h hn.1
    · exact absurd h hn.2
  · exact hy

theorem shape_of_mem {st : PState} {T : List Msg} (h : OutShape st T) {y : Msg} (hy : y ∈ T)
    (hn : y ≠ .data ∧ y ≠ .other) :
    EndsWith T y ∧
    (y = .releaseRQ → st = .awaitingRP ∨ st = .released ∨ st = .failed) ∧
    (y = .releaseRP → st = .replied ∨ st = .repliedClosed) := by
  cases st <;> simp only [OutShape] at h
  all_goals first
    | (rcases h y hy with h' | h'
       · exact absurd h' hn.1
       · exact absurd h' hn.2)
    | (have e := endsWith_mem h hy hn
       subst e
       refine ⟨h, ?_, ?_⟩ <;> intro h' <;> simp_all)

/-- in flight `x :: rest`, everything sent `pre ++ [x']` with `x` not in `pre`: `x` is the last
thing sent and nothing follows it -/
theorem last_in_flight {done pre rest : List Msg} {x x' : Msg}
    (h : done ++ x :: rest = pre ++ [x']) (hx : x ∉ pre) : rest = [] := by
  rcases List.append_eq_append_iff.mp h with ⟨a', h1, h2⟩ | ⟨c', h1, h2⟩
  · cases a' with
    | nil => simp at h2; exact h2.2
    | cons y ys =>
      simp only [List.cons_append, List.cons.injEq] at h2
      exact absurd (by rw [h1, h2.1]; simp) hx
  · cases c' with
    | nil => simp at h2; exact h2.2
    | cons y ys =>
      have := congrArg List.length h2
      simp at this

/-! ### the invariant is inductive -/

theorem inv_init : Inv init := by
  constructor <;>
  exact ⟨⟨[], rfl⟩, by simp [OutShape, init, Sys.swap, Clean], by simp [Replyish, init, Sys.swap],
    by simp [Replyish, init, Sys.swap], by simp [init, Sys.swap]⟩

/-- while this side's trace is clean the other side has neither answered nor completed a release -/
theorem other_idle {s : Sys} (h : Inv s) (hclean : Clean s.tRA) :
    ¬ Replyish s.a ∧ s.a ≠ .released := by
  obtain ⟨hR, hA⟩ := h
  constructor
  · intro hr
    obtain ⟨⟨pre, _, hpre⟩, _⟩ := hA.replyish hr
    have : Msg.releaseRQ ∈ s.tRA := by
      have e : s.swap.tAR = s.tRA := rfl
      rw [← e, hpre]; simp
    exact (clean_not hclean this).1 rfl
  · intro hr
    have h1 := hA.released hr
    have e : s.swap.a = s.r := rfl
    rw [e] at h1
    have hs := hR.shape
    rcases h1 with h1 | h1 <;>
    · simp only [h1, OutShape] at hs
      obtain ⟨pre, _, hpre⟩ := hs
      have : Msg.releaseRP ∈ s.tRA := by rw [hpre]; simp
      exact (clean_not hclean this).2.1 rfl

theorem shape_clean_of_established {s : Sys} (h : Inv s) (he : s.r = .established ∨ s.r = .replying) :
    Clean s.tRA := by
  have := h.1.shape
  rcases he with he | he <;> simpa [he, OutShape] using this

theorem not_replyish_established : ¬ Replyish .established := by simp [Replyish]

/-- sending from a state whose own trace is still clean -/
theorem send_preserves {s s' : Sys} (h : Inv s) {g st : PState} {m : Msg}
    (hs : (if s.r = g then some (s.sendR m st) else none) = some s')
    (hg : g = .established ∨ g = .replying)
    (hshape : ∀ T, Clean T → OutShape st (T ++ [m]))
    (hrep : Replyish st ↔ Replyish g) (hrel : st ≠ .released) : Inv s' := by
  split at hs
  · next he =>
    cases hs
    have hclean := shape_clean_of_established h (he ▸ hg)
    obtain ⟨hidle1, hidle2⟩ := other_idle h hclean
    obtain ⟨hR, hA⟩ := h
    obtain ⟨d, hd⟩ := hR.inflight
    exact ⟨⟨⟨d, by simp [Sys.sendR, hd]⟩, hshape _ hclean, fun hr => hR.replyish (he ▸ hrep.mp hr),
        hR.got.trans (he ▸ hrep.symm), fun hr => absurd hr hrel⟩,
      ⟨hA.inflight, hA.shape, fun hr => absurd hr hidle1, hA.got, fun hr => absurd hr hidle2⟩⟩
  · cases hs

/-- the other side's half needs a reason for its `released` clause only -/
theorem half_swap_recv {s : Sys} (hA : Half s.swap) (st : PState) (taken rest : List Msg) (g : Bool)
    (har : s.ar = taken ++ rest)
    (hrel : s.a = .released → st = .replied ∨ st = .repliedClosed) :
    Half ({ s with r := st, ar := rest, gotRQr := g }).swap := by
  obtain ⟨done, hdone⟩ := hA.inflight
  refine ⟨⟨done ++ taken, ?_⟩, hA.shape, hA.replyish, hA.got, hrel⟩
  show s.tAR = done ++ taken ++ rest
  rw [List.append_assoc, ← har]
  exact hdone

theorem stepR_preserves {s s' : Sys} (a : Act) (h : Inv s) (hs : stepR s a = some s') : Inv s' := by
  cases a with
  | sendData =>
    exact send_preserves h hs (.inl rfl) (fun _ hc => clean_append hc (.inl rfl))
      (by simp [Replyish]) (by simp)
  | sendOther =>
    exact send_preserves h hs (.inl rfl) (fun _ hc => clean_append hc (.inr rfl))
      (by simp [Replyish]) (by simp)
  | release =>
    exact send_preserves h hs (.inl rfl) (fun T hc => ⟨T, hc, rfl⟩) (by simp [Replyish]) (by simp)
  | abort =>
    exact send_preserves h hs (.inl rfl) (fun T hc => ⟨T, hc, rfl⟩) (by simp [Replyish]) (by simp)
  | reply =>
    exact send_preserves h hs (.inr rfl) (fun T hc => ⟨T, hc, rfl⟩) (by simp [Replyish]) (by simp)
  | close =>
    obtain ⟨hR, hA⟩ := h
    simp only [stepR] at hs
    split at hs
    · next he =>
      cases hs
      exact ⟨⟨hR.inflight, by simpa [he, OutShape] using hR.shape, by simp [Replyish],
          by simpa [he, Replyish] using hR.got, nofun⟩,
        half_swap_recv hA .closed [] s.ar s.gotRQr rfl
          fun hr => absurd (hA.released hr) (by simp [Sys.swap, he])⟩
    · split at hs
      · next he =>
        cases hs
        exact ⟨⟨hR.inflight, by simpa [he, OutShape] using hR.shape,
            fun _ => hR.replyish (by simp [Replyish, he]), by simpa [he, Replyish] using hR.got, nofun⟩,
          half_swap_recv hA .repliedClosed [] s.ar s.gotRQr rfl fun _ => .inr rfl⟩
      · cases hs
  | recv =>
    obtain ⟨hR, hA⟩ := h
    have hAshape : OutShape s.a s.tAR := hA.shape
    -- in both receiving states this side is not replying, and the other cannot have completed
    have hrecv : s.r = .established ∨ s.r = .awaitingRP → s.gotRQr = false ∧ s.a ≠ .released := by
      intro he
      constructor
      · have := hR.got
        rcases he with he | he <;> simpa [he, Replyish] using this
      · intro hr
        have := hA.released hr
        rcases he with he | he <;> simp [Sys.swap, he] at this
    have hhead : ∀ m rest, s.ar = m :: rest → m ∈ s.tAR := by
      intro m rest har
      obtain ⟨done, hdone⟩ := hA.inflight
      have : s.tAR = done ++ s.ar := hdone
      simp [this, har]
    simp only [stepR] at hs
    split at hs
    · next he =>
      -- established: the storescp-style loop takes the next PDU
      obtain ⟨hgot, hnrel⟩ := hrecv (.inl he)
      have hclean : Clean s.tRA := by simpa [he, OutShape] using hR.shape
      cases har : s.ar with
      | nil =>
        simp only [har] at hs
        split at hs
        · cases hs
          exact ⟨⟨hR.inflight, hclean, by simp [Replyish], by simp [Replyish, hgot], nofun⟩,
            half_swap_recv hA .closed [] [] s.gotRQr har fun hr => absurd hr hnrel⟩
        · cases hs
      | cons m rest =>
        simp only [har] at hs
        cases hs
        have hmem := hhead m rest har
        refine ⟨⟨hR.inflight, ?_, ?_, ?_, ?_⟩,
          half_swap_recv hA _ [m] rest _ har fun hr => absurd hr hnrel⟩
        · cases m <;> simpa [onRecvEstablished, OutShape] using hclean
        · intro hr
          have hm : m = .releaseRQ := by
            cases m <;> simp [onRecvEstablished, Replyish] at hr ⊢
          subst hm
          obtain ⟨hends, _, _⟩ := shape_of_mem hAshape hmem (by simp)
          refine ⟨hends, ?_⟩
          obtain ⟨pre, hpc, hpre⟩ := hends
          obtain ⟨done, hdone⟩ := hA.inflight
          have : done ++ .releaseRQ :: rest = pre ++ [.releaseRQ] := by
            rw [← hpre, ← har]
            exact hdone.symm
          exact last_in_flight this fun hx => (clean_not hpc hx).1 rfl
        · cases m <;> simp [onRecvEstablished, Replyish, hgot]
        · intro hr
          cases m <;> simp [onRecvEstablished] at hr
    · split at hs
      · next he =>
        -- inside release(): waiting for the reply
        obtain ⟨hgot, hnrel⟩ := hrecv (.inr he)
        have hshape : EndsWith s.tRA .releaseRQ := by simpa [he, OutShape] using hR.shape
        cases har : s.ar with
        | nil =>
          simp only [har] at hs
          split at hs
          · cases hs
            exact ⟨⟨hR.inflight, hshape, by simp [Replyish], by simp [Replyish, hgot], nofun⟩,
              half_swap_recv hA .failed [] [] s.gotRQr har fun hr => absurd hr hnrel⟩
          · cases hs
        | cons m rest =>
          simp only [har] at hs
          cases hs
          have hmem := hhead m rest har
          refine ⟨⟨hR.inflight, ?_, ?_, ?_, ?_⟩,
            half_swap_recv hA _ [m] rest s.gotRQr har fun hr => absurd hr hnrel⟩
          · cases m <;> simpa [onRecvAwaiting, OutShape] using hshape
          · intro hr
            cases m <;> simp [onRecvAwaiting, Replyish] at hr
          · cases m <;> simp [onRecvAwaiting, Replyish, hgot]
          · intro hr
            have hm : m = .releaseRP := by
              cases m <;> simp [onRecvAwaiting] at hr ⊢
            subst hm
            exact (shape_of_mem hAshape hmem (by simp)).2.2 rfl
      · cases hs

theorem step_preserves {s s' : Sys} (p : Peer) (a : Act) (h : Inv s) (hs : step s p a = some s') :
    Inv s' := by
  cases p with
  | R => exact stepR_preserves a h hs
  | A =>
    simp only [step, Option.map_eq_some_iff] at hs
    obtain ⟨t, ht, rfl⟩ := hs
    exact inv_swap (stepR_preserves a (inv_swap h) ht)

theorem reachable_inv {s : Sys} (h : Reachable s) : Inv s := by
  induction h with
  | init => exact inv_init
  | step p a _ hs ih => exact step_preserves p a ih hs

/-! ### the four clauses of the statement -/

/-- state of a peer, its trace, the other's -/
def Sys.st (s : Sys) : Peer → PState
  | .R => s.r
  | .A => s.a
def Sys.sent (s : Sys) : Peer → List Msg
  | .R => s.tRA
  | .A => s.tAR
def Peer.other : Peer → Peer
  | .R => .A
  | .A => .R

/-- for `recv` there must also be something to read -/
def enabled : List (PState × Act) :=
  [(.established, .sendData), (.established, .sendOther), (.established, .release),
   (.established, .abort), (.replying, .reply), (.established, .close), (.replied, .close),
   (.established, .recv), (.awaitingRP, .recv)]

theorem stepR_none {s : Sys} {a : Act} (h : (s.r, a) ∉ enabled) : stepR s a = none := by
  cases a <;> simp [enabled] at h <;> simp [stepR, h]

theorem step_none {s : Sys} {p : Peer} {a : Act} (h : (s.st p, a) ∉ enabled) :
    step s p a = none := by
  cases p with
  | R => exact stepR_none h
  | A => simp [step, stepR_none (s := s.swap) h]

theorem step_closed {s : Sys} {p : Peer} (h : (s.st p).sockClosed = true) (a : Act) :
    step s p a = none :=
  step_none fun hm => by
    have : ∀ x ∈ enabled, x.1.sockClosed = false := by decide
    simp [this _ hm] at h

theorem inv_peer {s : Sys} (hi : Inv s) (p : Peer) :
    OutShape (s.st p) (s.sent p) ∧
    (s.st p = .released → s.st p.other = .replied ∨ s.st p.other = .repliedClosed) := by
  cases p
  · exact ⟨hi.1.shape, hi.1.released⟩
  · exact ⟨hi.2.shape, hi.2.released⟩

/-- **a release completes only after a release reply was received**: when `release()` has
returned `Ok` on one side, that side had sent exactly one A-RELEASE-RQ as its last PDU, the other
side took it out of the channel and answered with an A-RELEASE-RP as *its* last PDU — and the
completing step itself is the reception of that reply (`completion_is_reception`). -/
theorem release_completes_only_after_reply {s : Sys} (h : Reachable s) (p : Peer)
    (hrel : s.st p = .released) :
    EndsWith (s.sent p) .releaseRQ ∧ EndsWith (s.sent p.other) .releaseRP ∧
    (s.st p.other = .replied ∨ s.st p.other = .repliedClosed) := by
  have hi := reachable_inv h
  obtain ⟨h1, hr⟩ := inv_peer hi p
  have ho := hr hrel
  have h2 := (inv_peer hi p.other).1
  rw [hrel] at h1
  refine ⟨h1, ?_, ho⟩
  rcases ho with ho | ho
  · rwa [ho] at h2
  · rwa [ho] at h2

theorem stepR_released {s s' : Sys} (a : Act) (hs : stepR s a = some s')
    (_hb : s.r ≠ .released) (ha : s'.r = .released) :
    a = .recv ∧ s.r = .awaitingRP ∧ s.ar.head? = some .releaseRP := by
  cases a <;> simp only [stepR] at hs
  case recv =>
    split at hs
    · split at hs
      · next m _ _ =>
        cases hs
        cases m <;> simp [onRecvEstablished] at ha
      · split at hs <;> cases hs
        simp at ha
    · split at hs
      · next hw =>
        split at hs
        · next m _ har =>
          cases hs
          cases m <;> simp [onRecvAwaiting] at ha
          exact ⟨rfl, hw, by simp [har]⟩
        · split at hs <;> cases hs
          simp at ha
      · cases hs
  case close =>
    split at hs
    · cases hs; simp at ha
    · split at hs
      · cases hs; simp at ha
      · cases hs
  all_goals
    split at hs
    · cases hs; simp [Sys.sendR] at ha
    · cases hs

/-- the only step into `released` is the reception of an A-RELEASE-RP while waiting for it -/
theorem completion_is_reception {s s' : Sys} (p : Peer) (a : Act) (hs : step s p a = some s')
    (hbefore : s.st p ≠ .released) (hafter : s'.st p = .released) :
    a = .recv ∧ s.st p = .awaitingRP ∧ delivered s p = some .releaseRP := by
  cases p with
  | R => exact stepR_released a hs hbefore hafter
  | A =>
    simp only [step, Option.map_eq_some_iff] at hs
    obtain ⟨t, ht, rfl⟩ := hs
    exact stepR_released (s := s.swap) a ht hbefore hafter

theorem stepR_failure {s s' : Sys} (hs : stepR s .recv = some s')
    (hw : s.r = .awaitingRP) (hm : s.ar.head? ≠ some .releaseRP) : s'.r = .failed := by
  simp only [stepR, hw, ↓reduceIte, show (PState.awaitingRP = PState.established) = False by simp] at hs
  cases har : s.ar with
  | nil =>
    simp only [har] at hs
    split at hs <;> cases hs
    rfl
  | cons m rest =>
    simp only [har] at hs hm
    cases hs
    cases m <;> simp [onRecvAwaiting] at hm ⊢

/-- **an abort or unexpected PDU (or end of stream) during release ends the association with an
error and a closed connection**: whatever `release()` reads other than A-RELEASE-RP takes the
peer to `failed`, whose socket is closed, and nothing is enabled for it any more. -/
theorem failure_during_release_closes {s s' : Sys} (p : Peer) (hs : step s p .recv = some s')
    (hw : s.st p = .awaitingRP) (hm : delivered s p ≠ some .releaseRP) :
    s'.st p = .failed ∧ (s'.st p).sockClosed = true ∧ ∀ a, step s' p a = none := by
  have key : s'.st p = .failed := by
    cases p with
    | R => exact stepR_failure hs hw hm
    | A =>
      obtain ⟨t, ht, rfl⟩ := Option.map_eq_some_iff.mp hs
      exact stepR_failure (s := s.swap) ht hw hm
  have hc : (s'.st p).sockClosed = true := by rw [key]; rfl
  exact ⟨key, hc, step_closed hc⟩

/-- **nothing follows a release request, a release reply or an abort** on the wire, in either
direction, in any reachable state: what a peer has sent is data/other PDUs followed by at most
one of the three, as its last PDU. -/
theorem nothing_follows_release {s : Sys} (h : Reachable s) (p : Peer) (pre post : List Msg) (x : Msg)
    (hx : x = .releaseRQ ∨ x = .releaseRP ∨ x = .abort) (hsent : s.sent p = pre ++ x :: post) :
    post = [] ∧ Clean pre := by
  have hi := reachable_inv h
  have hshape := (inv_peer hi p).1
  have hmem : x ∈ s.sent p := by rw [hsent]; simp
  have hn : x ≠ .data ∧ x ≠ .other := by rcases hx with h | h | h <;> subst h <;> simp
  obtain ⟨⟨q, hq, hqe⟩, _, _⟩ := shape_of_mem hshape hmem hn
  rw [hsent] at hqe
  have hpost := last_in_flight hqe (fun hxq => by
    have := hq x hxq
    rcases this with h | h
    · exact hn.1 h
    · exact hn.2 h)
  subst hpost
  have := List.append_inj' hqe (by simp)
  exact ⟨rfl, this.1 ▸ hq⟩

/-- **no data transfer follows a completed release**: once `release()` has returned `Ok` on one
side, neither side can send anything any more. -/
theorem no_send_after_completed_release {s : Sys} (h : Reachable s) (p : Peer)
    (hrel : s.st p = .released) (q : Peer) (a : Act)
    (ha : a = .sendData ∨ a = .sendOther ∨ a = .release ∨ a = .abort ∨ a = .reply) :
    step s q a = none := by
  obtain ⟨_, _, ho⟩ := release_completes_only_after_reply h p hrel
  have hq : s.st q = .released ∨ s.st q = .replied ∨ s.st q = .repliedClosed := by
    cases p <;> cases q
    · exact .inl hrel
    · exact .inr ho
    · exact .inr ho
    · exact .inl hrel
  have hsend : ∀ x ∈ enabled, x.2 ≠ .recv → x.2 ≠ .close →
      x.1 = .established ∨ x.1 = .replying := by decide
  apply step_none
  intro hm
  have hst := hsend _ hm (by rcases ha with e | e | e | e | e <;> simp [e])
    (by rcases ha with e | e | e | e | e <;> simp [e])
  rcases hq with e | e | e <;> simp [e] at hst

/-- **an acceptor answers a release request with a release reply** (either role, as the machine
is the same): a peer that has taken an A-RELEASE-RQ out of its channel is about to reply or has
replied — and then the reply is the last PDU it sent. -/
theorem release_request_is_answered {s : Sys} (h : Reachable s) :
    (s.gotRQa = true → s.a = .replying ∨ EndsWith s.tAR .releaseRP) ∧
    (s.gotRQr = true → s.r = .replying ∨ EndsWith s.tRA .releaseRP) := by
  have answered {t : Sys} (ht : Half t) (hg : t.gotRQr = true) :
      t.r = .replying ∨ EndsWith t.tRA .releaseRP := by
    have hs := ht.shape
    rcases ht.got.mp hg with hr | hr | hr
    · exact .inl hr
    · right; rwa [hr] at hs
    · right; rwa [hr] at hs
  exact ⟨answered (reachable_inv h).2, answered (reachable_inv h).1⟩

/-- between taking the request and replying nothing else can be done by that peer, and replying
is always possible -/
theorem replying_must_reply (s : Sys) (p : Peer) (hr : s.st p = .replying) :
    (∃ s', step s p .reply = some s') ∧ ∀ a, a ≠ .reply → step s p a = none := by
  constructor
  · cases p with
    | R => exact ⟨_, if_pos hr⟩
    | A => exact ⟨_, congrArg (Option.map Sys.swap) (if_pos hr)⟩
  · intro a ha
    have honly : ∀ x ∈ enabled, x.1 = .replying → x.2 = .reply := by decide
    exact step_none fun hm => ha (honly _ hm hr)

/-- a failed, aborted or released peer has closed its socket and does nothing more -/
theorem terminal_is_closed (s : Sys) (p : Peer)
    (h : s.st p = .failed ∨ s.st p = .released ∨ s.st p = .aborted ∨ s.st p = .peerAborted) :
    (s.st p).sockClosed = true ∧ ∀ a, step s p a = none := by
  have hc : (s.st p).sockClosed = true := by
    rcases h with h | h | h | h <;> rw [h] <;> rfl
  exact ⟨hc, step_closed hc⟩

/-! ### non-vacuity: a completed release, a release collision and an abort during release are reachable -/

theorem reachable_of_run {s s' : Sys} (sched : List (Peer × Act)) (h : Reachable s)
    (hr : run s sched = some s') : Reachable s' := by
  induction sched generalizing s with
  | nil => simp [run] at hr; exact hr ▸ h
  | cons x xs ih =>
    obtain ⟨p, a⟩ := x
    simp only [run] at hr
    cases hst : step s p a with
    | none => simp [hst] at hr
    | some t =>
      simp only [hst] at hr
      exact ih (Reachable.step p a h hst) hr

example : ∃ s, Reachable s ∧ s.r = .released ∧ s.a = .repliedClosed :=
  ⟨_, reachable_of_run [(.R, .sendData), (.A, .recv), (.R, .release), (.A, .recv), (.A, .reply), (.R, .recv), (.A, .close)]
    Reachable.init rfl, rfl, rfl⟩
example : ∃ s, Reachable s ∧ s.r = .failed ∧ s.a = .failed :=
  ⟨_, reachable_of_run [(.R, .release), (.A, .release), (.A, .recv), (.R, .recv)] Reachable.init rfl, rfl, rfl⟩
example : ∃ s, Reachable s ∧ s.r = .failed ∧ s.a = .aborted :=
  ⟨_, reachable_of_run [(.A, .sendData), (.R, .release), (.A, .abort), (.R, .recv)] Reachable.init rfl, rfl, rfl⟩

end Dicom.Release
