/-
C15 — The standard data dictionary answers consistently for every tag and keyword.

Model: `Model/DictCore.lean` (`init_dictionary`, `indexed_tag`, `by_name`, the SOP class registry),
instantiated in `Model/Dict.lean` with the tables generated from `dictionary-std/src/{tags,uids}.rs`
by `translators/dict.py` (source order, nothing repaired).  `Lemmas/DictSpec.lean` proves the
refinement for *any* well-formed table; here the generated tables are shown well-formed (kernel
evaluation, using the translator's search trees only as certificates) and the statement's clauses
are instantiated.
-/
import DicomModel.Lemmas.DictSpec
import DicomModel.Model.Dict
import DicomModel.Gen.DictConsts
import DicomModel.Gen.DictCert
namespace Dicom.Dict

/-! ## the generated table is well-formed -/

theorem entries_keys_cert :
    checkIdx Gen.keyTree.find (Gen.entries.map Row.key) 0 = true := by decide +kernel

/-- no two `ENTRIES` rows have the same inner tag (so the order in which `init_dictionary` fills
the hash map does not matter) -/
theorem entries_keys_nodup : (Gen.entries.map Row.key).Nodup := nodup_of_checkIdx entries_keys_cert

/-! The keyword column is checked in four parts (21 of the table's 84 chunks at a time), each by a
kernel run of its own: numerals with the same low 64 bits share a hash value in the kernel's caches,
a quarter of the keywords end in "Sequence", and the cost of such a family grows with the square of
its size. A chunk has 64 rows, so the parts start at rows 0, 1344, 2688 and 4032. -/

theorem entries_aliases_cert_0 : checkIdx Gen.aliasTree.find
    (((Gen.entriesChunks.drop 0).take 21).flatten.map Row.alias) 0 = true := by decide +kernel

theorem entries_aliases_cert_21 : checkIdx Gen.aliasTree.find
    (((Gen.entriesChunks.drop 21).take 21).flatten.map Row.alias) 1344 = true := by decide +kernel

theorem entries_aliases_cert_42 : checkIdx Gen.aliasTree.find
    (((Gen.entriesChunks.drop 42).take 21).flatten.map Row.alias) 2688 = true := by decide +kernel

theorem entries_aliases_cert_63 : checkIdx Gen.aliasTree.find
    ((Gen.entriesChunks.drop 63).flatten.map Row.alias) 4032 = true := by decide +kernel

theorem entries_aliases_cert :
    checkIdx Gen.aliasTree.find (Gen.entries.map Row.alias) 0 = true :=
  checkIdx_drop 0 21 entries_aliases_cert_0 (by decide +kernel) <|
    checkIdx_drop 21 21 entries_aliases_cert_21 (by decide +kernel) <|
      checkIdx_drop 42 21 entries_aliases_cert_42 (by decide +kernel) entries_aliases_cert_63

/-- no two `ENTRIES` rows have the same keyword -/
theorem entries_aliases_nodup : (Gen.entries.map Row.alias).Nodup :=
  nodup_of_checkIdx entries_aliases_cert

/-- 16-bit fields, range entries have a zero open byte, no (GGxx,EEEE) entry overlaps a (GGGG,EExx) one -/
theorem entries_tableCheck : tableCheck Gen.entries = true := by decide +kernel

theorem entries_ok : TableOk Gen.entries := ⟨entries_keys_nodup, entries_tableCheck⟩

/-- the search tree that knows every keyword of the table does not know "GenericGroupLength" -/
theorem glAlias_not_alias : glAlias ∉ Gen.entries.map Row.alias :=
  not_mem_of_checkIdx entries_aliases_cert (by decide +kernel : Gen.aliasTree.find glAlias = none)

/-! ## the statement -/

/-- **For every one of the 2^32 tags** `by_tag` returns what the published table prescribes:
the exact entry if one exists, otherwise the repeating-group or repeating-element entry that covers
it, otherwise the private creator entry for (odd group, 0010–00FF), otherwise the generic group
length entry for element 0000, otherwise nothing. -/
theorem lookup_eq_spec (g e : Nat) (hg : g < 65536) (he : e < 65536) :
    indexedTag registry g e = specLookup Gen.entries g e :=
  indexedTag_eq_spec entries_ok g e hg he

/-- every entry is returned for its own tag -/
theorem by_tag_of_entry {r : Row} (hr : r ∈ Gen.entries) :
    indexedTag registry r.group r.elem = .entry r :=
  indexedTag_inner entries_ok hr

/-- **Looking up any entry's keyword returns an entry with that keyword and the same tag**
(in fact that very entry). -/
theorem by_name_consistent {r : Row} (hr : r ∈ Gen.entries) :
    byName registry r.alias = .entry r :=
  byName_entry entries_aliases_nodup glAlias_not_alias hr

/-- keyword → tag → entry closes the loop -/
theorem by_name_then_by_tag {r : Row} (hr : r ∈ Gen.entries) :
    byName registry r.alias = indexedTag registry r.group r.elem := by
  rw [by_name_consistent hr, by_tag_of_entry hr]

/-- "GenericGroupLength" is known by name although it is not a table entry -/
theorem by_name_generic_group_length : byName registry glAlias = .groupLength := byName_groupLength

/-- a keyword outside the table is not resolved (the rejection side of `by_name`) -/
theorem by_name_unknown {a : Nat} (h : ∀ r ∈ Gen.entries, r.alias ≠ a) (hg : a ≠ glAlias) :
    byName registry a = .none := byName_none h hg

/-- the group-local registry used by the driver's exhaustive sweep gives the model's answer -/
theorem sweep_registry_correct (g e : Nat) (he : e < 65536) :
    indexedTag (initDictionary (Gen.entries.filter (relevant g))) g e = indexedTag registry g e :=
  indexedTag_filter (fun _ hr => (entries_ok.fields hr).2.1) g e he

/-! ## tag constants -/

/-! `constsCheck` is evaluated in four parts as well (the constant names end in "SEQUENCE" as often). -/

theorem consts_check_0 : constsCheck ((Gen.constsChunks.drop 0).take 21).flatten
    ((Gen.entryRefsChunks.drop 0).take 21).flatten ((Gen.entriesChunks.drop 0).take 21).flatten = true := by
  decide +kernel

theorem consts_check_21 : constsCheck ((Gen.constsChunks.drop 21).take 21).flatten
    ((Gen.entryRefsChunks.drop 21).take 21).flatten ((Gen.entriesChunks.drop 21).take 21).flatten = true := by
  decide +kernel

theorem consts_check_42 : constsCheck ((Gen.constsChunks.drop 42).take 21).flatten
    ((Gen.entryRefsChunks.drop 42).take 21).flatten ((Gen.entriesChunks.drop 42).take 21).flatten = true := by
  decide +kernel

theorem consts_check_63 : constsCheck (Gen.constsChunks.drop 63).flatten
    (Gen.entryRefsChunks.drop 63).flatten (Gen.entriesChunks.drop 63).flatten = true := by
  decide +kernel

theorem consts_check : constsCheck Gen.consts Gen.entryRefs Gen.entries = true :=
  constsCheck_drop 0 21 consts_check_0 <| constsCheck_drop 21 21 consts_check_21 <|
    constsCheck_drop 42 21 consts_check_42 consts_check_63

-- elaborating `Gen.consts[i]` below compares the lengths of the two tables, one level per row
set_option maxRecDepth 12000 in
/-- **Every tag constant equals its entry's tag.** There are as many `pub const`s in tags.rs as
`ENTRIES` rows, and the i-th constant carries the i-th row's tag (a plain `Tag` constant for a
`Single` row, a `TagRange` constant of the row's kind for repeating groups/elements) and, in its doc
line `/// Keyword (GGGG,EEEE)`, the row's keyword. (`consts_check` also has the row refer to this
constant by name — rustc rejects a duplicate `pub const` — and the doc line give the tag or range.) -/
theorem constants_eq_entries :
    Gen.consts.length = Gen.entries.length ∧
      ∀ i (hc : i < Gen.consts.length) (hr : i < Gen.entries.length),
        Gen.consts[i].group = Gen.entries[i].group ∧ Gen.consts[i].elem = Gen.entries[i].elem ∧
        Gen.consts[i].docAlias = Gen.entries[i].alias ∧
        (Gen.consts[i].kind = 3 ∧ Gen.entries[i].kind = 0 ∨ Gen.consts[i].kind = Gen.entries[i].kind) :=
  constsCheck_getElem consts_check

/-- hence the constant's keyword resolves, by name, to an entry carrying the constant's tag -/
theorem constant_by_name (i : Nat) (hc : i < Gen.consts.length) :
    ∃ r, byName registry Gen.consts[i].docAlias = .entry r ∧
      r.group = Gen.consts[i].group ∧ r.elem = Gen.consts[i].elem :=
  byName_const consts_check entries_aliases_nodup glAlias_not_alias i hc

/-! ## SOP class dictionary -/

theorem sop_uids_cert :
    checkIdx Gen.sopUidTree.find (Gen.sopClasses.map UidRow.uid) 0 = true := by decide +kernel
theorem sop_aliases_cert :
    checkIdx Gen.sopAliasTree.find (Gen.sopClasses.map UidRow.alias) 0 = true := by decide +kernel

/-- **The SOP class dictionary maps each UID and keyword to the same entry**: looking up an entry's
UID, or its keyword, returns that entry. -/
theorem uid_registry_consistent {e : UidRow} (he : e ∈ Gen.sopClasses) :
    byUid uidRegistry e.uid = some e ∧ byKeyword uidRegistry e.alias = some e :=
  indexAll_consistent (nodup_of_checkIdx sop_uids_cert) (nodup_of_checkIdx sop_aliases_cert) he

/-- every SOP class entry is a SOP class, and uids.rs declares a constant with its UID whose doc
line `/// SOP Class: <name>` carries the entry's name -/
theorem sop_class_constants :
    Gen.sopClasses.all (fun e => e.type == 0 &&
      Gen.uidConsts.any (fun c => c.value == e.uid && c.docName == e.name && c.docType == 0)) = true := by
  decide +kernel

/-! ## the precedence is not vacuous (concrete tags, evaluated on the generated table) -/

/-- (7FE0,0010) PixelData is covered by the repeating group (7Fxx,0010) VariablePixelData, and the
exact entry wins -/
example : (match specLookup Gen.entries 0x7FE0 0x0010 with
    | .entry r => r.kind == 0 && r.alias == 0x506978656c44617461 | _ => false) = true ∧
    (Gen.entries.find? (fun r => r.kind != 0 && r.covers 0x7FE0 0x0010)).isSome = true := by
  decide +kernel
/-- (7F10,0010) has no exact entry: the repeating group entry; (0020,3142): the repeating element
entry (0020,31xx) -/
example : (match specLookup Gen.entries 0x7F10 0x0010 with
    | .entry r => r.kind == 1 && r.group == 0x7F00 | _ => false) = true ∧
    (match specLookup Gen.entries 0x0020 0x3142 with
    | .entry r => r.kind == 2 | _ => false) = true := by decide +kernel
end Dicom.Dict
