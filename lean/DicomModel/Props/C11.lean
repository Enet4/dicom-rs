import DicomModel.Model.NumConv
import DicomModel.Model.NumConvSpec
import DicomModel.Lemmas.NumConv
/-
C11 — Numeric value conversions are exact or fail.

Model: `DicomModel/Model/NumConv.lean` (`toInt`, `toMultiInt`, `toFloat`, `toMultiFloat`, `extend`,
`truncate` = the Rust methods, with `NumCast` = range check, `as` = wrap, `str::parse` = the
checked accumulation loop). Spec: `DicomModel/Model/NumConvSpec.lean` (`denote` = the integer a
decimal text stands for, `storedInts` = the stored numbers of a value, `representable`, the list
model `absStep` of `extend_*`/`truncate`).

Modelled is the repaired code (DESIGN §7 #2): `to_multi_int` without the `!is_empty()` guards and
`to_multi_float64` with the `Empty` arm.

One point where the code does less than the statement is stated as an explicit exception, proved
to be one on a witness, and recorded as a known finding (the driver's oracle stays at statement
strength and reports it): `negative-zero-unsigned` — a zero written with a minus sign (`"-0"`) is
refused for unsigned targets although 0 is representable (`parse_neg_zero_unsigned`;
`parse_complete` shows it is the only such case).

`truncate`: the doc comment reads "Shorten this value by removing trailing elements to fit the
given limit. […] Nothing is done if the value's cardinality is already lower than or equal to the
limit." The unchanged code left a `Str` (one item) alone for limit 0; modelled is the repaired code
(/repo 65d0025: `Str` with limit 0 becomes `Empty`), so `truncate_spec` holds for every value.
-/
namespace Dicom.NumConv

/-! ## text → integer: Rust's parsing loop computes the denoted number, or fails -/

theorem parseInt_eq_some (T : IntTy) (s : List Char) (n : Int) :
    parseInt T s = some n ↔
      denote s = some n ∧ InRange T n ∧ (T.signed = true ∨ s.head? ≠ some '-') := by
  match s with
  | [] => simp [parseInt, denote, digitsVal]
  | c :: rest =>
    by_cases h1 : c = '+'
    · subst h1
      cases rest with
      | nil => simp [parseInt, denote, digitsVal]
      | cons c' rest =>
        rw [parseInt_plus, accPos_zero_iff]
        simp [denote, digitsVal]
    by_cases h2 : c = '-'
    · subst h2
      cases rest with
      | nil => simp [parseInt, denote, digitsVal]
      | cons c' rest =>
        rw [parseInt_minus]
        cases hs : T.signed with
        | false => simp
        | true =>
          rw [if_pos rfl, accNeg_zero_iff]
          simp only [denote, digitsVal, List.isEmpty_cons, Bool.false_eq_true, if_false,
            Option.map_eq_some_iff, true_or, and_true]
          constructor
          · rintro ⟨hd, hr⟩
            exact ⟨⟨-n, hd, Int.neg_neg n⟩, hr⟩
          · rintro ⟨⟨m, hd, rfl⟩, hr⟩
            exact ⟨by rw [Int.neg_neg]; exact hd, hr⟩
    rw [parseInt_other h1 h2, denote_other h1 h2, accPos_zero_iff]
    simp [h2]

/-- `str::parse::<T>` never returns anything but the denoted number, and only if it fits. -/
theorem parse_exact (T : IntTy) (s : List Char) (n : Int) (h : parseInt T s = some n) :
    denote s = some n ∧ InRange T n :=
  let ⟨hd, hr, _⟩ := (parseInt_eq_some T s n).mp h
  ⟨hd, hr⟩

/-- Conversely every text denoting a number that fits is accepted — except that a text with a minus
sign is never accepted for an unsigned type. -/
theorem parse_complete (T : IntTy) (s : List Char) (n : Int) (hd : denote s = some n)
    (hr : InRange T n) (hs : T.signed = true ∨ s.head? ≠ some '-') : parseInt T s = some n :=
  (parseInt_eq_some T s n).mpr ⟨hd, hr, hs⟩

/-- The exception is real: `"-0"` denotes 0, which every unsigned type holds, yet it is refused. -/
theorem parse_neg_zero_unsigned :
    denote ['-', '0'] = some 0 ∧ InRange .u16 0 ∧ parseInt .u16 ['-', '0'] = none ∧
    parseInt .i16 ['-', '0'] = some 0 := by decide

/-- Trimming: the item conversion is the parse of the text stripped of white space and NULs. -/
theorem parse_trim (T : IntTy) (s : List Char) : parseItem T s = parseInt T (trimWN s) := rfl

/-- A number printed by `to_string` parses back to itself in every type that holds it. -/
theorem parse_show (T : IntTy) (n : Int) (h : InRange T n) : parseItem T (showInt n) = some n := by
  unfold parseItem
  rw [trimWN_id (showInt_not_ws n)]
  refine parse_complete T _ n (denote_showInt n) h ?_
  by_cases hn : n < 0
  · left; exact lo_neg_signed (by have := h.1; omega)
  · right
    intro hh
    exact hn ((showInt_head n '-' hh).mp rfl)

theorem numCast_exact (T : IntTy) (n m : Int) : numCast T n = some m ↔ m = n ∧ InRange T n :=
  numCast_eq_some

/-- An `as` cast always lands in the target type, is the identity on numbers that fit, and
otherwise differs from the source by a multiple of `2^bits` (wrap-around, as documented for
`extend_*`). -/
theorem asCast_spec (T : IntTy) (n : Int) :
    InRange T (asCast T n) ∧ (InRange T n → asCast T n = n) ∧
      (asCast T n - n) % (2 ^ T.bits : Int) = 0 :=
  ⟨asCast_inRange T n, asCast_id, asCast_congr T n⟩

/-! An integer-convertible value is a list of items, each a text or a stored number: `to_int` converts
the first, `to_multi_int` all, `storedInts` lists what they hold. The theorems about values are the
two facts about one item (`convItem_exact`, `convItem_complete`) lifted through the list. -/

def PV.sources : PV → Option (List (List Char ⊕ Int))
  | .empty => some []
  | .str s => some [.inl s]
  | .strs l => some (l.map .inl)
  | .ints _ l => some (l.map .inr)
  | _ => none

def convItem (T : IntTy) : List Char ⊕ Int → Option Int
  | .inl s => parseItem T s
  | .inr n => numCast T n

def storedItem : List Char ⊕ Int → Stored
  | .inl s => storedOfText s
  | .inr n => ⟨some n, false⟩

theorem storedInts_eq (v : PV) : storedInts v = v.sources.map (·.map storedItem) := by
  cases v <;> simp [storedInts, PV.sources, storedItem, Function.comp_def]

theorem toMultiInt_eq (T : IntTy) (v : PV) :
    toMultiInt T v = v.sources.bind (collectOpt (convItem T)) := by
  cases v with
  | str s =>
    show (parseItem T s).map ([·]) = collectOpt (convItem T) [.inl s]
    rw [collectOpt, collectOpt, convItem]
    cases parseItem T s <;> rfl
  | strs l => exact (collectOpt_map (convItem T) .inl l).symm
  | ints k l => exact (collectOpt_map (convItem T) .inr l).symm
  | empty | tags _ | f32 _ | f64 _ | date _ | dateTime _ | time _ => rfl

theorem toInt_eq (T : IntTy) (v : PV) :
    toInt T v = v.sources.bind fun l => l.head?.bind (convItem T) := by
  cases v with
  | strs l => cases l <;> rfl
  | ints k l => cases l <;> rfl
  | str _ | empty | tags _ | f32 _ | f64 _ | date _ | dateTime _ | time _ => rfl

theorem sources_length {v : PV} {xs} (h : v.sources = some xs) : xs.length = v.card := by
  cases v <;> cases h <;> simp [PV.card]

theorem convItem_exact {T : IntTy} {x : List Char ⊕ Int} {n : Int} (h : convItem T x = some n) :
    (storedItem x).val = some n ∧ InRange T n := by
  cases x with
  | inl s => exact parse_exact T _ n h
  | inr m =>
    obtain ⟨rfl, hr⟩ := numCast_eq_some.mp h
    exact ⟨rfl, hr⟩

theorem convItem_complete {T : IntTy} {x : List Char ⊕ Int}
    (hr : representable T (storedItem x) = true) : convItem T x = (storedItem x).val := by
  unfold representable at hr
  cases hv : (storedItem x).val with
  | none => simp [hv] at hr
  | some n =>
    simp only [hv, Bool.and_eq_true, decide_eq_true_eq, Bool.or_eq_true, Bool.not_eq_true'] at hr
    cases x with
    | inl s =>
      refine parse_complete T _ n hv hr.1 (hr.2.imp_right fun h => ?_)
      simpa [storedItem, storedOfText] using h
    | inr m =>
      cases hv
      exact numCast_eq_some.mpr ⟨rfl, hr.1⟩

/-- `getD` names the number, for the `map` in `multi_complete` -/
theorem representable_val {T : IntTy} {it : Stored} (h : representable T it = true) :
    it.val = some (it.val.getD 0) := by
  unfold representable at h
  cases hv : it.val with
  | none => simp [hv] at h
  | some n => rfl

/-! ## `to_int`: the exact first stored number, or an error -/

/-- **ok ⇒ exact.** If `to_int::<T>` succeeds the result is the first stored number of the value and
lies in the range of `T`: never a wrapped or truncated number. -/
theorem to_int_exact (T : IntTy) (v : PV) (n : Int) (h : toInt T v = some n) :
    ∃ it rest, storedInts v = some (it :: rest) ∧ it.val = some n ∧ InRange T n := by
  rw [toInt_eq] at h
  obtain ⟨xs, hs, h⟩ := Option.bind_eq_some_iff.mp h
  rw [storedInts_eq, hs]
  cases xs with
  | nil => cases h
  | cons x xs => exact ⟨_, _, rfl, convItem_exact h⟩

/-- **representable ⇒ ok.** If the value has a first stored number representable in `T`,
`to_int::<T>` returns it. -/
theorem to_int_complete (T : IntTy) (v : PV) (it : Stored) (rest : List Stored)
    (hs : storedInts v = some (it :: rest)) (hr : representable T it = true) :
    toInt T v = it.val := by
  rw [storedInts_eq] at hs
  rw [toInt_eq]
  obtain ⟨xs, hx, e⟩ := Option.map_eq_some_iff.mp hs
  cases xs with
  | nil => cases e
  | cons x xs =>
    cases e
    rw [hx]
    exact convItem_complete hr

/-- not representable ⇒ error: a first number outside the range of `T` is refused -/
theorem to_int_out_of_range (T : IntTy) (v : PV) (it : Stored) (rest : List Stored) (m : Int)
    (hs : storedInts v = some (it :: rest)) (hv : it.val = some m) (hr : ¬ InRange T m) :
    toInt T v = none := by
  cases h : toInt T v with
  | none => rfl
  | some n =>
    obtain ⟨it', rest', hs', hv', hr'⟩ := to_int_exact T v n h
    cases hs.symm.trans hs'
    cases hv.symm.trans hv'
    exact absurd hr' hr

/-! ## `to_multi_int`: one exact result per stored value, in order -/

/-- **ok ⇒ exact, one per value, in order.** -/
theorem multi_one_per_value (T : IntTy) (v : PV) (l : List Int) (h : toMultiInt T v = some l) :
    ∃ items, storedInts v = some items ∧ items.map (·.val) = l.map some ∧
      l.length = v.card ∧ ∀ n ∈ l, InRange T n := by
  rw [toMultiInt_eq] at h
  obtain ⟨xs, hs, h⟩ := Option.bind_eq_some_iff.mp h
  rw [storedInts_eq, hs]
  refine ⟨_, rfl, ?_, (collectOpt_length h).trans (sources_length hs), ?_⟩
  · rw [List.map_map]
    exact collectOpt_map_eq h fun x _ n hn => (convItem_exact hn).1
  · intro n hn
    obtain ⟨x, _, hx⟩ := collectOpt_mem_result h hn
    exact (convItem_exact hx).2

/-- **all representable ⇒ ok** with exactly the stored numbers. -/
theorem multi_complete (T : IntTy) (v : PV) (items : List Stored)
    (hs : storedInts v = some items) (hr : ∀ it ∈ items, representable T it = true) :
    ∃ l, toMultiInt T v = some l ∧ items.map (·.val) = l.map some := by
  rw [storedInts_eq] at hs
  rw [toMultiInt_eq]
  obtain ⟨xs, hx, rfl⟩ := Option.map_eq_some_iff.mp hs
  rw [hx]
  have rep : ∀ x ∈ xs, representable T (storedItem x) = true :=
    fun x hxs => hr _ (List.mem_map_of_mem hxs)
  refine ⟨xs.map fun x => (storedItem x).val.getD 0,
    collectOpt_map_some _ _ _ fun x hxs =>
      (convItem_complete (rep x hxs)).trans (representable_val (rep x hxs)), ?_⟩
  rw [List.map_map, List.map_map]
  exact List.map_congr_left fun x hxs => representable_val (rep x hxs)

/-- **no items ⇒ empty list**, for every variant the integer conversions accept
(all of `Empty`, `Strs`, `U8`, `I16`, `U16`, `I32`, `U32`, `I64`, `U64`). -/
theorem multi_empty (T : IntTy) (v : PV) (hc : intConvertible v = true) (h0 : v.card = 0) :
    toMultiInt T v = some [] := by
  cases v with
  | empty => rfl
  | str s => simp [PV.card] at h0
  | strs l | ints _ l => simp only [PV.card, List.length_eq_zero_iff] at h0; subst h0; rfl
  | tags _ | f32 _ | f64 _ | date _ | dateTime _ | time _ => simp [intConvertible] at hc

/-- The other variants are refused by type, whatever they hold. -/
theorem int_refused_by_type (T : IntTy) (v : PV) (hc : intConvertible v = false) :
    toMultiInt T v = none ∧ toInt T v = none := by
  cases v <;> simp_all [intConvertible, toMultiInt, toInt]

/-- **single = first of multi.** -/
theorem to_int_is_first (T : IntTy) (v : PV) (x : Int) (xs : List Int)
    (h : toMultiInt T v = some (x :: xs)) : toInt T v = some x := by
  rw [toMultiInt_eq] at h
  obtain ⟨ys, hs, h⟩ := Option.bind_eq_some_iff.mp h
  rw [toInt_eq, hs]
  cases ys with
  | nil => cases h
  | cons y ys => exact collectOpt_head (f := convItem T) h

/-! ## floats (element conversions are parameters: any `ops`) -/

/-- one result per stored value -/
theorem multi_float_one_per_value (ops : FloatOps) (w : FW) (v : PV) (l : List Nat)
    (h : toMultiFloat ops w v = some l) : l.length = v.card := by
  cases v with
  | empty => cases h; rfl
  | str s =>
    obtain ⟨n, _, rfl⟩ := Option.map_eq_some_iff.mp h
    rfl
  | strs ss => exact collectOpt_length h
  | ints _ xs | f32 xs | f64 xs => cases h; exact List.length_map _
  | tags _ | date _ | dateTime _ | time _ => cases h

/-- in order: the `i`-th result is the conversion of the `i`-th stored number; numbers already of
the requested width are returned as they are -/
theorem multi_float_in_order (ops : FloatOps) (w : FW) :
    (∀ k xs, toMultiFloat ops w (.ints k xs) = some (xs.map (ops.intToF w))) ∧
    (∀ xs, toMultiFloat ops .w32 (.f32 xs) = some xs) ∧
    (∀ xs, toMultiFloat ops .w64 (.f64 xs) = some xs) ∧
    (∀ xs, toMultiFloat ops .w64 (.f32 xs) = some (xs.map (ops.fToF .w32 .w64))) ∧
    (∀ xs, toMultiFloat ops .w32 (.f64 xs) = some (xs.map (ops.fToF .w64 .w32))) ∧
    (∀ ss l, toMultiFloat ops w (.strs ss) = some l → ss.map (parseFItem ops w) = l.map some) := by
  -- on concrete widths `ops.conv a b` computes: the identity for `a = b`, `ops.fToF a b` otherwise
  exact ⟨fun _ _ => rfl, fun xs => congrArg some (List.map_id' xs),
    fun xs => congrArg some (List.map_id' xs), fun _ => rfl, fun _ => rfl,
    fun _ _ h => (collectOpt_eq_some _ _ _).mp h⟩

/-- **no items ⇒ empty list** for every variant the float conversions accept. -/
theorem multi_float_empty (ops : FloatOps) (w : FW) (v : PV) (hc : floatConvertible v = true)
    (h0 : v.card = 0) : toMultiFloat ops w v = some [] := by
  cases v with
  | empty => rfl
  | str s => simp [PV.card] at h0
  | strs l | ints _ l | f32 l | f64 l =>
    simp only [PV.card, List.length_eq_zero_iff] at h0; subst h0; rfl
  | tags _ | date _ | dateTime _ | time _ => simp [floatConvertible] at hc

/-- numbers (as opposed to texts) always convert to floats -/
theorem multi_float_total (ops : FloatOps) (w : FW) (v : PV) (hc : floatConvertible v = true)
    (hn : ∀ s, v ≠ .str s) (hm : ∀ s t, v ≠ .strs (s :: t)) : ∃ l, toMultiFloat ops w v = some l := by
  cases v with
  | empty => exact ⟨_, rfl⟩
  | str s => exact absurd rfl (hn s)
  | strs l =>
    cases l with
    | nil => exact ⟨_, rfl⟩
    | cons s t => exact absurd rfl (hm s t)
  | ints _ l | f32 l | f64 l => exact ⟨_, rfl⟩
  | tags _ | date _ | dateTime _ | time _ => simp [floatConvertible] at hc

/-- **single = first of multi** (floats). -/
theorem to_float_is_first (ops : FloatOps) (w : FW) (v : PV) (x : Nat) (xs : List Nat)
    (h : toMultiFloat ops w v = some (x :: xs)) : toFloat ops w v = some x := by
  cases v with
  | str s =>
    obtain ⟨n, hp, e⟩ := Option.map_eq_some_iff.mp h
    cases e
    exact hp
  | strs l =>
    cases l with
    | nil => cases h
    | cons s t => exact collectOpt_head (f := parseFItem ops w) h
  | ints _ l | f32 l | f64 l =>
    cases l with
    | nil => cases h
    | cons a t => cases h; rfl
  | empty | tags _ | date _ | dateTime _ | time _ => cases h

/-! ## wrappers: `Value` and `DataElement` add nothing for primitive values and refuse the rest -/

theorem wrappers (ops : FloatOps) (T : IntTy) (w : FW) (v : PV) :
    Val.toInt T (.prim v) = toInt T v ∧ Val.toMultiInt T (.prim v) = toMultiInt T v ∧
    Val.toFloat ops w (.prim v) = toFloat ops w v ∧
    Val.toMultiFloat ops w (.prim v) = toMultiFloat ops w v ∧
    (∀ n, Val.truncate n (.prim v) = .prim (truncate n v)) := ⟨rfl, rfl, rfl, rfl, fun _ => rfl⟩

theorem wrappers_non_primitive (ops : FloatOps) (T : IntTy) (w : FW) (x : Val)
    (h : ∀ v, x ≠ .prim v) :
    x.toInt T = none ∧ x.toMultiInt T = none ∧ x.toFloat ops w = none ∧ x.toMultiFloat ops w = none := by
  cases x with
  | prim v => exact absurd rfl (h v)
  | seq l => exact ⟨rfl, rfl, rfl, rfl⟩
  | pix o f => exact ⟨rfl, rfl, rfl, rfl⟩

/-! ## `extend_*` and `truncate` against the list model -/

def Ext.err : Ext → ModErr
  | .strs _ => .incompatibleString
  | _ => .incompatibleNumber

theorem ok_abs_append {α : Type} (k : Kind) (c : α → Item) (l a : List α) :
    (Except.ok ⟨k, (l ++ a).map c⟩ : Except ModErr Abs) = .ok ⟨k, l.map c ++ a.map c⟩ := by
  rw [List.map_append]

/-- both sides compute once the two constructors are known; what remains is `map` over an appended list -/
theorem extend_abs (ops : FloatOps) (v : PV) (e : Ext) :
    (extend ops v e).map PV.abs =
      if compatibleK v.kind e then .ok ⟨kindAfter v.kind e, v.items ++ appendedK ops v.kind e⟩
      else .error e.err := by
  cases v with
  | empty =>
    cases e with
    | strs xs => rfl
    | ints T xs => rfl
    | floats w xs => cases w <;> exact congrArg (fun i => Except.ok (Abs.mk _ i)) List.map_map
  | str s => cases e <;> rfl
  | strs l => cases e <;> exact ok_abs_append ..
  | ints _ l | f32 l | f64 l =>
    cases e with
    | strs xs => rfl
    | ints T xs => exact ok_abs_append ..
    | floats w xs => exact ok_abs_append ..
  | tags l | date l | dateTime l | time l => cases e <;> rfl

theorem extend_compatible (ops : FloatOps) (v : PV) (e : Ext) (hc : compatibleK v.kind e = true) :
    ∃ v', extend ops v e = .ok v' ∧
      v'.abs = ⟨kindAfter v.kind e, v.items ++ appendedK ops v.kind e⟩ := by
  have h := extend_abs ops v e
  rw [hc, if_pos rfl] at h
  cases hx : extend ops v e with
  | ok v' => rw [hx] at h; exact ⟨v', rfl, Except.ok.inj h⟩
  | error err => rw [hx] at h; cases h

theorem extend_incompatible (ops : FloatOps) (v : PV) (e : Ext) (hc : compatibleK v.kind e = false) :
    extend ops v e = .error e.err := by
  have h := extend_abs ops v e
  rw [hc, if_neg Bool.false_ne_true] at h
  cases hx : extend ops v e with
  | ok v' => rw [hx] at h; cases h
  | error err => rw [hx] at h; exact congrArg Except.error (Except.error.inj h)

/-- **extend.** A call succeeds exactly when the documentation says the value is compatible; then the
items are the old items followed by the appended ones (as text for a textual value, cast to the
current number type otherwise) and the kind changes only from `Empty`/`Str`.
(`extendCompatible`, `appended` are `compatibleK`, `appendedK` at `v.kind`.) -/
theorem extend_spec (ops : FloatOps) (v : PV) (e : Ext) :
    (extendCompatible v e = true → ∃ v', extend ops v e = .ok v' ∧
        v'.items = v.items ++ appended ops v e ∧ v'.kind = kindAfter v.kind e) ∧
    (extendCompatible v e = false → ∃ err, extend ops v e = .error err) :=
  ⟨fun hc =>
    let ⟨v', h, ha⟩ := extend_compatible ops v e hc
    ⟨v', h, congrArg Abs.items ha, congrArg Abs.kind ha⟩,
   fun hc => ⟨_, extend_incompatible ops v e hc⟩⟩

theorem items_length (v : PV) : v.items.length = v.card := by
  cases v <;> simp [PV.items, PV.card]

theorem appended_length (ops : FloatOps) (k : Kind) (e : Ext) (h : compatibleK k e = true) :
    (appendedK ops k e).length = e.len := by
  cases k <;> cases e <;>
    simp_all [compatibleK, Kind.textual, Kind.numericOrText, appendedK, Ext.len, Ext.texts,
      Ext.asInts, Ext.asFloats] <;> (try split) <;> simp

/-- the number of items grows by the number of appended ones -/
theorem extend_card (ops : FloatOps) (v v' : PV) (e : Ext) (h : extend ops v e = .ok v') :
    v'.card = v.card + e.len := by
  have ha := extend_abs ops v e
  rw [h] at ha
  split at ha
  · next hc =>
    have hi : v'.items = _ := congrArg Abs.items (Except.ok.inj ha)
    rw [← items_length, hi, List.length_append, items_length, appended_length ops _ _ hc]
  · cases ha

/-- **truncate.** The items are the first `limit` items, for every value; the kind is unchanged,
except that a single string which loses its item becomes the empty value. -/
theorem truncate_spec (n : Nat) (v : PV) :
    (truncate n v).items = v.items.take n ∧
    (truncate n v).card = min n v.card ∧
    ((truncate n v).kind = v.kind ∨ (∃ s, v = .str s ∧ n = 0 ∧ truncate n v = .empty)) := by
  cases v with
  | str s =>
    by_cases h : n = 0
    · subst h; simp [truncate, PV.items, PV.card]
    · have : 1 ≤ n := by omega
      simp [truncate, h, PV.items, PV.card, PV.kind, List.take_of_length_le, this]
  | empty | strs _ | tags _ | ints _ _ | f32 _ | f64 _ | date _ | dateTime _ | time _ =>
    simp [truncate, PV.kind, PV.items, PV.card, List.map_take]

/-- nothing is done if the value already fits -/
theorem truncate_noop (n : Nat) (v : PV) (h : v.card ≤ n) : truncate n v = v := by
  cases v with
  | str s =>
    have : n ≠ 0 := by simp [PV.card] at h; omega
    simp [truncate, this]
  | empty | strs _ | tags _ | ints _ _ | f32 _ | f64 _ | date _ | dateTime _ | time _ =>
    simp_all [truncate, PV.card, List.take_of_length_le]

/-- the value fits the limit afterwards (repaired point: also a single string with limit 0) -/
theorem truncate_fits (n : Nat) (v : PV) : (truncate n v).card ≤ n := by
  rw [(truncate_spec n v).2.1]; omega

theorem truncate_str_limit0 (s : List Char) : truncate 0 (.str s) = .empty := rfl

theorem truncate_abs (ops : FloatOps) (n : Nat) (v : PV) :
    (truncate n v).abs = absStep ops v.abs (.truncate n) := by
  cases v with
  | empty => exact congrArg (Abs.mk _) List.take_nil.symm
  | str s =>
    cases n with
    | zero => rfl
    | succ k => exact congrArg (fun t => Abs.mk _ (_ :: t)) List.take_nil.symm
  | strs l | tags l | ints _ l | f32 l | f64 l | date l | dateTime l | time l =>
    exact congrArg (Abs.mk _) List.map_take

/-- **histories.** Every step of the real operations is the corresponding step of the list model
on (kind, items) … -/
theorem step_refines (ops : FloatOps) (v : PV) (op : Op) :
    (step ops v op).abs = absStep ops v.abs op := by
  cases op with
  | truncate n => exact truncate_abs ops n v
  | extend e =>
    show (match extend ops v e with | .ok v' => v' | .error _ => v).abs =
      if compatibleK v.kind e then ⟨kindAfter v.kind e, v.items ++ appendedK ops v.kind e⟩ else v.abs
    cases hc : compatibleK v.kind e with
    | true =>
      obtain ⟨v', h, ha⟩ := extend_compatible ops v e hc
      rw [h, if_pos rfl]
      exact ha
    | false => rw [extend_incompatible ops v e hc, if_neg Bool.false_ne_true]

/-- … hence so is every history of `extend_*` / `truncate` calls, of any length. -/
theorem run_refines (ops : FloatOps) (h : List Op) (v : PV) :
    (run ops v h).abs = absRun ops v.abs h := by
  induction h generalizing v with
  | nil => rfl
  | cons op t ih =>
    show (run ops (step ops v op) t).abs = absRun ops (absStep ops v.abs op) t
    rw [ih, step_refines]

/-- The abstract state loses nothing: kind and items determine the value. The kind fixes the
variant, and the items fix its list because every `Item` constructor is injective. -/
theorem abs_injective (v v' : PV) (h : v.abs = v'.abs) : v = v' := by
  have hk : v.kind = v'.kind := congrArg Abs.kind h
  have hi : v.items = v'.items := congrArg Abs.items h
  cases v <;> cases v' <;> cases hk <;> simp_all [PV.items, List.map_inj_right]

/-! ### well-formedness is invariant: stored numbers always fit their declared type -/

/-- the appended numbers are legal values of their own type (integer types: those of the existing
`extend_u16/i16/i32/u32`) -/
def Ext.WF : Ext → Prop
  | .strs _ => True
  | .ints T l => (T = .u16 ∨ T = .i16 ∨ T = .i32 ∨ T = .u32) ∧ ∀ x ∈ l, InRange T x
  | .floats .w32 l => ∀ x ∈ l, x.bits < 2 ^ 32
  | .floats .w64 l => ∀ x ∈ l, x.bits < 2 ^ 64

/-- the float element operations return values of their result type -/
structure FloatOps.WF (ops : FloatOps) : Prop where
  fToInt : ∀ w T x, InRange T (ops.fToInt w T x)
  intToF32 : ∀ n, ops.intToF .w32 n < 2 ^ 32
  intToF64 : ∀ n, ops.intToF .w64 n < 2 ^ 64
  f64ToF32 : ∀ x, ops.fToF .w64 .w32 x < 2 ^ 32
  f32ToF64 : ∀ x, ops.fToF .w32 .w64 x < 2 ^ 64

theorem asInts_inRange (ops : FloatOps) (ho : ops.WF) {e : Ext} (he : e.WF) (K : IntTy) :
    ∀ x ∈ e.asInts ops K, InRange K x := by
  intro x hx
  cases e with
  | strs l => cases hx
  | ints T l =>
    simp only [Ext.asInts] at hx
    split at hx
    · next e => exact e ▸ he.2 x hx
    · obtain ⟨y, _, rfl⟩ := List.mem_map.mp hx
      exact asCast_inRange K y
  | floats w l =>
    obtain ⟨y, _, rfl⟩ := List.mem_map.mp hx
    exact ho.fToInt w K y.bits

theorem asFloats_lt (ops : FloatOps) (ho : ops.WF) {e : Ext} (he : e.WF) (w : FW) :
    ∀ x ∈ e.asFloats ops w, x < 2 ^ (match w with | .w32 => 32 | .w64 => 64) := by
  intro x hx
  cases e with
  | strs l => cases hx
  | ints T l =>
    obtain ⟨y, _, rfl⟩ := List.mem_map.mp hx
    cases w with
    | w32 => exact ho.intToF32 y
    | w64 => exact ho.intToF64 y
  | floats w' l =>
    obtain ⟨y, hy, rfl⟩ := List.mem_map.mp hx
    cases w' with
    | w32 =>
      cases w with
      | w32 => exact he y hy
      | w64 => exact ho.f32ToF64 _
    | w64 =>
      cases w with
      | w32 => exact ho.f64ToF32 _
      | w64 => exact he y hy

theorem extend_wf (ops : FloatOps) (ho : ops.WF) (v v' : PV) (e : Ext) (hv : v.WF) (he : e.WF)
    (h : extend ops v e = .ok v') : v'.WF := by
  cases v with
  | empty =>
    cases e with
    | strs xs => cases h; trivial
    | ints T xs =>
      cases h
      refine ⟨?_, he.2⟩
      rcases he.1 with e | e | e | e <;> simp [e]
    | floats w xs => cases w <;> cases h <;> exact List.forall_mem_map.mpr he
  | strs _ | str _ => cases e <;> cases h <;> trivial
  | ints K l =>
    cases e with
    | strs xs => cases h
    | ints _ _ | floats _ _ =>
      cases h
      exact ⟨hv.1, List.forall_mem_append.mpr ⟨hv.2, asInts_inRange ops ho he K⟩⟩
  | f32 l =>
    cases e with
    | strs xs => cases h
    | ints _ _ | floats _ _ =>
      cases h
      exact List.forall_mem_append.mpr ⟨hv, asFloats_lt ops ho he .w32⟩
  | f64 l =>
    cases e with
    | strs xs => cases h
    | ints _ _ | floats _ _ =>
      cases h
      exact List.forall_mem_append.mpr ⟨hv, asFloats_lt ops ho he .w64⟩
  | tags _ | date _ | dateTime _ | time _ => cases e <;> cases h

theorem truncate_wf (n : Nat) (v : PV) (hv : v.WF) : (truncate n v).WF := by
  cases v with
  | ints k l => exact ⟨hv.1, fun x hx => hv.2 x (List.mem_of_mem_take hx)⟩
  | f32 l | f64 l => exact fun x hx => hv x (List.mem_of_mem_take hx)
  | str s => by_cases h : n = 0 <;> simp [truncate, h, PV.WF]
  | empty | strs _ | tags _ | date _ | dateTime _ | time _ => trivial

def Op.WF : Op → Prop
  | .extend e => e.WF
  | .truncate _ => True

/-- Every value reachable by any history of operations from a legal value is legal: the numbers
stored in a variant always fit that variant's type (the `as` casts of `extend_*` wrap, they never
store an out-of-range number). -/
theorem run_wf (ops : FloatOps) (ho : ops.WF) (h : List Op) (v : PV) (hv : v.WF)
    (hh : ∀ op ∈ h, op.WF) : (run ops v h).WF := by
  induction h generalizing v with
  | nil => exact hv
  | cons op t ih =>
    obtain ⟨hop, ht⟩ := List.forall_mem_cons.mp hh
    refine ih (step ops v op) ?_ ht
    cases op with
    | truncate n => exact truncate_wf n v hv
    | extend e =>
      simp only [step]
      cases he : extend ops v e with
      | ok v' => exact extend_wf ops ho v v' e hv hop he
      | error _ => exact hv

/-! ### appended numbers read back exactly -/

/-- Numbers appended to a numeric value that fit its type are read back unchanged by
`to_multi_int`, after the numbers that were there. -/
theorem extend_ints_read_back (ops : FloatOps) (K T : IntTy) (l xs : List Int)
    (hl : ∀ x ∈ l, InRange K x) (hx : ∀ x ∈ xs, InRange K x) :
    ∃ v', extend ops (.ints K l) (.ints T xs) = .ok v' ∧ toMultiInt K v' = some (l ++ xs) := by
  refine ⟨.ints K (l ++ (Ext.ints T xs).asInts ops K), rfl, ?_⟩
  have e : (if T = K then xs else xs.map (asCast K)) = xs := by
    split
    · rfl
    · exact (List.map_congr_left (g := id) fun x hx' => asCast_id (hx x hx')).trans (List.map_id xs)
  rw [Ext.asInts, e]
  exact (collectOpt_eq_some _ _ _).mpr (List.map_congr_left fun x hm =>
    numCast_eq_some.mpr ⟨rfl, (List.mem_append.mp hm).elim (hl x) (hx x)⟩)

/-- Numbers appended to a textual value are written in decimal and read back unchanged, after the
numbers the strings already held. -/
theorem extend_strs_read_back (ops : FloatOps) (T : IntTy) (ss : List (List Char)) (xs : List Int)
    (hx : ∀ x ∈ xs, InRange T x) :
    ∃ v', extend ops (.strs ss) (.ints T xs) = .ok v' ∧
      toMultiInt T v' = (toMultiInt T (.strs ss)).map (· ++ xs) := by
  refine ⟨.strs (ss ++ xs.map showInt), rfl, ?_⟩
  simp only [toMultiInt, collectOpt_append]
  have : collectOpt (parseItem T) (xs.map showInt) = some xs := by
    rw [collectOpt_eq_some]
    simp only [List.map_map]
    exact List.map_congr_left fun x hx' => by simp [parse_show T x (hx x hx')]
  rw [this]
  cases collectOpt (parseItem T) ss <;> simp

example : toInt .i32 (.str "505 ".toList) = some 505 := by decide
example : toInt .u8 (.ints .i32 [300, 1]) = none ∧ toInt .u16 (.ints .i32 [300, 1]) = some 300 := by
  decide
example : toMultiInt .i32 (.strs ["5050".toList, "23 ".toList]) = some [5050, 23] := by decide
example : toMultiInt .u64 (.ints .i32 []) = some [] := by decide
example : toInt .i8 (.str "-128\x00".toList) = some (-128) ∧ toInt .i8 (.str "128".toList) = none := by
  decide
example : ∃ it rest, storedInts (.str " +7".toList) = some (it :: rest) ∧
    representable .u8 it = true := ⟨_, _, rfl, by decide⟩

end Dicom.NumConv
