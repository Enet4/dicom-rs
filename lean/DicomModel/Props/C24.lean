import DicomModel.Model.Json
import DicomModel.Lemmas.Json
/-
C24 — DICOM JSON output conforms to PS3.18 Annex F.

`annexF` (Model/Json.lean) is the decidable Annex F validator; it does not mention `toJson`.
Main theorem `annexF_toJson`: for every well-typed data set (value variant belongs to the VR,
numbers in range, tags in the iteration order of the BTreeMap) serialisation succeeds (no panic)
and the output satisfies `annexF`; nested sequences of any depth.
The model is the repaired code: AT values as `GGGGEEEE` (defect #8) and no `Value` /
`InlineBinary` member for a value without items (finding `empty-value-has-member`,
findings/C24-empty-value-has-member.md).  `annexFWith true` is the validator without the
"empty ⇒ no member" clause; the driver uses it only to name that failure.
-/
set_option linter.unusedSimpArgs false
set_option linter.unusedVariables false
namespace Dicom.Json
open Dicom.Flt

theorem keysAscending_map_tagKey : ∀ (ts : List Nat), sortedTags ts = true →
    (∀ t ∈ ts, t < 4294967296) → keysAscending (ts.map tagKey) = true
  | [], _, _ => rfl
  | [_], _, _ => rfl
  | a :: b :: r, hs, hb => by
    simp only [sortedTags, Bool.and_eq_true, decide_eq_true_eq] at hs
    have ih := keysAscending_map_tagKey (b :: r) hs.2 (fun t ht => hb t (by simp [ht]))
    simp only [List.map_cons, keysAscending, Bool.and_eq_true]
    exact ⟨bytesLt_tagKey hs.1 (hb b (by simp)), by simpa using ih⟩

theorem isDecimal_toDec (n : Nat) : isDecimal (toDec n) = true := by
  have h1 := toDec_digits n
  have h2 := toDec_ne_nil n
  unfold isDecimal
  split
  · rename_i r heq
    -- first char is '-' : impossible, it is a digit
    rw [heq] at h1; simp [isDig] at h1
  · simp [h1, h2]

theorem isDecimal_intDec (i : Int) : isDecimal (intDec i) = true := by
  unfold intDec
  split
  · simp [isDecimal, toDec_digits, toDec_ne_nil]
  · exact isDecimal_toDec _

theorem floatItem_ne_null (F : Fmt) (w : Nat → Nat) (x : Nat) :
    isFloatItem (floatItem F w x) = true ∧ isNumOrStr (floatItem F w x) = true := by
  rw [floatItem_eq]
  cases isFinite F x <;> cases isNaN F x <;> cases sign F x <;> exact ⟨rfl, rfl⟩

theorem isIntIn_intNum (lo hi i : Int) : isIntIn lo hi (intNum i) = (decide (lo ≤ i) && decide (i ≤ hi)) := by
  unfold intNum
  split
  · simp only [isIntIn, intOfNum]
    have : -(Int.ofNat i.natAbs) = i := by simp only [Int.ofNat_eq_natCast]; omega
    rw [this]
  · simp only [isIntIn, intOfNum]
    have : Int.ofNat i.toNat = i := by simp only [Int.ofNat_eq_natCast]; omega
    rw [this]

theorem kInline_beq : (kInline == kInline) = true := by decide

theorem elementF_empty (lax : Bool) (vr : VR) :
    elementF lax (.obj [(kVr, .str (vrName vr))]) = true := by
  simp [elementF, parseVR_vrName]

theorem elementF_inline (lax : Bool) (vr : VR) (s : Bytes) (h : fClass vr = .binary) :
    elementF lax (.obj [(kVr, .str (vrName vr)), (kInline, .str s)])
      = (validB64 s && (lax || !s.isEmpty)) := by
  simp [elementF, parseVR_vrName, h]

theorem elementF_sq (lax : Bool) (vr : VR) (v : J) (h : fClass vr = .sq) :
    elementF lax (.obj [(kVr, .str (vrName vr)), (kValue, v)]) = itemsF lax v := by
  simp [elementF, parseVR_vrName, h]

theorem elementF_value (lax : Bool) (vr : VR) (v : J) (c : FClass) (h : fClass vr = c)
    (h1 : c ≠ .binary) (h2 : c ≠ .sq) :
    elementF lax (.obj [(kVr, .str (vrName vr)), (kValue, v)]) = valuesF lax c v := by
  cases c <;> simp_all [elementF, parseVR_vrName]

theorem splitBs_ne_nil (s : Bytes) : splitBs s ≠ [] := by
  induction s with
  | nil => simp [splitBs]
  | cons b r ih =>
    unfold splitBs
    split
    · simp
    · split <;> simp

theorem valuesF_text (lax : Bool) (l : List Bytes) :
    valuesF lax .text (.arr (l.map .str)) = (lax || !l.isEmpty) := by
  simp [valuesF, List.all_map, isStrOrNull, Function.comp_def]

theorem valuesF_at (lax : Bool) (l : List Nat) :
    valuesF lax .at (.arr (l.map fun t => .str (tagKey t))) = (lax || !l.isEmpty) := by
  simp [valuesF, List.all_map, isAtItem, Function.comp_def, isTagKey_tagKey]

theorem valuesF_pn (lax : Bool) (l : List Bytes) :
    valuesF lax .pn (.arr (l.map fun s => .obj [(kAlpha, .str s)])) = (lax || !l.isEmpty) := by
  simp [valuesF, List.all_map, isPersonName, Function.comp_def, lookup, isStr]

theorem valuesF_float (lax : Bool) (F : Fmt) (w : Nat → Nat) (l : List Nat) :
    valuesF lax .float (.arr (l.map (floatItem F w))) = (lax || !l.isEmpty) := by
  simp [valuesF, List.all_map, Function.comp_def, (floatItem_ne_null F w _).1]

theorem valuesF_numstr_float (lax : Bool) (F : Fmt) (w : Nat → Nat) (l : List Nat) :
    valuesF lax .numstr (.arr (l.map (floatItem F w))) = (lax || !l.isEmpty) := by
  simp [valuesF, List.all_map, Function.comp_def, (floatItem_ne_null F w _).2]

theorem valuesF_numstr_strs (lax : Bool) (l : List Bytes) :
    valuesF lax .numstr (.arr (l.map .str)) = (lax || !l.isEmpty) := by
  simp [valuesF, List.all_map, isNumOrStr, Function.comp_def]

theorem isNumOrStr_intNum (i : Int) : isNumOrStr (intNum i) = true := by
  unfold intNum; split <;> rfl

theorem valuesF_numstr_ints (lax : Bool) (l : List Int) :
    valuesF lax .numstr (.arr (l.map intNum)) = (lax || !l.isEmpty) := by
  simp [valuesF, List.all_map, isNumOrStr_intNum, Function.comp_def]

theorem valuesF_int_signed (lax : Bool) (lo hi : Int) (l : List Int) (h : allIn lo hi l = true) :
    valuesF lax (.int lo hi) (.arr (l.map intNum)) = (lax || !l.isEmpty) := by
  have : l.all (fun x => decide (lo ≤ x) && decide (x ≤ hi)) = true := h
  simp [valuesF, List.all_map, Function.comp_def, isIntIn_intNum, this]

theorem valuesF_int_unsigned (lax : Bool) (hi : Int) (B : Nat) (hB : (B : Int) = hi + 1)
    (l : List Nat) (h : allLt B l = true) :
    valuesF lax (.int 0 hi) (.arr (l.map fun n => .num (.pos n))) = (lax || !l.isEmpty) := by
  simp only [allLt, List.all_eq_true, decide_eq_true_eq] at h
  have : l.all (fun n => isIntIn 0 hi (.num (.pos n))) = true := by
    simp only [List.all_eq_true, isIntIn, intOfNum, Bool.and_eq_true, decide_eq_true_eq]
    intro n hn
    have := h n hn
    constructor
    · exact Int.natCast_nonneg n
    · simp only [Int.ofNat_eq_natCast]; omega
  simp [valuesF, List.all_map, Function.comp_def, this]

theorem isBigIntItem_intNum (lo hi i : Int) :
    isBigIntItem lo hi (intNum i) = isIntIn lo hi (intNum i) := by
  unfold intNum; split <;> rfl

theorem valuesF_bigint_signed (lax : Bool) (l : List Int)
    (h : allIn (-9223372036854775808) 9223372036854775807 l = true) :
    valuesF lax (.bigint (-9223372036854775808) 9223372036854775807)
      (.arr (l.map fun i => if fitsI32 i then intNum i else .str (intDec i))) = (lax || !l.isEmpty) := by
  simp only [allIn, List.all_eq_true, Bool.and_eq_true, decide_eq_true_eq] at h
  have : l.all (fun i => isBigIntItem (-9223372036854775808) 9223372036854775807
      (if fitsI32 i then intNum i else .str (intDec i))) = true := by
    simp only [List.all_eq_true]
    intro i hi
    have hb := h i hi
    split
    · rw [isBigIntItem_intNum, isIntIn_intNum]
      simpa using hb
    · simp [isBigIntItem, isDecimal_intDec]
  simp [valuesF, List.all_map, Function.comp_def, this]

theorem valuesF_bigint_unsigned (lax : Bool) (l : List Nat)
    (h : allLt 18446744073709551616 l = true) :
    valuesF lax (.bigint 0 18446744073709551615)
      (.arr (l.map fun (n : Nat) => if n ≤ 2147483647 then .num (.pos n) else .str (toDec n)))
      = (lax || !l.isEmpty) := by
  simp only [allLt, List.all_eq_true, decide_eq_true_eq] at h
  have : l.all (fun (n : Nat) => isBigIntItem 0 18446744073709551615
      (if n ≤ 2147483647 then .num (.pos n) else .str (toDec n))) = true := by
    simp only [List.all_eq_true]
    intro n hn
    have hb := h n hn
    split
    · simp only [isBigIntItem, intOfNum, Int.ofNat_eq_natCast]
      simp; omega
    · simp [isBigIntItem, isDecimal_toDec]
  simp [valuesF, List.all_map, Function.comp_def, this]

theorem isBytes_le16 (n : Nat) : IsBytes (le16 n) := by
  intro b hb; simp [le16] at hb; omega
theorem isBytes_le32 (n : Nat) : IsBytes (le32 n) := by
  intro b hb; simp [le32] at hb; omega
theorem isBytes_le64 (n : Nat) : IsBytes (le64 n) := by
  intro b hb
  simp only [le64, List.mem_append] at hb
  cases hb with
  | inl h => exact isBytes_le32 _ b h
  | inr h => exact isBytes_le32 _ b h

theorem flatMap_bytes {α : Type} {f : α → Bytes} (hb : ∀ x, IsBytes (f x)) (hn : ∀ x, f x ≠ [])
    (l : List α) : IsBytes (l.flatMap f) ∧ (l.flatMap f).isEmpty = !!l.isEmpty := by
  refine ⟨fun b hb' => ?_, ?_⟩
  · obtain ⟨x, _, hx⟩ := List.mem_flatMap.mp hb'
    exact hb x b hx
  · cases l with
    | nil => rfl
    | cons a r =>
      rw [List.flatMap_cons]
      cases hfa : f a with
      | nil => exact absurd hfa (hn a)
      | cons x y => rfl

theorem validB64_enc {bs : Bytes} (h : IsBytes bs) : validB64 (b64enc bs) = true := by
  simp [validB64, b64dec_enc bs h]

theorem b64enc_isEmpty (bs : Bytes) : (b64enc bs).isEmpty = bs.isEmpty := by
  rw [Bool.eq_iff_iff, List.isEmpty_iff, List.isEmpty_iff]
  exact b64enc_eq_nil

/-- the binary value kinds: bytes are bytes, and an item makes the byte string non-empty -/
theorem toBytes_binary (p : Prim) (hr : p.inRange = true)
    (hk : p.binKind = true) :
    IsBytes (toBytes p) ∧ (toBytes p).isEmpty = !p.nonEmpty := by
  cases p <;> simp [Prim.binKind] at hk
  case u8 l =>
    refine ⟨?_, by simp [toBytes, Prim.nonEmpty]⟩
    intro b hb
    simp only [Prim.inRange, allLt, List.all_eq_true, decide_eq_true_eq] at hr
    exact hr b hb
  case u16 l => exact flatMap_bytes isBytes_le16 (fun _ => List.cons_ne_nil _ _) l
  case u32 l => exact flatMap_bytes isBytes_le32 (fun _ => List.cons_ne_nil _ _) l
  case u64 l => exact flatMap_bytes isBytes_le64 (fun _ => List.cons_ne_nil _ _) l
  case f32 l => exact flatMap_bytes isBytes_le32 (fun _ => List.cons_ne_nil _ _) l
  case f64 l => exact flatMap_bytes isBytes_le64 (fun _ => List.cons_ne_nil _ _) l

theorem splitBs_isEmpty (s : Bytes) : (splitBs s).isEmpty = false := by
  simp [splitBs_ne_nil]

theorem primMembers_of_nonEmpty (vr : VR) (p : Prim) (h : p.nonEmpty = true) :
    primMembers vr p = (match serClass vr with
      | .strings => .ok [(kValue, asStrings p)]
      | .person => .ok [(kValue, asPersonNames p)]
      | .numbers => (asNumbers p).map fun j => [(kValue, j)]
      | .binary => .ok [(kInline, inlineBinary p)]
      | .sq => .panic) := by
  unfold primMembers
  rw [h]
  rfl

theorem primMembers_of_empty (vr : VR) (p : Prim) (h : p.nonEmpty = false) :
    primMembers vr p = .ok [] := by
  simp [primMembers, h]

theorem asStrings_of_not_tags {p : Prim} (hp : ∀ l, p ≠ .tags l) :
    asStrings p = .arr ((toMultiStr p).map .str) := by
  cases p <;> first | rfl | exact absurd rfl (hp _)

theorem toMultiStr_isEmpty {p : Prim} (h : p.nonEmpty = true) : (toMultiStr p).isEmpty = false := by
  cases p with
  | empty => cases h
  | strs l => exact splitBs_isEmpty _
  | str s => rfl
  | _ => simpa [toMultiStr, displayItems, Prim.nonEmpty] using h

theorem binary_conforms (lax : Bool) (vr : VR) (p : Prim) (hc : fClass vr = .binary)
    (hr : p.inRange = true) (hk : p.binKind = true) (hne : p.nonEmpty = true) :
    elementF lax (.obj [(kVr, .str (vrName vr)), (kInline, inlineBinary p)]) = true := by
  have hb := toBytes_binary p hr hk
  rw [inlineBinary, elementF_inline _ _ _ hc, validB64_enc hb.1, b64enc_isEmpty, hb.2, hne]
  simp

/-- `b` says that the value has items, which is all `valuesF` asks beyond the items' shape -/
theorem value_conforms {lax : Bool} {vr : VR} {p : Prim} {j : J} {c : FClass} {b : Bool}
    (hm : primMembers vr p = .ok [(kValue, j)]) (hc : fClass vr = c) (h1 : c ≠ .binary)
    (h2 : c ≠ .sq) (hv : valuesF lax c j = (lax || b)) (hb : b = true) :
    ∃ ms, primMembers vr p = .ok ms ∧
      elementF lax (.obj ((kVr, .str (vrName vr)) :: ms)) = true :=
  ⟨_, hm, by rw [elementF_value lax vr j c hc h1 h2, hv, hb, Bool.or_true]⟩

/-- every well-typed primitive value: serialisation succeeds and the attribute object conforms -/
theorem prim_conforms (lax : Bool) (vr : VR) (p : Prim)
    (hk : kindOk vr p = true) (hr : p.inRange = true) :
    ∃ ms, primMembers vr p = .ok ms ∧
      elementF lax (.obj ((kVr, .str (vrName vr)) :: ms)) = true := by
  cases hne : p.nonEmpty with
  | false => exact ⟨[], primMembers_of_empty vr p hne, elementF_empty lax vr⟩
  | true =>
  have hm := primMembers_of_nonEmpty vr p hne
  cases kindOk_kind hk hne with
  | text hs hf hd hp =>
    rw [hs, asStrings_of_not_tags hp] at hm
    exact value_conforms hm hf nofun nofun (valuesF_text lax _)
      (by rw [toMultiStr_isEmpty hne]; rfl)
  | «at» l =>
    exact value_conforms hm rfl nofun nofun (valuesF_at lax l) hne
  | pn p =>
    exact value_conforms hm rfl nofun nofun (valuesF_pn lax _)
      (by rw [toMultiStr_isEmpty hne]; rfl)
  | binary hs hf hb =>
    rw [hs] at hm
    exact ⟨_, hm, binary_conforms lax vr p hf hr hb hne⟩
  | numStrs hs hf hd l =>
    rw [hs] at hm
    exact value_conforms hm hf nofun nofun (valuesF_numstr_strs lax l) hne
  | numStr hs hf hd s =>
    rw [hs] at hm
    exact value_conforms hm hf nofun nofun (valuesF_numstr_strs lax [s]) rfl
  | isI32 l =>
    exact value_conforms hm rfl nofun nofun (valuesF_numstr_ints lax l) hne
  | dsF64 l =>
    exact value_conforms hm rfl nofun nofun (valuesF_numstr_float lax _ _ l) hne
  | ss l =>
    exact value_conforms hm rfl nofun nofun (valuesF_int_signed lax _ _ l hr) hne
  | us l =>
    exact value_conforms hm rfl nofun nofun
      (valuesF_int_unsigned lax 65535 65536 rfl l hr) hne
  | sl l =>
    exact value_conforms hm rfl nofun nofun (valuesF_int_signed lax _ _ l hr) hne
  | ul l =>
    exact value_conforms hm rfl nofun nofun
      (valuesF_int_unsigned lax 4294967295 4294967296 rfl l hr) hne
  | sv l =>
    exact value_conforms hm rfl nofun nofun (valuesF_bigint_signed lax l hr) hne
  | uv l =>
    exact value_conforms hm rfl nofun nofun (valuesF_bigint_unsigned lax l hr) hne
  | fl l =>
    exact value_conforms hm rfl nofun nofun (valuesF_float lax _ _ l) hne
  | fd l =>
    exact value_conforms hm rfl nofun nofun (valuesF_float lax _ _ l) hne
theorem Elem.wf_tag : ∀ (e : Elem), e.wf = true → e.tag < 4294967296
  | .prim t _ _, h => by simpa [Elem.wf, Elem.tag] using h
  | .seq t _ _, h => by
    simp only [Elem.wf, Bool.and_eq_true, decide_eq_true_eq] at h
    exact h.1
  | .pix t _, h => by simpa [Elem.wf, Elem.tag] using h

theorem tagsOf_lt : ∀ (es : List Elem), elemsWf es = true → ∀ t ∈ tagsOf es, t < 4294967296
  | [], _, t, ht => by simp [tagsOf] at ht
  | e :: es, h, t, ht => by
    simp only [elemsWf, Bool.and_eq_true] at h
    simp only [tagsOf, List.mem_cons] at ht
    cases ht with
    | inl h1 => subst h1; exact Elem.wf_tag e h.1
    | inr h1 => exact tagsOf_lt es h.2 t h1

mutual
theorem elem_conforms (lax : Bool) : ∀ (e : Elem), e.wf = true → e.typed = true →
    ∃ j, elemToJson e = .ok j ∧ elementF lax j = true
  | .prim t vr p, _, ht => by
    simp only [Elem.typed, Bool.and_eq_true] at ht
    obtain ⟨ms, h1, h2⟩ := prim_conforms lax vr p ht.1 ht.2
    exact ⟨_, by simp [elemToJson, h1], h2⟩
  | .seq t vr [], _, _ => ⟨_, rfl, elementF_empty lax vr⟩
  | .seq t vr (d :: ds), hw, ht => by
    simp only [Elem.typed, Bool.and_eq_true, beq_iff_eq] at ht
    simp only [Elem.wf, Bool.and_eq_true] at hw
    obtain ⟨js, h1, h2, h3⟩ := items_conform lax (d :: ds) hw.2 ht.2
    refine ⟨.obj [(kVr, .str (vrName vr)), (kValue, .arr js)], by simp [elemToJson, h1], ?_⟩
    have hvr : fClass vr = .sq := by rw [ht.1]; rfl
    rw [elementF_sq _ _ _ hvr]
    simp [itemsF, h2, h3]
  | .pix t vr, _, _ => ⟨_, rfl, elementF_empty lax vr⟩
theorem items_conform (lax : Bool) : ∀ (items : List (List Elem)), itemsWf items = true →
    itemsTyped items = true →
    ∃ js, itemsToJson items = .ok js ∧ allF lax js = true ∧ js.isEmpty = items.isEmpty
  | [], _, _ => ⟨[], rfl, rfl, rfl⟩
  | d :: ds, hw, ht => by
    simp only [itemsWf, Bool.and_eq_true] at hw
    simp only [itemsTyped, Bool.and_eq_true] at ht
    obtain ⟨ms, m1, m2, m3⟩ := members_conform lax d hw.1.1 ht.1
    obtain ⟨js, j1, j2, _⟩ := items_conform lax ds hw.2 ht.2
    refine ⟨.obj ms :: js, by simp [itemsToJson, m1, j1], ?_, rfl⟩
    simp only [allF, annexFWith, m2, j2, Bool.and_true, m3]
    exact keysAscending_map_tagKey _ hw.1.2 (tagsOf_lt d hw.1.1)
theorem members_conform (lax : Bool) : ∀ (es : List Elem), elemsWf es = true →
    elemsTyped es = true →
    ∃ ms, membersToJson es = .ok ms ∧ membersF lax ms = true ∧ keysOf ms = (tagsOf es).map tagKey
  | [], _, _ => ⟨[], rfl, rfl, rfl⟩
  | e :: es, hw, ht => by
    simp only [elemsWf, Bool.and_eq_true] at hw
    simp only [elemsTyped, Bool.and_eq_true] at ht
    obtain ⟨j, e1, e2⟩ := elem_conforms lax e hw.1 ht.1
    obtain ⟨ms, m1, m2, m3⟩ := members_conform lax es hw.2 ht.2
    refine ⟨(tagKey e.tag, j) :: ms, by simp [membersToJson, e1, m1], ?_, ?_⟩
    · simp [membersF, isTagKey_tagKey, e2, m2]
    · simp [keysOf, tagsOf, m3]
end

/-- **C24.** Every well-typed data set (`DataSet.wf`: tags in the BTreeMap's order; `elemsTyped`:
value variants belong to their VRs, numbers in range) serialises without error or panic, and the
output passes the Annex F validator: an object with 8-upper-hex keys in ascending order whose
members have `"vr"` first and the Annex F value form of that VR (AT as 8 hex digits, PN objects
with `Alphabetic`, FL/FD/SL/SS/UL/US numbers with `"NaN"`/`"inf"`/`"-inf"` for non-finite floats,
binary VRs as canonical base64 `InlineBinary`, sequences as arrays of such objects), and no
`Value`/`InlineBinary` member for a value without items — at every nesting depth. -/
theorem annexF_toJson (ds : DataSet) (hw : ds.wf = true) (ht : elemsTyped ds = true) :
    ∃ j, toJson ds = .ok j ∧ annexF j = true := by
  simp only [DataSet.wf, Bool.and_eq_true] at hw
  obtain ⟨ms, m1, m2, m3⟩ := members_conform false ds hw.1 ht
  refine ⟨.obj ms, by simp [toJson, m1], ?_⟩
  simp only [annexF, annexFWith, m2, Bool.and_true, m3]
  exact keysAscending_map_tagKey _ hw.2 (tagsOf_lt ds hw.1)

/-- the serialiser cannot panic on a well-typed data set (its two panic sites,
`unreachable!("unexpected VR SQ …")` and `AsNumbers` on dates/tags, need an ill-typed element) -/
theorem toJson_no_panic (ds : DataSet) (hw : ds.wf = true) (ht : elemsTyped ds = true) :
    toJson ds ≠ .panic := by
  obtain ⟨j, h, _⟩ := annexF_toJson ds hw ht
  simp [h]

/-- … and it *can* on an ill-typed one: a date under a numeric VR, a primitive under `SQ`. -/
theorem toJson_panics_illtyped :
    toJson [.prim 0x00280010 .US (.date [([50, 48], [50, 48])])] = .panic ∧
    toJson [.prim 0x00280010 .SQ (.str [65])] = .panic := ⟨rfl, rfl⟩

/-- the binary clause says what the bytes are: `InlineBinary` decodes to the little-endian bytes -/
theorem inlineBinary_decodes (p : Prim) (hr : p.inRange = true)
    (hk : p.binKind = true) :
    ∃ s, inlineBinary p = .str s ∧ b64dec s = some (toBytes p) :=
  ⟨_, rfl, b64dec_enc _ (toBytes_binary p hr hk).1⟩

/-- values without items have no `Value`/`InlineBinary` member (repaired finding
`empty-value-has-member`): a zero-length `U16` vector, an empty `U8` buffer, an item-less sequence -/
example : toJson [.prim 0x00280010 .US (.u16 []), .prim 0x7FE00010 .OB (.u8 []), .seq 0x7FE00020 .SQ []]
    = .ok (.obj [(ascii "00280010", .obj [(kVr, .str (ascii "US"))]),
                 (ascii "7FE00010", .obj [(kVr, .str (ascii "OB"))]),
                 (ascii "7FE00020", .obj [(kVr, .str (ascii "SQ"))])]) := by rfl

/-- AT values are written as eight hex digits (repaired defect #8), e.g. `"00100020"` -/
example : toJson [.prim 0x00209165 .AT (.tags [0x00100020])] =
    .ok (.obj [(ascii "00209165", .obj [(kVr, .str (ascii "AT")),
      (kValue, .arr [.str (ascii "00100020")])])]) := by rfl

/-- non-vacuity: a data set with nested sequences, a non-finite float, a big integer, binary
values and empty vectors meets the hypotheses of `annexF_toJson` -/
example :
    let ds : DataSet := [
      .prim 0x00080018 .UI (.strs [ascii "1.2.3 "]),
      .prim 0x00186020 .FL (.f32 [0x7FC00000, 0x3F800000]),
      .prim 0x00280010 .US (.u16 []),
      .seq 0x00400275 .SQ [[.prim 0x00400009 .SV (.i64 [-9007199254740993])], []],
      .prim 0x7FE00010 .OW (.u16 [1, 65535])]
    ds.wf = true ∧ elemsTyped ds = true := by decide

end Dicom.Json
