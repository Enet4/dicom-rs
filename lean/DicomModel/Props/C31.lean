import DicomModel.Model.CmdSet
import DicomModel.Lemmas.Bytes
/-
C31 — a command set records in its Command Group Length (0000,0000) exactly the number of bytes the
remaining command elements occupy when written in Implicit VR Little Endian.

`cmdLen` is the `u32` sum of `command_from_iter_with_dict`, `encodeImplicit` what the data set writer
emits (`cmd_group_length`); `cmd_set_written` is about the object `command` builds, `oracle_on_model`
about the driver's byte-level oracle.
Values: Empty, Str, Strs, U16, U32, Tags of any length and multiplicity, any VR (the VR only
selects the padding byte), default repertoire (one byte per character).
-/
namespace Dicom.Cmd

/-! ### lengths of written values -/

theorem joinBs_length_cons (s : Bytes) (ss : List Bytes) :
    (joinBs (s :: ss)).length + 1 = sumLen1 (s :: ss) := by
  induction ss generalizing s with
  | nil => simp [joinBs, sumLen1]
  | cons t ts ih =>
    have := ih t
    simp only [joinBs, sumLen1, List.length_append, List.length_cons] at *
    omega

theorem padTo_length (vr : VR) (b : Bytes) : (padTo vr b).length = (b.length + 1) / 2 * 2 := by
  unfold padTo
  split
  · simp only [List.length_append, List.length_cons, List.length_nil]; omega
  · omega

theorem tagBytes_length (t : Nat) : (tagBytes t).length = 4 := by simp [tagBytes]

/-- the writer emits exactly `calculate_byte_len` rounded up to even — for every variant, every
multiplicity, including the `Strs` formula `Σ(len+1) & !1` -/
theorem valueBytes_length (vr : VR) (v : Val) :
    (valueBytes vr v).length = (calcByteLen v + 1) / 2 * 2 := by
  cases v with
  | empty => simp [valueBytes, calcByteLen]
  | str s => simp [valueBytes, calcByteLen, padTo_length]
  | strs ss =>
    cases ss with
    | nil => simp [valueBytes, calcByteLen, padTo, joinBs, sumLen1]
    | cons s ss =>
      have := joinBs_length_cons s ss
      simp only [valueBytes, calcByteLen, padTo_length]
      omega
  | u16s l =>
    simp only [valueBytes, calcByteLen, flatMap_length_const le16 2 le16_length]; omega
  | u32s l =>
    simp only [valueBytes, calcByteLen, flatMap_length_const le32 4 le32_length]; omega
  | tags l =>
    simp only [valueBytes, calcByteLen, flatMap_length_const tagBytes 4 tagBytes_length]; omega

theorem implHeader_length (t n : Nat) : (implHeader t n).length = 8 := by simp [implHeader]

theorem encodeElem_length (e : Elem) :
    (encodeElem e).length = 8 + (calcByteLen e.val + 1) / 2 * 2 := by
  simp [encodeElem, implHeader_length, valueBytes_length]

/-- one element's contribution is its written size, as `u32` arithmetic sees it (no size bound:
the undefined-length escape `l = 0xFFFF_FFFF` agrees with the wrapped `even_len`) -/
theorem contrib_mod (e : Elem) (h : e.group = 0 ∧ e.element ≠ 0) :
    contrib e % U32 = (encodeElem e).length % U32 := by
  rw [encodeElem_length]
  have hc : contrib e =
      (if valueLength e.val ≠ 0xFFFFFFFF then evenLen (valueLength e.val) else 0) + 8 := by
    simp [contrib, h]
  rw [hc]
  by_cases hv : valueLength e.val = 0xFFFFFFFF
  · rw [if_neg (by simp [hv])]; simp only [valueLength, U32] at hv ⊢; omega
  · rw [if_pos hv]; simp only [valueLength, evenLen, U32] at hv ⊢; omega

theorem contrib_other (e : Elem) (h : ¬ (e.group = 0 ∧ e.element ≠ 0)) : contrib e = 0 := by
  simp [contrib, h]

/-- For *any* list of elements the running sum equals the written
size of the command elements other than (0000,0000), modulo 2^32. -/
theorem cmd_group_length_mod (es : List Elem) :
    cmdLen es = (encodeImplicit (others es)).length % U32 := by
  induction es with
  | nil => simp [cmdLen, others, encodeImplicit]
  | cons e es ih =>
    by_cases h : e.group = 0 ∧ e.element ≠ 0
    · have hc := contrib_mod e h
      have : others (e :: es) = e :: others es := by simp [others, h]
      rw [this]
      simp only [cmdLen, encodeImplicit, List.flatMap_cons, List.length_append] at *
      rw [ih]; simp only [U32] at *; omega
    · have : others (e :: es) = others es := by simp [others, h]
      rw [this]
      simp only [cmdLen, contrib_other e h, Nat.zero_add]
      rw [ih]; simp [U32]

/-- When the command elements fit a `u32` count, the recorded
length is exactly the number of bytes they occupy in Implicit VR LE. -/
theorem cmd_group_length (es : List Elem) (h : (encodeImplicit (others es)).length < U32) :
    cmdLen es = (encodeImplicit (others es)).length := by
  rw [cmd_group_length_mod, Nat.mod_eq_of_lt h]

/-! ### the map: what the built object contains and how it is written -/

def KeysGt (k : Nat) (m : List Elem) : Prop := ∀ x ∈ m, k < x.tag

/-- strictly ascending tags (the `BTreeMap` iteration order, no duplicate keys) -/
def Sorted : List Elem → Prop
  | [] => True
  | x :: xs => KeysGt x.tag xs ∧ Sorted xs

theorem insert_mem {e x : Elem} {m : List Elem} (h : x ∈ insert e m) : x = e ∨ x ∈ m := by
  fun_induction insert e m with
  | case1 => exact Or.inl (List.mem_singleton.mp h)
  | case2 y ys => exact List.mem_cons.mp h
  | case3 y ys => exact (List.mem_cons.mp h).imp_right (List.mem_cons_of_mem y)
  | case4 y ys _ _ ih =>
    rcases List.mem_cons.mp h with h | h
    · exact Or.inr (h ▸ List.mem_cons_self)
    · exact (ih h).imp_right (List.mem_cons_of_mem y)

theorem insert_sorted (e : Elem) (m : List Elem) (h : Sorted m) : Sorted (insert e m) := by
  fun_induction insert e m with
  | case1 => exact ⟨nofun, trivial⟩
  | case2 y ys hlt => exact ⟨List.forall_mem_cons.2 ⟨hlt, fun x hx => Nat.lt_trans hlt (h.1 x hx)⟩, h⟩
  | case3 y ys _ heq => exact ⟨fun x hx => by rw [heq]; exact h.1 x hx, h.2⟩
  | case4 y ys h1 h2 ih =>
    refine ⟨fun x hx => ?_, ih h.2⟩
    rcases insert_mem hx with hx | hx
    · rw [hx]; omega
    · exact h.1 x hx

theorem collect_sorted_aux (es m : List Elem) (h : Sorted m) :
    Sorted (es.foldl (fun m e => insert e m) m) := by
  induction es generalizing m with
  | nil => exact h
  | cons e es ih => exact ih _ (insert_sorted e m h)

theorem collect_sorted (es : List Elem) : Sorted (collect es) :=
  collect_sorted_aux es [] trivial

theorem mem_foldl_insert {es m : List Elem} {x : Elem}
    (h : x ∈ es.foldl (fun m e => insert e m) m) : x ∈ es ∨ x ∈ m := by
  induction es generalizing m with
  | nil => exact Or.inr h
  | cons e es ih =>
    rcases ih h with h | h
    · exact Or.inl (List.mem_cons_of_mem _ h)
    · rcases insert_mem h with h | h
      · exact Or.inl (by simp [h])
      · exact Or.inr h

theorem cmdLen_lt (es : List Elem) : cmdLen es < U32 := by
  cases es with
  | nil => simp [cmdLen, U32]
  | cons z zs => exact Nat.mod_lt _ (by simp [U32])

/-- inserting the group length (tag 0) puts it first and removes at most an old tag-0 entry -/
theorem insert_zero (n : Nat) (m : List Elem) (h : Sorted m) :
    ∃ rest, insert (groupLengthElem n) m = groupLengthElem n :: rest ∧ KeysGt 0 rest ∧ Sorted rest ∧
      cmdLen rest = cmdLen m ∧ (∀ x, x ∈ rest → x ∈ m) := by
  cases m with
  | nil => exact ⟨[], by simp [insert], by simp [KeysGt], trivial, rfl, by simp⟩
  | cons y ys =>
    by_cases hy : 0 < y.tag
    · exact ⟨y :: ys, by simp [insert, groupLengthElem, hy],
        List.forall_mem_cons.2 ⟨hy, fun x hx => Nat.lt_trans hy (h.1 x hx)⟩, h, rfl, by simp⟩
    · have hy0 : y.tag = 0 := by omega
      refine ⟨ys, by simp [insert, groupLengthElem, hy0], ?_, h.2, ?_, by simp +contextual⟩
      · intro x hx; have := h.1 x hx; omega
      · have : contrib y = 0 := by
          apply contrib_other; simp [Elem.element, hy0]
        simp only [cmdLen, this, Nat.zero_add]
        exact (Nat.mod_eq_of_lt (cmdLen_lt ys)).symm

theorem others_of_group0 (m : List Elem) (h0 : KeysGt 0 m) (hg : ∀ x ∈ m, x.group = 0) :
    others m = m := by
  apply List.filter_eq_self.mpr
  intro x hx
  have h1 := h0 x hx
  have h2 := hg x hx
  refine decide_eq_true ⟨h2, ?_⟩
  simp only [Elem.group, Elem.element] at *
  omega

theorem encode_groupLength (n : Nat) :
    encodeElem (groupLengthElem n) = implHeader 0 4 ++ le32 n := by
  simp [encodeElem, groupLengthElem, headerLen, calcByteLen, evenLen, valueBytes, U32]

/-- **The written command set is self-consistent** (repaired construction, *any* input elements —
duplicate tags, a caller-supplied (0000,0000), elements of other groups): it starts with
(0000,0000) UL of length 4 whose value is the byte count of the command elements that follow. -/
theorem cmd_set_written (es : List Elem) :
    ∃ rest n, command es = groupLengthElem n :: rest ∧ Sorted rest ∧ KeysGt 0 rest ∧
      encodeImplicit (command es) = implHeader 0 4 ++ le32 n ++ encodeImplicit rest ∧
      n = (encodeImplicit (others rest)).length % U32 := by
  obtain ⟨rest, h1, h2, h3, h4, _⟩ := insert_zero (cmdLen (collect es)) (collect es) (collect_sorted es)
  refine ⟨rest, cmdLen (collect es), h1, h3, h2, ?_, ?_⟩
  · simp only [command] at *
    rw [h1]; simp [encodeImplicit, encode_groupLength]
  · rw [← h4]; exact cmd_group_length_mod rest

theorem cmd_set_written_group0 (es : List Elem) (hg : ∀ e ∈ es, e.group = 0) :
    ∃ rest n, command es = groupLengthElem n :: rest ∧ (∀ x ∈ rest, x.group = 0) ∧
      encodeImplicit (command es) = implHeader 0 4 ++ le32 n ++ encodeImplicit rest ∧
      n = (encodeImplicit rest).length % U32 := by
  obtain ⟨rest, n, h1, _, h3, h4, h5⟩ := cmd_set_written es
  have hgr : ∀ x ∈ rest, x.group = 0 := by
    intro x hx
    have hx' : x ∈ command es := by rw [h1]; exact List.mem_cons_of_mem _ hx
    rcases insert_mem hx' with h | h
    · have := h3 x hx; rw [h] at this; cases this
    · rcases mem_foldl_insert h with h | h
      · exact hg x h
      · cases h
  rw [others_of_group0 rest h3 hgr] at h5
  exact ⟨rest, n, h1, hgr, h4, h5⟩

/-- … and with a total below 2^32 the value is the number of **all** bytes that follow the group
length element. -/
theorem cmd_set_written_pure (es : List Elem) (hg : ∀ e ∈ es, e.group = 0)
    (hsz : ∀ rest n, command es = groupLengthElem n :: rest → (encodeImplicit rest).length < U32) :
    ∃ tail n, encodeImplicit (command es) = implHeader 0 4 ++ le32 n ++ tail ∧ n = tail.length := by
  obtain ⟨rest, n, h1, _, h4, h5⟩ := cmd_set_written_group0 es hg
  exact ⟨encodeImplicit rest, n, h4, by rw [h5, Nat.mod_eq_of_lt (hsz rest n h1)]⟩

/-! ### the unrepaired construction (sum over the input sequence) -/

theorem cmdLen_insert_of_fresh (e : Elem) (m : List Elem) (h : ∀ x ∈ m, x.tag ≠ e.tag) :
    cmdLen (insert e m) = (contrib e + cmdLen m) % U32 := by
  fun_induction insert e m with
  | case1 => simp [cmdLen]
  | case2 => simp [cmdLen]
  | case3 y ys _ heq => exact absurd heq.symm (h y List.mem_cons_self)
  | case4 y ys _ _ ih =>
    have := ih fun x hx => h x (List.mem_cons_of_mem _ hx)
    simp only [cmdLen, this, U32]; omega

theorem cmdLen_foldl_insert (es m : List Elem) (hd : (es.map (·.tag)).Nodup)
    (hm : ∀ x ∈ m, ∀ y ∈ es, x.tag ≠ y.tag) :
    cmdLen (es.foldl (fun m e => insert e m) m) = (cmdLen es + cmdLen m) % U32 := by
  induction es generalizing m with
  | nil => simp [cmdLen, Nat.mod_eq_of_lt (cmdLen_lt m)]
  | cons e es ih =>
    obtain ⟨he, hd'⟩ := List.nodup_cons.mp hd
    rw [List.foldl_cons, ih (insert e m) hd', cmdLen_insert_of_fresh e m fun x hx => hm x hx e (by simp)]
    · simp only [cmdLen, U32]; omega
    · intro x hx y hy
      rcases insert_mem hx with h | h
      · rw [h]; exact fun heq => he (List.mem_map.mpr ⟨y, hy, heq.symm⟩)
      · exact hm x h y (List.mem_cons_of_mem _ hy)

/-- With pairwise distinct tags the input-order sum equals the sum over the map, so the unrepaired
construction builds the same object. -/
theorem commandInputSum_eq_of_distinct (es : List Elem) (hd : (es.map (·.tag)).Nodup) :
    commandInputSum es = command es := by
  have h : cmdLen (collect es) = cmdLen es := by
    rw [collect, cmdLen_foldl_insert es [] hd nofun]
    exact Nat.mod_eq_of_lt (cmdLen_lt es)
  simp [commandInputSum, command, h]

/-- The distinct-tags hypothesis is needed for the unrepaired construction: with a repeated tag the
element is kept once but counted twice (recorded 20, written 10). -/
theorem commandInputSum_dup_counted_twice :
    let e : Elem := ⟨0x00000100, .US, .u16s [1]⟩
    commandInputSum [e, e] = [groupLengthElem 20, e] ∧
    (encodeImplicit (others [e])).length = 10 := by decide

/-! ### the byte-level oracle used by the driver is sound for encoder output -/

/-- an element the `u32` header can describe: 32-bit tag, value shorter than 2^32 -/
def Fits (e : Elem) : Prop := e.tag < U32 ∧ calcByteLen e.val + 1 < U32

theorem evenLen_headerLen (e : Elem) (h : calcByteLen e.val + 1 < U32) :
    evenLen (headerLen e.vr e.val) = (valueBytes e.vr e.val).length := by
  have hv := valueBytes_length e.vr e.val
  unfold headerLen
  split <;> simp only [evenLen, U32] at * <;> omega

theorem walk_elem (e : Elem) (he : Fits e) (f : Nat) (r : Bytes) :
    walk (f + 1) (encodeElem e ++ r) =
      (walk f r).map fun l => (e.tag, (encodeElem e).length) :: l := by
  have hg : e.tag / 65536 < 65536 := by have := he.1; simp only [U32] at this; omega
  have hel : e.tag % 65536 < 65536 := by omega
  have hl32 : (valueBytes e.vr e.val).length < 4294967296 := by
    rw [valueBytes_length]; have := he.2; simp only [U32] at this; omega
  have hshape : encodeElem e ++ r =
      le16 (e.tag / 65536) ++ (le16 (e.tag % 65536) ++ (le32 (valueBytes e.vr e.val).length ++
        (valueBytes e.vr e.val ++ r))) := by
    simp [encodeElem, implHeader, evenLen_headerLen e he.2, List.append_assoc]
  rw [hshape, walk]
  · simp only [rdLe16_le16 _ hg, rdLe16_le16 _ hel, rdLe32_le32 _ hl32, takeN_append]
    cases walk f r with
    | none => rfl
    | some l =>
      simp only [Option.map, encodeElem, List.length_append, implHeader_length]
      congr 3
      omega
  · simp [le16]

theorem walk_encode (es : List Elem) (hf : ∀ e ∈ es, Fits e) (fuel : Nat) (hfuel : es.length < fuel) :
    walk fuel (encodeImplicit es) = some (es.map fun e => (e.tag, (encodeElem e).length)) := by
  induction es generalizing fuel with
  | nil =>
    cases fuel with
    | zero => omega
    | succ f => simp [encodeImplicit, walk]
  | cons e es ih =>
    cases fuel with
    | zero => omega
    | succ f =>
      obtain ⟨he, hes⟩ := List.forall_mem_cons.mp hf
      rw [encodeImplicit, List.flatMap_cons, walk_elem e he, ← encodeImplicit,
        ih hes f (by simp at hfuel; omega)]
      rfl

theorem length_le_encodeImplicit (l : List Elem) : l.length ≤ (encodeImplicit l).length := by
  induction l with
  | nil => exact Nat.le_refl 0
  | cons x xs ih =>
    simp only [encodeImplicit, List.flatMap_cons, List.length_append, List.length_cons] at *
    have := encodeElem_length x; omega

/-- **Oracle soundness**: on the bytes of a pure command set built by the (repaired) construction
the driver's oracle computes `(recorded, actual)` with `recorded = actual` — so a `PROP-FAIL` from
the oracle on real bytes can only come from an implementation that deviates from the model. -/
theorem oracle_on_model (es : List Elem) (hg : ∀ e ∈ es, e.group = 0)
    (hf : ∀ e ∈ command es, Fits e) (hsz : (encodeImplicit (command es)).length < U32) :
    ∃ n, recordedVsActual (encodeImplicit (command es)) = some (n, n) := by
  obtain ⟨rest, n, h1, hmem, h4, h5⟩ := cmd_set_written_group0 es hg
  have hw := walk_encode (command es) hf ((encodeImplicit (command es)).length + 1)
    (Nat.lt_succ_of_le (length_le_encodeImplicit _))
  have hrl : (encodeImplicit rest).length < U32 := by
    rw [h4] at hsz; simp only [List.length_append] at hsz; omega
  rw [Nat.mod_eq_of_lt hrl] at h5
  refine ⟨n, ?_⟩
  unfold recordedVsActual
  rw [hw]
  have hgl : (encodeElem (groupLengthElem n)).length = 12 := rfl
  have hgt : (groupLengthElem n).tag = 0 := rfl
  have hd : List.drop 8 (encodeImplicit (command es)) = le32 n ++ encodeImplicit rest := by
    rw [h4]; rfl
  rw [hd, rdLe32_le32 _ (h5 ▸ hrl), h1]
  simp only [List.map_cons, hgl, hgt]
  -- all of `rest` is in group 0, so the filter keeps everything and the sum is the written size
  have hsum : (((rest.map fun e => (e.tag, (encodeElem e).length)).filter
      fun p => p.1 / 65536 = 0).map (·.2)).sum = (encodeImplicit rest).length := by
    rw [List.filter_eq_self.mpr, List.map_map, encodeImplicit, List.length_flatMap]
    · rfl
    · intro p hp
      obtain ⟨e, he, rfl⟩ := List.mem_map.mp hp
      exact decide_eq_true (hmem e he)
  rw [hsum, h5]

/-- C-ECHO-RQ-like command: the hypotheses of the theorems are met and the value is 56. -/
example :
    let es : List Elem := [
      ⟨0x00000002, .UI, .str [0x31, 0x2e, 0x32, 0x2e, 0x38, 0x34, 0x30, 0x2e, 0x31, 0x30, 0x30, 0x30, 0x38, 0x2e, 0x31, 0x2e, 0x31]⟩,
      ⟨0x00000100, .US, .u16s [0x30]⟩, ⟨0x00000110, .US, .u16s [1]⟩, ⟨0x00000800, .US, .u16s [0x0101]⟩]
    (∀ e ∈ es, e.group = 0) ∧ (es.map (·.tag)).Nodup ∧ cmdLen es = 56 ∧
    (encodeImplicit (others es)).length = 56 ∧
    recordedVsActual (encodeImplicit (command es)) = some (56, 56) := by decide

end Dicom.Cmd
