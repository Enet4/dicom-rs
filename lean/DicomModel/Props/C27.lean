import DicomModel.Model.PduWire
import DicomModel.Props.C25
/-
C27 — PDU reception is independent of how the byte stream is segmented.

`receive` (Model/PduWire.lean) models one call of `read_pdu_from_wire` / `read_pdu_from_wire_async`
over a script of transport reads. The theorems quantify over *every* script whose concatenation is
the byte stream (`chunks.flatten = stream`) with no empty read. They are built from C25's `pdu_rt` and
`prefix_incomplete`, with the buffer invariant
`read_buffer ++ (script left).flatten = bytes of the PDUs not yet returned`.
The second half puts the transport below the loop (`receiveR`): the peer's segments are re-split by
the room each read offers (8192 for the sync `BufReader`, any positive spare capacity for the async
`read_buf`).
-/
namespace Dicom.Pdu

/-- what a sequence of receives needs of each PDU: well-formed, and not longer than the maximum
when the receiver is strict -/
def Receivable (mx : Nat) (strict : Bool) (p : Pdu) : Prop :=
  WellFormedPdu p ∧ ∀ bs, writePdu p = .ok bs → strict = true → bs.length - 6 ≤ mx

/-- either all of the encoding `e` has arrived, or the buffer is a strict prefix of it -/
theorem readPdu_front {mx : Nat} {strict : Bool} (hmx : validMax mx) {p : Pdu} {e : Bytes}
    (hp : Receivable mx strict p) (he : writePdu p = .ok e) {buf rest tail : Bytes}
    (hb : buf ++ rest = e ++ tail) :
    (∃ c, tail = c ++ rest ∧ readPdu mx strict buf = .ok (normPdu p, c)) ∨
      (readPdu mx strict buf = .inc ∧ rest ≠ []) := by
  have hfit := hp.2 e he
  rcases List.append_eq_append_iff.1 hb with ⟨a, rfl, rfl⟩ | ⟨c, rfl, rfl⟩
  · cases a with
    | nil => exact .inl ⟨[], rfl, by simpa using pdu_rt hp.1 he mx strict hmx hfit []⟩
    | cons x a =>
      refine .inr ⟨?_, by simp⟩
      simpa using prefix_incomplete he mx strict hmx hfit buf.length (by simp)
  · exact .inl ⟨c, rfl, pdu_rt hp.1 he mx strict hmx hfit c⟩

/-- **One receive.** If buffer plus script start with the encoding `e` of `p`, the receive returns
`p` (normal form) whatever the segmentation, and the state left is again buffer ++ script = the
bytes after `e`: nothing lost, nothing duplicated. -/
theorem receive_one {mx : Nat} {strict : Bool} (hmx : validMax mx) {p : Pdu} {e : Bytes}
    (hp : Receivable mx strict p) (he : writePdu p = .ok e) (tail : Bytes) :
    ∀ (chunks : List Bytes) (buf : Bytes), buf ++ chunks.flatten = e ++ tail → (∀ c ∈ chunks, c ≠ []) →
      ∃ buf' chunks', receive mx strict buf chunks = .ok (normPdu p, buf', chunks') ∧
        buf' ++ chunks'.flatten = tail ∧ (∀ c ∈ chunks', c ≠ []) := by
  intro chunks buf hb hne
  rcases readPdu_front hmx hp he hb with ⟨c', rfl, hr⟩ | ⟨hinc, hrest⟩
  · exact ⟨c', chunks, by unfold receive; simp only [hr], rfl, hne⟩
  · cases chunks with
    | nil => exact absurd rfl hrest
    | cons c cs =>
      have hce : c.isEmpty = false := by simpa using hne c (by simp)
      obtain ⟨buf', chunks', h3, h4, h5⟩ :=
        receive_one hmx hp he tail cs (buf ++ c) (by simpa using hb) fun x hx => hne x (by simp [hx])
      exact ⟨buf', chunks', by rw [receive, hinc]; simpa [hce] using h3, h4, h5⟩

theorem nil_of_stream_nil {buf : Bytes} {chunks : List Bytes} (hb : buf ++ chunks.flatten = [])
    (hne : ∀ c ∈ chunks, c ≠ []) : buf = [] ∧ chunks = [] := by
  obtain ⟨h1, h2⟩ := List.append_eq_nil_iff.1 hb
  cases chunks with
  | nil => exact ⟨h1, rfl⟩
  | cons c cs => exact absurd (List.append_eq_nil_iff.1 h2).1 (hne c (by simp))

/-- **Sequence.** For any PDUs `ps` written to the wire and any segmentation of the stream
(`chunks.flatten = stream`, no empty read), `ps.length` successive receives starting from an empty
buffer return exactly `ps` (normal forms) in order, and leave buffer and script empty. -/
theorem receive_seq {mx : Nat} {strict : Bool} (hmx : validMax mx) :
    ∀ (ps : List Pdu) (stream : Bytes), (∀ p ∈ ps, Receivable mx strict p) → writeAll ps = .ok stream →
      ∀ (buf : Bytes) (chunks : List Bytes), buf ++ chunks.flatten = stream → (∀ c ∈ chunks, c ≠ []) →
        receiveMany mx strict ps.length buf chunks = .ok (ps.map normPdu, [], []) := by
  intro ps
  induction ps with
  | nil =>
    intro stream _ hw buf chunks hb hne
    cases hw
    obtain ⟨rfl, rfl⟩ := nil_of_stream_nil hb hne
    rfl
  | cons p ps ih =>
    intro stream hr hw buf chunks hb hne
    obtain ⟨e, tail, he, ht, rfl⟩ := wcat_ok.1 hw
    obtain ⟨buf', chunks', h1, h2, h3⟩ :=
      receive_one hmx (hr p (by simp)) he tail chunks buf hb hne
    simp only [List.length_cons, receiveMany, h1,
      ih tail (fun q hq => hr q (by simp [hq])) ht buf' chunks' h2 h3, List.map_cons]

/-- the statement of the property: start with an empty buffer, any segmentation of the stream -/
theorem receive_seq_segmentation {mx : Nat} {strict : Bool} (hmx : validMax mx) (ps : List Pdu) (stream : Bytes)
    (hr : ∀ p ∈ ps, Receivable mx strict p) (hw : writeAll ps = .ok stream)
    (chunks : List Bytes) (hseg : chunks.flatten = stream) (hne : ∀ c ∈ chunks, c ≠ []) :
    receiveMany mx strict ps.length [] chunks = .ok (ps.map normPdu, [], []) :=
  receive_seq hmx ps stream hr hw [] chunks (by simpa using hseg) hne

/-- two segmentations of the same stream are indistinguishable to the receiver -/
theorem segmentation_irrelevant {mx : Nat} {strict : Bool} (hmx : validMax mx) (ps : List Pdu) (stream : Bytes)
    (hr : ∀ p ∈ ps, Receivable mx strict p) (hw : writeAll ps = .ok stream)
    (c1 c2 : List Bytes) (h1 : c1.flatten = stream) (h2 : c2.flatten = stream)
    (n1 : ∀ c ∈ c1, c ≠ []) (n2 : ∀ c ∈ c2, c ≠ []) :
    receiveMany mx strict ps.length [] c1 = receiveMany mx strict ps.length [] c2 := by
  rw [receive_seq_segmentation hmx ps stream hr hw c1 h1 n1,
    receive_seq_segmentation hmx ps stream hr hw c2 h2 n2]

/-- a receive that finds a complete PDU in the buffer does not touch the transport -/
theorem receive_buffered_no_read {mx : Nat} {strict : Bool} (hmx : validMax mx) {p : Pdu} {e : Bytes}
    (hp : Receivable mx strict p) (he : writePdu p = .ok e) (rest : Bytes) (chunks : List Bytes) :
    receive mx strict (e ++ rest) chunks = .ok (normPdu p, rest, chunks) := by
  unfold receive
  rw [pdu_rt hp.1 he mx strict hmx (hp.2 e he) rest]

/-- when the peer closes in the middle of a PDU the receive fails with `ConnectionClosed`
(it does not return a PDU made of the partial bytes) -/
theorem receive_truncated_closed {mx : Nat} {strict : Bool} (hmx : validMax mx) {p : Pdu} {e : Bytes}
    (hp : Receivable mx strict p) (he : writePdu p = .ok e) (n : Nat) (hn : n < e.length) :
    receive mx strict (e.take n) [] = .error .closed := by
  unfold receive
  rw [prefix_incomplete he mx strict hmx (hp.2 e he) n hn]

/-- **Any stream.** Whatever the bytes are, a receive that returns a PDU has taken some `k` reads
from the script, and the PDU is what `read_pdu` makes of the buffer extended by exactly those
reads; the new buffer is what `read_pdu` left over, and the script continues after the `k` reads. -/
theorem receive_ok_spec {mx : Nat} {strict : Bool} :
    ∀ (chunks : List Bytes) (buf : Bytes) (p : Pdu) (buf' : Bytes) (cs' : List Bytes),
      receive mx strict buf chunks = .ok (p, buf', cs') →
      ∃ k, cs' = chunks.drop k ∧ readPdu mx strict (buf ++ (chunks.take k).flatten) = .ok (p, buf') := by
  intro chunks buf p buf' cs' h
  fun_induction receive mx strict buf chunks with
  | case1 _ _ _ _ hr =>
    cases h
    exact ⟨0, rfl, by simpa using hr⟩
  | case2 | case3 | case4 => cases h
  | case5 _ _ _ _ _ ih =>
    obtain ⟨k, h1, h2⟩ := ih h
    exact ⟨k + 1, h1, by simpa using h2⟩

/-- **No byte lost, none duplicated — for any stream.** After a successful receive, the bytes of the
old buffer and script are: the returned PDU's own `6 + L` bytes, then the new buffer, then the
remaining script. -/
theorem receive_conserves {mx : Nat} {strict : Bool} (hmx : validMax mx) (chunks : List Bytes) (buf : Bytes)
    (p : Pdu) (buf' : Bytes) (cs' : List Bytes) (h : receive mx strict buf chunks = .ok (p, buf', cs')) :
    ∃ used, buf ++ chunks.flatten = used ++ (buf' ++ cs'.flatten) ∧ declaredLen used = some (used.length - 6) ∧
      6 ≤ used.length := by
  obtain ⟨k, h1, h2⟩ := receive_ok_spec chunks buf p buf' cs' h
  obtain ⟨L, h3, h4, h5⟩ := read_ok_framing mx strict hmx _ p buf' h2
  have hsplit : buf ++ chunks.flatten = (buf ++ (chunks.take k).flatten) ++ cs'.flatten := by
    subst h1
    rw [List.append_assoc, ← List.flatten_append, List.take_append_drop]
  rw [hsplit]
  generalize buf ++ (chunks.take k).flatten = X at h2 h3 h4 h5 ⊢
  obtain ⟨t, z, a, b, c, d, body, rfl⟩ := exists_header (Nat.le_trans (Nat.le_add_right 6 L) h5)
  have hL : L ≤ body.length := by simp at h5; omega
  refine ⟨t :: z :: a :: b :: c :: d :: body.take L, ?_, ?_, by simp⟩
  · rw [h4, Nat.add_comm 6]
    simp [← List.append_assoc]
  · simpa [declaredLen, Nat.min_eq_left hL] using h3

/-! ### The receivers over a transport that re-splits: sync (8 KiB reads) and async (spare capacity) -/

/-- a read with positive room from a transport of non-empty segments delivers a non-empty prefix of
what the transport holds, and leaves non-empty segments -/
theorem readSome_spec {room : Nat} (hroom : 1 ≤ room) {c : Bytes} {cs : List Bytes}
    (hne : ∀ x ∈ c :: cs, x ≠ []) :
    (readSome room (c :: cs)).1 ≠ [] ∧
      (readSome room (c :: cs)).1 ++ (readSome room (c :: cs)).2.flatten = (c :: cs).flatten ∧
      (∀ x ∈ (readSome room (c :: cs)).2, x ≠ []) ∧
      (readSome room (c :: cs)).2.flatten.length < (c :: cs).flatten.length := by
  have hc : c ≠ [] := hne c (by simp)
  have hcl : 1 ≤ c.length := List.length_pos_iff.2 hc
  unfold readSome
  by_cases h : c.length ≤ room
  · simp only [h, if_true]
    exact ⟨hc, by simp, fun x hx => hne x (by simp [hx]), by simp; omega⟩
  · simp only [h, if_false]
    refine ⟨by simp [hc]; omega, by simp [← List.append_assoc], ?_, by simp; omega⟩
    intro x hx
    rcases List.mem_cons.1 hx with rfl | h1
    · simpa using h
    · exact hne x (by simp [h1])

/-- **One receive over a re-splitting transport.** Whatever room each read is given (≥ 1 byte), a
receive returns the PDU whose encoding `e` heads buffer ++ transport, and leaves buffer ++ transport
= the bytes after `e`. -/
theorem receive_one_wire {mx : Nat} {strict : Bool} (hmx : validMax mx) {rooms : Nat → Nat}
    (hrooms : ∀ k, 1 ≤ rooms k) {p : Pdu} {e : Bytes}
    (hp : Receivable mx strict p) (he : writePdu p = .ok e) (tail : Bytes) :
    ∀ (f k : Nat) (buf : Bytes) (chunks : List Bytes), chunks.flatten.length < f →
      buf ++ chunks.flatten = e ++ tail → (∀ c ∈ chunks, c ≠ []) →
      ∃ buf' chunks' k', receiveR mx strict rooms f k buf chunks = .ok (normPdu p, buf', chunks', k') ∧
        buf' ++ chunks'.flatten = tail ∧ (∀ c ∈ chunks', c ≠ []) := by
  intro f
  induction f with
  | zero => intro k buf chunks hf; omega
  | succ f ih =>
    intro k buf chunks hf hb hne
    rcases readPdu_front hmx hp he hb with ⟨c', rfl, hr⟩ | ⟨hinc, hrest⟩
    · exact ⟨c', chunks, k, by rw [receiveR, hr], rfl, hne⟩
    · cases chunks with
      | nil => exact absurd rfl hrest
      | cons c cs =>
        obtain ⟨s1, s2, s3, s4⟩ := readSome_spec (hrooms k) hne
        have hd : (readSome (rooms k) (c :: cs)).1.isEmpty = false := by simpa using s1
        obtain ⟨buf', chunks', k', h3, h4, h5⟩ := ih (k + 1) (buf ++ (readSome (rooms k) (c :: cs)).1)
          (readSome (rooms k) (c :: cs)).2 (by omega) (by rw [List.append_assoc, s2]; exact hb) s3
        exact ⟨buf', chunks', k', by rw [receiveR, hinc]; simpa [hd] using h3, h4, h5⟩

/-- **Sequence over a re-splitting transport**: for any PDUs, any segmentation by the peer
(non-empty segments) and any rooms (≥ 1) offered by the receiver, `ps.length` receives return
exactly `ps` (normal forms), leaving buffer and transport empty. -/
theorem receive_seq_wire {mx : Nat} {strict : Bool} (hmx : validMax mx) {rooms : Nat → Nat}
    (hrooms : ∀ k, 1 ≤ rooms k) :
    ∀ (ps : List Pdu) (stream : Bytes), (∀ p ∈ ps, Receivable mx strict p) → writeAll ps = .ok stream →
      ∀ (k : Nat) (buf : Bytes) (chunks : List Bytes), buf ++ chunks.flatten = stream → (∀ c ∈ chunks, c ≠ []) →
        ∃ k', receiveManyWire mx strict rooms ps.length k buf chunks = .ok (ps.map normPdu, [], [], k') := by
  intro ps
  induction ps with
  | nil =>
    intro stream _ hw k buf chunks hb hne
    cases hw
    obtain ⟨rfl, rfl⟩ := nil_of_stream_nil hb hne
    exact ⟨k, rfl⟩
  | cons p ps ih =>
    intro stream hr hw k buf chunks hb hne
    obtain ⟨e, tail, he, ht, rfl⟩ := wcat_ok.1 hw
    obtain ⟨buf', chunks', k1, h1, h2, h3⟩ :=
      receive_one_wire hmx hrooms (hr p (by simp)) he tail (chunks.flatten.length + 1) k buf chunks
        (Nat.lt_succ_self _) hb hne
    obtain ⟨k2, h4⟩ := ih tail (fun q hq => hr q (by simp [hq])) ht k1 buf' chunks' h2 h3
    exact ⟨k2, by simp only [List.length_cons, receiveManyWire, receiveWire, h1, h4, List.map_cons]⟩

/-- the synchronous receiver (`BufReader`, 8192 bytes of room per read) -/
theorem receive_seq_sync {mx : Nat} {strict : Bool} (hmx : validMax mx) (ps : List Pdu) (stream : Bytes)
    (hr : ∀ p ∈ ps, Receivable mx strict p) (hw : writeAll ps = .ok stream)
    (chunks : List Bytes) (hseg : chunks.flatten = stream) (hne : ∀ c ∈ chunks, c ≠ []) :
    ∃ k, receiveManyWire mx strict (fun _ => 8192) ps.length 0 [] chunks = .ok (ps.map normPdu, [], [], k) :=
  receive_seq_wire hmx (fun _ => by decide) ps stream hr hw 0 [] chunks (by simpa using hseg) hne

/-- the asynchronous receiver (`read_buf` into whatever spare capacity the buffer has) -/
theorem receive_seq_async {mx : Nat} {strict : Bool} (hmx : validMax mx) (rooms : Nat → Nat)
    (hrooms : ∀ k, 1 ≤ rooms k) (ps : List Pdu) (stream : Bytes)
    (hr : ∀ p ∈ ps, Receivable mx strict p) (hw : writeAll ps = .ok stream)
    (chunks : List Bytes) (hseg : chunks.flatten = stream) (hne : ∀ c ∈ chunks, c ≠ []) :
    ∃ k, receiveManyWire mx strict rooms ps.length 0 [] chunks = .ok (ps.map normPdu, [], [], k) :=
  receive_seq_wire hmx hrooms ps stream hr hw 0 [] chunks (by simpa using hseg) hne

/-- sync and async receivers agree with each other on every stream of receivable PDUs -/
theorem sync_async_agree {mx : Nat} {strict : Bool} (hmx : validMax mx) (rooms : Nat → Nat)
    (hrooms : ∀ k, 1 ≤ rooms k) (ps : List Pdu) (stream : Bytes)
    (hr : ∀ p ∈ ps, Receivable mx strict p) (hw : writeAll ps = .ok stream)
    (c1 c2 : List Bytes) (h1 : c1.flatten = stream) (h2 : c2.flatten = stream)
    (n1 : ∀ c ∈ c1, c ≠ []) (n2 : ∀ c ∈ c2, c ≠ []) :
    (receiveManyWire mx strict (fun _ => 8192) ps.length 0 [] c1).map (·.1) =
      (receiveManyWire mx strict rooms ps.length 0 [] c2).map (·.1) := by
  obtain ⟨k1, e1⟩ := receive_seq_sync hmx ps stream hr hw c1 h1 n1
  obtain ⟨k2, e2⟩ := receive_seq_async hmx rooms hrooms ps stream hr hw c2 h2 n2
  rw [e1, e2]; rfl
/-- non-vacuity: a release request followed by an abort, delivered as 1 + 18 + 1 bytes -/
example : receiveMany 16384 true 2 [] [[5], [0, 0, 0, 0, 4, 0, 0, 0, 0, 7, 0, 0, 0, 0, 4, 0, 0, 0], [0]]
    = .ok ([.releaseRQ, .abortRQ .serviceUser], [], []) := by rfl

end Dicom.Pdu
