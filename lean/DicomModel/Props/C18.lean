import DicomModel.Model.Encap
import DicomModel.Lemmas.Encap
/-
C18 — Encapsulated pixel data has a correct offset table, fragments and total length.

Model: `DicomModel/Model/Encap.lean` (repaired behaviour of DESIGN §7 #3, #4, #13).
All statements are over arbitrary byte lists / frame lists / frame counts (no size bound other than
the `u32` limits the code itself has, which are explicit hypotheses).

The default encoder pads an odd-length encoded frame with one NUL (repair of the findings
`odd-fragment-uncompressed` / `odd-fragment-jpeg-baseline`), so parity holds for every writer:
`transcode_fragments_even`.
-/
namespace Dicom.Encap

/-! ### `Fragments::new` -/

/-- Every fragment made by `Fragments::new` has the (even) effective size. -/
theorem fragments_size {data : Bytes} {fs sz : Nat} {frs : List Bytes}
    (hs : effSize data.length fs = .ok sz) (h : fragmentsNew data fs = .ok frs) :
    ∀ f ∈ frs, f.length = sz := by
  rw [fragmentsNew_eq hs, Outcome.ok.injEq] at h
  subst h
  exact chunksExact_mem_len (by rw [List.length_append, List.length_replicate]; omega)

/-- **fragments_even** — every fragment has even length, for all data and all fragment sizes. -/
theorem fragments_even {data : Bytes} {fs : Nat} {frs : List Bytes}
    (h : fragmentsNew data fs = .ok frs) : ∀ f ∈ frs, f.length % 2 = 0 := by
  obtain ⟨sz, hs⟩ := effSize_of_fragmentsNew h
  intro f hf
  rw [fragments_size hs h f hf]
  exact effSize_even hs

theorem fragments_flatten {data : Bytes} {fs sz : Nat} {frs : List Bytes}
    (hlen : data.length ≤ u32Max)
    (hs : effSize data.length fs = .ok sz) (h : fragmentsNew data fs = .ok frs) :
    frs.length = divCeil data.length sz ∧
      frs.flatten = data ++ List.replicate (sz * divCeil data.length sz - data.length) 0 := by
  have hcov : data.length ≤ sz * divCeil data.length sz := by
    by_cases hsz : sz = 0
    · subst hsz
      rw [len_zero_of_effSize_zero hs hlen]
      exact Nat.zero_le _
    · exact (divCeil_bounds _ _ (Nat.pos_of_ne_zero hsz)).1
  rw [fragmentsNew_eq hs, Outcome.ok.injEq] at h
  subst h
  have hl : (data ++ List.replicate (sz * divCeil data.length sz - data.length) 0).length
      = sz * divCeil data.length sz := by
    rw [List.length_append, List.length_replicate]; omega
  rw [chunksExact_length, chunksExact_flatten (Nat.le_of_eq hl.symm),
    List.take_of_length_le (Nat.le_of_eq hl)]
  exact ⟨rfl, rfl⟩

/-- **fragments_concat** — the concatenated fragments are the frame data followed by `k` zero
bytes, `k` smaller than the effective fragment size: nothing lost, nothing reordered
(in particular the last byte of a 17 000 001-byte frame survives, defect #4). -/
theorem fragments_concat {data : Bytes} {fs sz : Nat} {frs : List Bytes}
    (hlen : data.length ≤ u32Max)
    (hs : effSize data.length fs = .ok sz) (h : fragmentsNew data fs = .ok frs) :
    ∃ k, frs.flatten = data ++ List.replicate k 0 ∧ k ≤ sz - 1 ∧
      frs.length = divCeil data.length (max sz 1) := by
  obtain ⟨h1, h2⟩ := fragments_flatten hlen hs h
  rw [h1]
  by_cases hsz : sz = 0
  · subst hsz
    refine ⟨_, h2, by rw [Nat.zero_mul]; omega, ?_⟩
    rw [len_zero_of_effSize_zero hs hlen]
    rfl
  · have := divCeil_bounds data.length sz (Nat.pos_of_ne_zero hsz)
    exact ⟨_, h2, by omega, by rw [Nat.max_eq_left (by omega)]⟩

/-- With `fragment_size = 0` (what `encapsulate` uses) a frame becomes at most one fragment holding
the data and **at most one pad byte**. -/
theorem fragments_whole {data : Bytes} {frs : List Bytes}
    (hlen : data.length < u32Max) (h : fragmentsNew data 0 = .ok frs) :
    frs.length ≤ 1 ∧ ∃ k, k ≤ 1 ∧ frs.flatten = data ++ List.replicate k 0 := by
  -- the effective size is the length rounded up to even, so one chunk holds everything
  have hs : effSize data.length 0 = .ok (data.length + data.length % 2) :=
    effSize_of_lt (by rw [if_pos rfl, Nat.mod_eq_of_lt (by omega)]) hlen
  obtain ⟨h1, h2⟩ := fragments_flatten (by omega) hs h
  have hn : divCeil data.length (data.length + data.length % 2) ≤ 1 := divCeil_le_one (by omega)
  have := Nat.mul_le_mul_left (data.length + data.length % 2) hn
  exact ⟨by omega, _, by omega, h2⟩

/-- `fragLens`, the length-only model (for sizes whose bytes one does not want to materialise),
agrees with the byte-level one -/
theorem fragLens_spec {data : Bytes} {fs : Nat} {frs : List Bytes}
    (hlen : data.length ≤ u32Max) (h : fragmentsNew data fs = .ok frs) :
    ∃ sz, fragLens data.length fs = .ok (frs.length, sz) ∧ ∀ f ∈ frs, f.length = sz := by
  obtain ⟨sz, hs⟩ := effSize_of_fragmentsNew h
  refine ⟨sz, ?_, fragments_size hs h⟩
  rw [(fragments_flatten hlen hs h).1]
  simp only [fragLens, hs]
  split
  · rename_i hsz
    rw [hsz, divCeil, Nat.div_zero]
  · rfl

/-- **no panic** — `Fragments::new` returns for every input below the `u32` limit, in particular
for fragment size 0 and for empty data (defect #3). -/
theorem fragments_no_panic (data : Bytes) (fs : Nat) (hfs : fs < u32Max) (hlen : data.length < u32Max) :
    ∃ frs, fragmentsNew data fs = .ok frs := by
  generalize hx : (if fs = 0 then data.length % (u32Max + 1) else fs) = x
  have hxlt : x < u32Max := by
    have := Nat.mod_le data.length (u32Max + 1)
    split at hx <;> omega
  exact ⟨_, fragmentsNew_eq (effSize_of_lt hx hxlt)⟩

/-- at the very top of `u32` the `+ 1` overflows: the hypothesis of `fragments_no_panic` is needed -/
theorem fragments_overflow : fragmentsNew [1] u32Max = .panic := by decide

/-! ### `From<Vec<Fragments>>`: the basic offset table of the helpers -/

/-- **bot_is_prefix_sums** (helpers) — when the conversion does not panic, the table has one entry
per frame, entry `i` is `Σ_{j<i} Σ_{fragment of frame j} (8 + len)` (so entry 0 is 0), and the
fragments are those of the frames in order. -/
theorem bot_is_prefix_sums_helper {frames : List (List Bytes)} {table : List Nat} {frags : List Bytes}
    (h : fromFrames frames = .ok (table, frags)) :
    table.length = frames.length ∧ frags = frames.flatten ∧
    ∀ i, i < frames.length → table[i]? = some (((frames.take i).map frameLen).sum) := by
  rw [fromFrames_eq] at h
  split at h
  · cases h
  · rw [Outcome.ok.injEq, Prod.mk.injEq] at h
    obtain ⟨rfl, rfl⟩ := h
    refine ⟨prefixOffsets_length 0 frames, rfl, fun i hi => ?_⟩
    rw [prefixOffsets_get 0 frames i hi, Nat.zero_add]

/-- the conversion panics exactly on the documented precondition: several frames, one of them
with more than one fragment -/
theorem fromFrames_no_panic (frames : List (List Bytes))
    (h : frames.length ≤ 1 ∨ ∀ fr ∈ frames, fr.length ≤ 1) : ∃ r, fromFrames frames = .ok r := by
  rw [fromFrames_eq, if_neg]
  · exact ⟨_, rfl⟩
  · rintro ⟨h1, fr, hfr, h2⟩
    rcases h with h | h
    · omega
    · have := h fr hfr
      omega

theorem fromFrames_precondition_panics :
    fromFrames [[[1, 2], [3, 4]], [[5, 6]]] = .panic := by decide

/-- **`encapsulate` never panics** (frames below the `u32` limit): also not on empty frames. -/
theorem encapsulate_no_panic (frames : List Bytes) (hlen : ∀ d ∈ frames, d.length < u32Max) :
    ∃ r, encapsulate frames = .ok r := by
  have hmap : ∃ frs, mapFrames 0 frames = .ok frs ∧ ∀ fr ∈ frs, fr.length ≤ 1 := by
    induction frames with
    | nil => exact ⟨[], rfl, fun fr hfr => nomatch hfr⟩
    | cons d ds ih =>
      obtain ⟨frs, h1, h2⟩ := ih (fun d hd => hlen d (List.mem_cons_of_mem _ hd))
      obtain ⟨fr, hfr⟩ := fragments_no_panic d 0 (by decide) (hlen d List.mem_cons_self)
      refine ⟨fr :: frs, by simp [mapFrames, hfr, h1], fun x hx => ?_⟩
      rcases List.mem_cons.mp hx with rfl | hx
      · exact (fragments_whole (hlen d List.mem_cons_self) hfr).1
      · exact h2 x hx
  obtain ⟨frs, h1, h2⟩ := hmap
  obtain ⟨r, hr⟩ := fromFrames_no_panic frs (Or.inr h2)
  exact ⟨r, by simp [encapsulate, h1, hr]⟩

/-- `encapsulate`: everything the property says about the helper, in one statement. -/
theorem encapsulate_spec {frames : List Bytes} {table : List Nat} {frags : List Bytes}
    (hlen : ∀ d ∈ frames, d.length < u32Max) (h : encapsulate frames = .ok (table, frags)) :
    ∃ frs : List (List Bytes),
      frs.length = frames.length ∧ frags = frs.flatten ∧
      table.length = frames.length ∧
      (∀ i, i < frames.length → table[i]? = some (((frs.take i).map frameLen).sum)) ∧
      (∀ f ∈ frags, f.length % 2 = 0) ∧
      (∀ i, i < frames.length → (frs.getD i []).length ≤ 1 ∧
          ∃ k, k ≤ 1 ∧ (frs.getD i []).flatten = frames.getD i [] ++ List.replicate k 0) := by
  unfold encapsulate at h
  split at h
  · rename_i frs hm
    obtain ⟨hl, hget⟩ := mapFrames_ok hm
    obtain ⟨h1, h2, h3⟩ := bot_is_prefix_sums_helper h
    refine ⟨frs, hl, h2, by omega, fun i hi => h3 i (by omega), ?_, ?_⟩
    · intro f hf
      subst h2
      obtain ⟨fr, hfr, hf⟩ := List.mem_flatten.mp hf
      obtain ⟨i, hi, rfl⟩ := List.getElem_of_mem hfr
      have := hget i (by omega)
      rw [← List.getElem_eq_getD (h := hi) []] at this
      exact fragments_even this f hf
    · intro i hi
      have hd : frames.getD i [] ∈ frames := List.getElem_eq_getD [] ▸ List.getElem_mem hi
      exact fragments_whole (hlen _ hd) (hget i hi)
  · cases h

/-! ### default `PixelDataWriter::encode` and `decode_and_encode` -/

/-- **bot_is_prefix_sums** (transcoding) — for any per-frame encoder, the offset table built by the
default `encode` has one entry per frame, the first is 0 and entry `i` is the sum of `8 + len` of
the fragments of all earlier frames; there is one fragment per frame, the one the encoder produced. -/
theorem bot_is_prefix_sums {enc : Nat → Option Bytes} {attr : Option Nat} {ops : List (Nat × Nat)}
    {e : Encapsulated} (h : transcodeEncap enc attr ops = some e) :
    e.table.length = attr.getD 1 ∧ e.fragments.length = attr.getD 1 ∧
    (∀ i, i < attr.getD 1 → (enc i).map padEven = e.fragments[i]?) ∧
    ∀ i, i < attr.getD 1 →
      e.table[i]? = some (((e.fragments.take i).map fun f => f.length + 8).sum) := by
  unfold transcodeEncap at h
  rw [encodeDefault_nil] at h
  split at h
  · cases h
  · rename_i frags table hl
    cases h
    obtain ⟨h1, h2, h3⟩ := encodeLoop_spec enc _ 0 0 frags table hl
    have hlen : (frags.map fun f => [f]).length = attr.getD 1 := by rw [List.length_map, h1]
    refine ⟨by rw [h2, prefixOffsets_length, hlen], h1, fun i hi => ?_, fun i hi => ?_⟩
    · rw [← h3 i hi, Nat.zero_add]
    · rw [h2, prefixOffsets_get 0 _ i (by rw [hlen]; exact hi)]
      simp [← List.map_take, frameLen, Function.comp_def]

/-- **fragments_even** (transcoding) — whatever the per-frame encoder writes (an odd-sized
uncompressed frame, an odd-length JPEG or deflate stream), every fragment of the transcoded object
has even length, and it is the encoder's output plus at most one NUL. -/
theorem transcode_fragments_even {enc : Nat → Option Bytes} {attr : Option Nat} {ops : List (Nat × Nat)}
    {e : Encapsulated} (h : transcodeEncap enc attr ops = some e) :
    (∀ f ∈ e.fragments, f.length % 2 = 0) ∧
    ∀ i, i < attr.getD 1 → ∃ fd k, enc i = some fd ∧ k ≤ 1 ∧
      e.fragments[i]? = some (fd ++ List.replicate k 0) := by
  obtain ⟨_, h2, h3, _⟩ := bot_is_prefix_sums h
  -- every fragment is the padded output of the encoder
  have hfrag : ∀ i, i < attr.getD 1 → ∃ fd, enc i = some fd ∧ e.fragments[i]? = some (padEven fd) := by
    intro i hi
    have := h3 i hi
    cases he : enc i with
    | none =>
      rw [he, List.getElem?_eq_getElem (by omega)] at this
      cases this
    | some fd => exact ⟨fd, rfl, by rw [← this, he]; rfl⟩
  constructor
  · intro f hf
    obtain ⟨i, hi, rfl⟩ := List.getElem_of_mem hf
    obtain ⟨fd, _, hfd⟩ := hfrag i (by omega)
    rw [List.getElem?_eq_getElem hi, Option.some.injEq] at hfd
    rw [hfd]
    exact padEven_even fd
  · intro i hi
    obtain ⟨fd, he, hfd⟩ := hfrag i hi
    obtain ⟨k, hk, hp⟩ := padEven_spec fd
    exact ⟨fd, k, he, hk, by rw [hfd, hp]⟩

/-- the first entry is 0 whenever there is a frame -/
theorem bot_first_zero {enc : Nat → Option Bytes} {attr : Option Nat} {ops : List (Nat × Nat)}
    {e : Encapsulated} (h : transcodeEncap enc attr ops = some e) (hn : 0 < attr.getD 1) :
    e.table[0]? = some 0 := by
  have := (bot_is_prefix_sums h).2.2.2 0 hn
  simpa using this

/-- **total_length_eq_sum** — whatever operations the writer returned (the uncompressed writer sets
the native length, the deflated one the length of its last fragment), the attribute
(7FE0,0003) of the transcoded object is the sum of all fragment lengths. -/
theorem total_length_eq_sum {enc : Nat → Option Bytes} {attr : Option Nat} {ops : List (Nat × Nat)}
    {e : Encapsulated} (h : transcodeEncap enc attr ops = some e) :
    e.totalLength = some ((e.fragments.map List.length).sum) := by
  unfold transcodeEncap at h
  split at h
  · cases h
  · simp only [Option.some.injEq] at h
    subst h
    simp only [Attrs.get_put]

/-- why `transcodeEncap` puts the total length last: a later `put` of the same tag wins, so a writer's
own value (6, the last of three 6-byte fragments) put after the sum 18 would replace it -/
theorem total_length_needs_order :
    Attrs.get (Attrs.put (Attrs.put [] tagTotalLength 18) tagTotalLength 6) tagTotalLength ≠ some 18 := by
  decide

/-! ### `frame_pixel_data` -/

/-- **frame_data_exact** — for an object whose fragments are those of `frames` (every frame at
least one fragment, any number of fragments per frame), whose table is the one the property
describes and whose Number of Frames is right, `frame_pixel_data(i)` is exactly the concatenation
of frame `i`'s fragments, for every frame. -/
theorem frame_data_exact (frames : List (List Bytes)) (attr : Option Nat)
    (hne : ∀ fr ∈ frames, fr ≠ []) (hattr : attr.getD 1 = frames.length)
    (i : Nat) (hi : i < frames.length) :
    framePixelData attr (prefixOffsets 0 frames) frames.flatten i = some (frames[i]).flatten := by
  unfold framePixelData
  split
  · -- one fragment per frame
    exact flatten_get_of_length_eq hne (by omega) i hi
  · have hbase : (prefixOffsets 0 frames)[i]? = some (frameLen (frames.take i).flatten) := by
      rw [prefixOffsets_get 0 frames i hi, Nat.zero_add, frameLen_flatten]
    have hb : (if i = 0 then some ((prefixOffsets 0 frames)[i]?.getD 0) else (prefixOffsets 0 frames)[i]?)
        = some (frameLen (frames.take i).flatten) := by
      rw [hbase]
      split <;> rfl
    simp only [hb]
    congr 1
    -- split the fragment list around frame i
    have hflat : frames.flatten
        = (frames.take i).flatten ++ (frames[i] ++ (frames.drop (i + 1)).flatten) := by
      rw [← List.flatten_cons, ← List.flatten_append, ← List.drop_eq_getElem_cons hi,
        List.take_append_drop]
    rw [hflat]
    apply gather_frame _ _ _ _ (hne _ (List.getElem_mem hi))
    by_cases hlast : i + 1 < frames.length
    · rw [prefixOffsets_get 0 frames (i + 1) hlast, List.take_succ_eq_append_getElem hi]
      simp only [frameLen_flatten, List.map_append, List.sum_append, List.map_cons, List.map_nil,
        List.sum_cons, List.sum_nil, Nat.zero_add, Nat.add_zero]
    · rw [List.getElem?_eq_none (by rw [prefixOffsets_length]; omega),
        List.drop_eq_nil_of_le (by omega)]
      rfl

/-- a single frame may also come with an empty table (no Number of Frames needed) -/
theorem frame_data_exact_no_table (fr : List Bytes) (attr : Option Nat) (hattr : attr.getD 1 = 1)
    (hne : fr ≠ []) : framePixelData attr [] fr 0 = some fr.flatten := by
  unfold framePixelData
  split
  · rename_i hcnt
    match fr, hattr ▸ hcnt with
    | [f], _ => simp
  · simp only [List.getElem?_nil, Option.getD_none, if_true]
    congr 1
    have := gather_take 0 none fr [] 0 (Nat.le_refl _) hne rfl
    rwa [List.append_nil] at this

/-- frame retrieval after transcoding: every frame gives back exactly its fragment -/
theorem frame_data_after_transcode {enc : Nat → Option Bytes} {n : Nat} {ops : List (Nat × Nat)}
    {e : Encapsulated} (h : transcodeEncap enc (some n) ops = some e) (i : Nat) :
    framePixelData (some e.table.length) e.table e.fragments i = e.fragments[i]? := by
  obtain ⟨h1, h2, _, _⟩ := bot_is_prefix_sums h
  simp only [Option.getD_some] at h1 h2
  unfold framePixelData
  simp [h1, h2]

/-! ### the uncompressed writer -/

/-- a 3×3 8-bit frame (9 bytes) becomes a 10-byte fragment: frame plus one NUL -/
theorem uncompressed_odd_frame_padded :
    transcodeEncap (uncompressedFrame ⟨3, 3, 1, 8, some 1, [1, 2, 3, 4, 5, 6, 7, 8, 9]⟩) (some 1) []
      = some ⟨[0], [[1, 2, 3, 4, 5, 6, 7, 8, 9, 0]], 1, some 10⟩ := by decide

example : fragmentsNew [1, 2, 3] 0 = .ok [[1, 2, 3, 0]] := by decide
example : fragmentsNew [] 0 = .ok [] := by decide
example : fragmentsNew [1, 2, 3, 4, 5] 3 = .ok [[1, 2, 3, 4], [5, 0, 0, 0]] := by decide
example : encapsulate [[20, 30, 40], [], [50, 60, 70, 80]] =
    .ok ([0, 12, 12], [[20, 30, 40, 0], [50, 60, 70, 80]]) := by decide
example : transcodeEncap (uncompressedFrame ⟨1, 2, 1, 16, some 3, [1,2,3,4,5,6,7,8,9,10,11,12]⟩) (some 3)
    (uncompressedOps ⟨1, 2, 1, 16, some 3, [1,2,3,4,5,6,7,8,9,10,11,12]⟩)
    = some ⟨[0, 12, 24], [[1,2,3,4],[5,6,7,8],[9,10,11,12]], 3, some 12⟩ := by decide
example : framePixelData (some 3) [0, 22, 32] [[1, 1], [2, 2, 2, 2], [3, 3], [4, 4]] 0 = some [1, 1, 2, 2, 2, 2] := by
  decide

end Dicom.Encap
