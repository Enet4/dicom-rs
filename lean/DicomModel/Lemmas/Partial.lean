import DicomModel.Model.Partial
import DicomModel.Lemmas.Digits
/-
Lemmas about `Model/Partial.lean` for C12: validity = what the constructors accept, canonical encodings
and the parsers on `encoding ++ rest`, calendar arithmetic, chrono's orders against `dayNumber`/`localSecs`.
-/
namespace Dicom.Partial
open Dicom.Digits

/-! ## validity = what the constructors accept -/

def DicomDate.Valid : DicomDate → Prop
  | .year y => y ≤ 9999
  | .month y m => y ≤ 9999 ∧ 1 ≤ m ∧ m ≤ 12
  | .day y m d => y ≤ 9999 ∧ 1 ≤ m ∧ m ≤ 12 ∧ 1 ≤ d ∧ d ≤ 31

def DicomTime.Valid : DicomTime → Prop
  | .hour h => h ≤ 23
  | .minute h m => h ≤ 23 ∧ m ≤ 59
  | .second h m s => h ≤ 23 ∧ m ≤ 59 ∧ s ≤ 60
  | .fraction h m s f fp => h ≤ 23 ∧ m ≤ 59 ∧ s ≤ 60 ∧ 1 ≤ fp ∧ fp ≤ 6 ∧ f < 10 ^ fp

/-- DICOM `&ZZXX`: whole minutes within −12:00 … +14:00 (what the DT parser accepts) -/
def OffsetValid (o : Int) : Prop := o % 60 = 0 ∧ -43200 ≤ o ∧ o ≤ 50400

def DicomDateTime.Valid (v : DicomDateTime) : Prop :=
  v.date.Valid ∧ (∀ t, v.time = some t → t.Valid ∧ v.date.isPrecise = true) ∧
  (∀ o, v.tz = some o → OffsetValid o)

instance : DecidablePred DicomDate.Valid := fun v => by cases v <;> unfold DicomDate.Valid <;> infer_instance
instance : DecidablePred DicomTime.Valid := fun v => by cases v <;> unfold DicomTime.Valid <;> infer_instance
instance : DecidablePred OffsetValid := fun o => by unfold OffsetValid; infer_instance

theorem fromY_eq (y : Nat) : DicomDate.fromY y = if y ≤ 9999 then some (.year y) else none := by
  simp [DicomDate.fromY, checkComponent]
theorem fromYm_eq (y m : Nat) :
    DicomDate.fromYm y m = if y ≤ 9999 ∧ 1 ≤ m ∧ m ≤ 12 then some (.month y m) else none := by
  simp [DicomDate.fromYm, checkComponent]
theorem fromYmd_eq (y m d : Nat) :
    DicomDate.fromYmd y m d =
      if y ≤ 9999 ∧ 1 ≤ m ∧ m ≤ 12 ∧ 1 ≤ d ∧ d ≤ 31 then some (.day y m d) else none := by
  simp [DicomDate.fromYmd, checkComponent, and_assoc]

theorem fromH_eq (h : Nat) : DicomTime.fromH h = if h ≤ 23 then some (.hour h) else none := by
  simp [DicomTime.fromH, checkComponent]
theorem fromHm_eq (h m : Nat) :
    DicomTime.fromHm h m = if h ≤ 23 ∧ m ≤ 59 then some (.minute h m) else none := by
  simp [DicomTime.fromHm, checkComponent]
theorem fromHms_eq (h m s : Nat) :
    DicomTime.fromHms h m s = if h ≤ 23 ∧ m ≤ 59 ∧ s ≤ 60 then some (.second h m s) else none := by
  simp [DicomTime.fromHms, checkComponent, and_assoc]

theorem pow_frac {fp : Nat} (h6 : fp ≤ 6) : 10 ^ fp * 10 ^ (6 - fp) = 1000000 := by
  rw [← Nat.pow_add, Nat.add_sub_cancel' h6]

theorem frac_key {f fp : Nat} (h6 : fp ≤ 6) :
    (¬ (10 ^ fp < f) ∧ f * 10 ^ (6 - fp) ≤ 999999) ↔ f < 10 ^ fp := by
  have hu := Nat.pow_pos (n := 6 - fp) (by decide : 0 < 10)
  have e := pow_frac h6
  constructor
  · intro ⟨_, h⟩
    exact Nat.lt_of_mul_lt_mul_right (a := 10 ^ (6 - fp)) (by omega)
  · intro hf
    have := Nat.mul_lt_mul_of_pos_right hf hu
    omega

theorem fromHmsf_eq (h m s f fp : Nat) :
    DicomTime.fromHmsf h m s f fp =
      if h ≤ 23 ∧ m ≤ 59 ∧ s ≤ 60 ∧ 1 ≤ fp ∧ fp ≤ 6 ∧ f < 10 ^ fp then some (.fraction h m s f fp)
      else none := by
  unfold DicomTime.fromHmsf
  by_cases h1 : 1 ≤ fp <;> by_cases h6 : fp ≤ 6 <;> simp [h1, h6, checkComponent]
  simp only [← frac_key (f := f) h6, Nat.not_lt]
  by_cases a : 10 ^ fp < f
  · simp [a, Nat.not_le.mpr a]
  · by_cases b : f * 10 ^ (6 - fp) ≤ 999999
    · simp [a, b, Nat.not_lt.mpr b, Nat.not_lt.mp a]
      have e : ((23 < h ∨ 59 < m) ∨ 60 < s) ↔ ¬ (h ≤ 23 ∧ m ≤ 59 ∧ s ≤ 60) := by omega
      simp only [e, ite_not]
    · simp [a, b, Nat.not_le.mp b]

/-! ## canonical form of the encodings -/

theorem take_fixed (w n : Nat) (r : Bytes) : (fixed w n ++ r).take w = fixed w n :=
  List.take_left' (fixed_length w n)
theorem drop_fixed (w n : Nat) (r : Bytes) : (fixed w n ++ r).drop w = r :=
  List.drop_left' (fixed_length w n)

theorem date_enc {v : DicomDate} (hv : v.Valid) :
    v.toEncoded = match v with
      | .year y => fixed 4 y
      | .month y m => fixed 4 y ++ fixed 2 m
      | .day y m d => fixed 4 y ++ (fixed 2 m ++ fixed 2 d) := by
  cases v with
  | year y => simp only [DicomDate.Valid] at hv; simp only [DicomDate.toEncoded]; rw [fmtPad_eq_fixed (by omega) (by omega)]
  | month y m =>
    simp only [DicomDate.Valid] at hv; simp only [DicomDate.toEncoded]
    rw [fmtPad_eq_fixed (by omega) (by omega), fmtPad_eq_fixed (by omega) (by omega)]
  | day y m d =>
    simp only [DicomDate.Valid] at hv; simp only [DicomDate.toEncoded]
    rw [fmtPad_eq_fixed (by omega) (by omega), fmtPad_eq_fixed (by omega) (by omega),
      fmtPad_eq_fixed (by omega) (by omega), List.append_assoc]

/-- the text after a year or month does not continue with two digits -/
def NoDigitPair (rest : Bytes) : Prop := rest.length < 2 ∨ readNumber (rest.take 2) = none

theorem readNumber_fixed4 {y : Nat} (h : y ≤ 9999) : readNumber (fixed 4 y) = some y :=
  readNumber_fixed (by omega) (by omega) (by omega)
theorem readNumber_fixed2 {m : Nat} (h : m ≤ 99) : readNumber (fixed 2 m) = some m :=
  readNumber_fixed (by omega) (by omega) (by omega)

theorem parseDate_ext {v : DicomDate} (hv : v.Valid) (rest : Bytes)
    (hr : v.isPrecise = true ∨ NoDigitPair rest) :
    parseDatePartial (v.toEncoded ++ rest) = some (v, rest) := by
  rw [date_enc hv]
  have h2 : ∀ n, ¬ 2 + n < 2 := fun n => by omega
  cases v with
  | year y =>
    simp only [DicomDate.Valid] at hv
    have hr : NoDigitPair rest := by simpa [DicomDate.isPrecise, DicomDate.dy] using hr
    simp only [parseDatePartial, List.length_append, fixed_length, take_fixed, drop_fixed, readNumber_fixed4 hv]
    by_cases hl : rest.length < 2
    · simp [hl, fromY_eq, hv]
    · simp [hl, hr.resolve_left hl, fromY_eq, hv]
  | month y m =>
    simp only [DicomDate.Valid] at hv
    have hr : NoDigitPair rest := by simpa [DicomDate.isPrecise, DicomDate.dy] using hr
    simp only [parseDatePartial, List.append_assoc, List.length_append, fixed_length, take_fixed, drop_fixed,
      readNumber_fixed4 hv.1, readNumber_fixed2 (show m ≤ 99 by omega)]
    by_cases hl : rest.length < 2
    · simp [h2, hl, fromYm_eq, hv]
    · simp [h2, hl, hr.resolve_left hl, fromYm_eq, hv]
  | day y m d =>
    simp only [DicomDate.Valid] at hv
    simp only [parseDatePartial, List.append_assoc, List.length_append, fixed_length, take_fixed, drop_fixed,
      readNumber_fixed4 hv.1, readNumber_fixed2 (show m ≤ 99 by omega), readNumber_fixed2 (show d ≤ 99 by omega)]
    simp [h2, fromYmd_eq, hv]

theorem frac_enc {f fp : Nat} (hf : f < 10 ^ fp) : (toDec (10 ^ fp + f)).drop 1 = fixed fp f := by
  rw [toDec_pow_add hf]; rfl

theorem time_enc {v : DicomTime} (hv : v.Valid) :
    v.toEncoded = match v with
      | .hour h => fixed 2 h
      | .minute h m => fixed 2 h ++ fixed 2 m
      | .second h m s => fixed 2 h ++ (fixed 2 m ++ fixed 2 s)
      | .fraction h m s f fp => fixed 2 h ++ (fixed 2 m ++ (fixed 2 s ++ 46 :: fixed fp f)) := by
  cases v with
  | hour h => simp only [DicomTime.Valid] at hv; simp only [DicomTime.toEncoded]; rw [fmtPad_eq_fixed (by omega) (by omega)]
  | minute h m =>
    simp only [DicomTime.Valid] at hv; simp only [DicomTime.toEncoded]
    rw [fmtPad_eq_fixed (by omega) (by omega), fmtPad_eq_fixed (by omega) (by omega)]
  | second h m s =>
    simp only [DicomTime.Valid] at hv; simp only [DicomTime.toEncoded]
    rw [fmtPad_eq_fixed (by omega) (by omega), fmtPad_eq_fixed (by omega) (by omega),
      fmtPad_eq_fixed (by omega) (by omega), List.append_assoc]
  | fraction h m s f fp =>
    simp only [DicomTime.Valid] at hv; simp only [DicomTime.toEncoded]
    rw [fmtPad_eq_fixed (by omega) (by omega), fmtPad_eq_fixed (by omega) (by omega),
      fmtPad_eq_fixed (by omega) (by omega), frac_enc hv.2.2.2.2.2, List.append_assoc, List.append_assoc]

/-- what may follow an encoded time so that the parser stops exactly there -/
def TimeStop : DicomTime → Bytes → Prop
  | .hour _, rest => NoDigitPair rest
  | .minute _ _, rest => NoDigitPair rest
  | .second _ _ _, rest => ¬ (rest.length > 1 ∧ rest.head? = some 46)
  | .fraction _ _ _ _ fp, rest => fp = 6 ∨ leadingDigits rest = 0

theorem parseTime_ext {v : DicomTime} (hv : v.Valid) (rest : Bytes) (hr : TimeStop v rest) :
    parseTimePartial (v.toEncoded ++ rest) = some (v, rest) := by
  rw [time_enc hv]
  have h2 : ∀ n, ¬ 2 + n < 2 := fun n => by omega
  cases v with
  | hour h =>
    simp only [DicomTime.Valid] at hv
    simp only [TimeStop] at hr
    simp only [parseTimePartial, List.length_append, fixed_length, take_fixed, drop_fixed, readNumber_fixed2 (show h ≤ 99 by omega)]
    by_cases hl : rest.length < 2
    · simp [h2, hl, fromH_eq, hv]
    · simp [h2, hl, hr.resolve_left hl, fromH_eq, hv]
  | minute h m =>
    simp only [DicomTime.Valid] at hv
    simp only [TimeStop] at hr
    simp only [parseTimePartial, List.append_assoc, List.length_append, fixed_length, take_fixed, drop_fixed,
      readNumber_fixed2 (show h ≤ 99 by omega), readNumber_fixed2 (show m ≤ 99 by omega)]
    by_cases hl : rest.length < 2
    · simp [h2, hl, fromHm_eq, hv]
    · simp [h2, hl, hr.resolve_left hl, fromHm_eq, hv]
  | second h m s =>
    simp only [DicomTime.Valid] at hv
    simp only [TimeStop] at hr
    simp only [parseTimePartial, List.append_assoc, List.length_append, fixed_length, take_fixed, drop_fixed,
      readNumber_fixed2 (show h ≤ 99 by omega), readNumber_fixed2 (show m ≤ 99 by omega), readNumber_fixed2 (show s ≤ 99 by omega)]
    have hc : (decide (rest.length > 1) && rest.head? == some 46) = false := by
      by_cases a : rest.length > 1
      · have : rest.head? ≠ some 46 := fun b => hr ⟨a, b⟩
        simp [a, this]
      · simp [a]
    simp [h2, hc, fromHms_eq, hv]
  | fraction h m s f fp =>
    simp only [DicomTime.Valid] at hv
    simp only [TimeStop] at hr
    obtain ⟨hh, hm, hs, h1, h6, hf⟩ := hv
    simp only [parseTimePartial, List.append_assoc, List.length_append, fixed_length, take_fixed, drop_fixed,
      readNumber_fixed2 (show h ≤ 99 by omega), readNumber_fixed2 (show m ≤ 99 by omega), readNumber_fixed2 (show s ≤ 99 by omega)]
    -- by `leadingDigits_fixed_append`
    have hn : Nat.min 6 (fp + leadingDigits rest) = fp := by
      rcases hr with hr | hr
      · subst hr; simp
      · rw [hr]; simp [Nat.min_def]; omega
    have hrd : readNumber (fixed fp f) = some f := readNumber_fixed h1 (by omega) hf
    simp [h2, show 1 < fp + 1 + rest.length by omega, hn, hrd, fromHmsf_eq, hh, hm, hs, h1, h6, hf]

/-! ## time-zone suffix -/

theorem filter_fixed (w n : Nat) : (fixed w n).filter (· != 58) = fixed w n := by
  rw [List.filter_eq_self]
  intro b hb
  have := fixed_isDigit w n b hb
  simp [isDigit] at this
  simp; omega

theorem offset_enc {o : Int} (ho : OffsetValid o) :
    offsetEncoded o =
      (if o < 0 then 45 else 43) :: (fixed 2 (o.natAbs / 3600) ++ fixed 2 (o.natAbs / 60 % 60)) := by
  obtain ⟨h60, hlo, hhi⟩ := ho
  have hs : o.natAbs % 60 = 0 := by omega
  have hh : o.natAbs / 60 / 60 = o.natAbs / 3600 := by omega
  have hb : o.natAbs / 3600 < 10 ^ 2 := by omega
  have hm : o.natAbs / 60 % 60 < 10 ^ 2 := by omega
  simp only [offsetEncoded, offsetToString, hs, if_true, hh]
  rw [fmtPad_eq_fixed (by omega) hb, fmtPad_eq_fixed (by omega) hm]
  by_cases hneg : o < 0 <;> simp [hneg, filter_fixed]

theorem offset_enc_length {o : Int} (ho : OffsetValid o) : (offsetEncoded o).length = 5 := by
  rw [offset_enc ho]; simp

theorem parseTz_nil : parseTzSuffix [] = some none := by simp [parseTzSuffix]

theorem parseTz_offset {o : Int} (ho : OffsetValid o) (extra : Bytes) :
    parseTzSuffix (offsetEncoded o ++ extra) = some (some o) := by
  rw [offset_enc ho]
  obtain ⟨h60, hlo, hhi⟩ := ho
  have hb : o.natAbs / 3600 ≤ 99 := by omega
  have hm : o.natAbs / 60 % 60 ≤ 99 := by omega
  simp only [parseTzSuffix, List.cons_append, List.append_assoc, List.length_cons, List.length_append, fixed_length,
    take_fixed, drop_fixed, readNumber_fixed2 hb, readNumber_fixed2 hm]
  have hs : (o.natAbs / 3600 * 60 + o.natAbs / 60 % 60) * 60 = o.natAbs := by omega
  rw [hs]
  by_cases hneg : o < 0
  · simp [hneg, checkComponent, fixedOffsetOpt]; omega
  · simp [hneg, checkComponent, fixedOffsetOpt]; omega

theorem noDigitPair_nil : NoDigitPair [] := Or.inl (by simp)
theorem noDigitPair_offset {o : Int} (ho : OffsetValid o) (extra : Bytes) : NoDigitPair (offsetEncoded o ++ extra) := by
  right
  rw [offset_enc ho]
  by_cases hneg : o < 0 <;> simp [hneg, readNumber, isDigit]

theorem timeStop_nil (t : DicomTime) : TimeStop t [] := by
  cases t <;> simp [TimeStop, noDigitPair_nil, leadingDigits]
theorem timeStop_offset (t : DicomTime) {o : Int} (ho : OffsetValid o) (extra : Bytes) :
    TimeStop t (offsetEncoded o ++ extra) := by
  cases t
  · exact noDigitPair_offset ho extra
  · exact noDigitPair_offset ho extra
  · rw [offset_enc ho]; by_cases hneg : o < 0 <;> simp [TimeStop, hneg]
  · rw [offset_enc ho]; by_cases hneg : o < 0 <;> simp [TimeStop, hneg, leadingDigits, isDigit]

theorem parseTime_nil : parseTimePartial [] = none := by simp [parseTimePartial]
theorem parseTime_offset {o : Int} (ho : OffsetValid o) (extra : Bytes) :
    parseTimePartial (offsetEncoded o ++ extra) = none := by
  rw [offset_enc ho]
  by_cases hneg : o < 0 <;> simp [hneg, parseTimePartial, readNumber, isDigit]

/-! ## calendar arithmetic (the model of chrono's `NaiveDate`) -/

theorem isLeap_iff (y : Nat) : isLeap y = true ↔ (y % 4 = 0 ∧ (y % 100 ≠ 0 ∨ y % 400 = 0)) := by
  simp [isLeap]

/-- the leap-year rule as inclusion–exclusion of three divisibility indicators (bound by `∃` so that
`omega` in `daysBeforeYear_succ` sees plain numbers) -/
theorem leap_indicator (y : Nat) :
    ∃ a b c : Nat, (if 4 ∣ y then 1 else 0) = a ∧ (if 100 ∣ y then 1 else 0) = b ∧
      (if 400 ∣ y then 1 else 0) = c ∧ c ≤ b ∧ b ≤ a ∧ (if isLeap y then 1 else 0) + b = a + c := by
  have h100 : 100 ∣ y → 4 ∣ y := Nat.dvd_trans (by decide)
  have h400 : 400 ∣ y → 100 ∣ y := Nat.dvd_trans (by decide)
  refine ⟨_, _, _, rfl, rfl, rfl, ?_⟩
  simp only [isLeap_iff, ← Nat.dvd_iff_mod_eq_zero, ne_eq]
  by_cases c4 : 4 ∣ y
  · by_cases c100 : 100 ∣ y
    · by_cases c400 : 400 ∣ y <;> simp [c4, c100, c400]
    · simp [c4, c100, mt h400 c100]
  · simp [c4, mt h100 c4, mt h400 (mt h100 c4)]

theorem daysBeforeYear_succ (y : Nat) :
    daysBeforeYear (y + 1) = daysBeforeYear y + 365 + (if isLeap y then 1 else 0) := by
  cases y with
  | zero => rfl
  | succ k =>
    have g : k / 100 ≤ k / 4 := Nat.div_le_div_left (by decide) (by decide)
    obtain ⟨a, b, c, ha, hb, hc, hcb, hba, hl⟩ := leap_indicator (k + 1)
    simp only [daysBeforeYear, Nat.succ_ne_zero, if_false, Nat.add_sub_cancel, Nat.succ_div (a := k),
      ha, hb, hc]
    clear ha hb hc
    generalize k / 4 = q4, k / 100 = q100, k / 400 = q400 at g ⊢
    omega

theorem daysBeforeYear_mono {a b : Nat} (h : a ≤ b) : daysBeforeYear a ≤ daysBeforeYear b := by
  induction h with
  | refl => exact Nat.le_refl _
  | step _ ih => rw [daysBeforeYear_succ]; omega

theorem daysBeforeMonth_next (y m : Nat) (h1 : 1 ≤ m) (h12 : m ≤ 12) :
    daysBeforeMonth (isLeap y) m + daysInMonth y m =
      if m = 12 then 365 + (if isLeap y then 1 else 0) else daysBeforeMonth (isLeap y) (m + 1) := by
  have table : ∀ l : Bool, ∀ m, m < 13 → 1 ≤ m →
      daysBeforeMonth l m + (if m = 2 then (if l then 29 else 28)
        else if m = 4 ∨ m = 6 ∨ m = 9 ∨ m = 11 then 30 else 31) =
      if m = 12 then 365 + (if l then 1 else 0) else daysBeforeMonth l (m + 1) := by decide
  exact table (isLeap y) m (by omega) h1

/-- `(first of next month − first of this month).num_days()` is the length of the month -/
theorem next_month_days (y m : Nat) (h1 : 1 ≤ m) (h12 : m ≤ 12) :
    (if m = 12 then (NaiveDate.mk (y + 1) 1 1).dayNumber else (NaiveDate.mk y (m + 1) 1).dayNumber)
      - (NaiveDate.mk y m 1).dayNumber = daysInMonth y m := by
  have h := daysBeforeMonth_next y m h1 h12
  by_cases hm : m = 12
  · subst hm
    simp only [if_true] at h ⊢
    simp only [NaiveDate.dayNumber, daysBeforeYear_succ]
    simp [daysBeforeMonth] at h ⊢
    omega
  · simp only [hm, if_false] at h ⊢
    simp only [NaiveDate.dayNumber]
    omega

theorem daysInMonth_bounds (y m : Nat) : 28 ≤ daysInMonth y m ∧ daysInMonth y m ≤ 31 := by
  unfold daysInMonth; split <;> (try split) <;> omega

theorem fromYmdOpt_eq (y m d : Nat) :
    NaiveDate.fromYmdOpt y m d = if 1 ≤ m ∧ m ≤ 12 ∧ 1 ≤ d ∧ d ≤ daysInMonth y m then some ⟨y, m, d⟩ else none := rfl

/-- the value denotes at least one calendar day (chrono accepts its day for its month) -/
def DicomDate.Denotes : DicomDate → Prop
  | .day y m d => d ≤ daysInMonth y m
  | _ => True

theorem fromYmdOpt_first (y : Nat) {m : Nat} (h1 : 1 ≤ m) (h12 : m ≤ 12) :
    NaiveDate.fromYmdOpt y m 1 = some ⟨y, m, 1⟩ := by
  have := daysInMonth_bounds y m
  simp [fromYmdOpt_eq, h1, h12]; omega

theorem date_earliest_eq {v : DicomDate} (hv : v.Valid) (hd : v.Denotes) :
    v.earliest = some ⟨v.yr, v.mon.getD 1, v.dy.getD 1⟩ := by
  cases v with
  | year y => exact fromYmdOpt_first y (m := 1) (by decide) (by decide)
  | month y m => exact fromYmdOpt_first y hv.2.1 hv.2.2
  | day y m d =>
    simp only [DicomDate.Valid] at hv
    simp only [DicomDate.Denotes] at hd
    simp [DicomDate.earliest, DicomDate.yr, DicomDate.mon, DicomDate.dy, fromYmdOpt_eq, hv, hd]

/-- the last day of a month as `latest` finds it: first of the next month minus first of this one -/
theorem lastDay_eq (y : Nat) {m : Nat} (h1 : 1 ≤ m) (h12 : m ≤ 12) :
    (match (if m = 12 then NaiveDate.fromYmdOpt (y + 1) 1 1 else NaiveDate.fromYmdOpt y (m + 1) 1),
          NaiveDate.fromYmdOpt y m 1 with
      | some next, some first => NaiveDate.fromYmdOpt y m (next.dayNumber - first.dayNumber)
      | _, _ => none) = some ⟨y, m, daysInMonth y m⟩ := by
  have h := next_month_days y m h1 h12
  have hp := daysInMonth_bounds y m
  rw [fromYmdOpt_first y h1 h12]
  by_cases hm : m = 12
  · simp only [if_pos hm] at h ⊢
    rw [fromYmdOpt_first (y + 1) (by omega) (by omega)]
    simp [h, fromYmdOpt_eq, h1, h12]; omega
  · simp only [if_neg hm] at h ⊢
    rw [fromYmdOpt_first y (by omega) (by omega)]
    simp [h, fromYmdOpt_eq, h1, h12]; omega

theorem date_latest_eq {v : DicomDate} (hv : v.Valid) (hd : v.Denotes) :
    v.latest = some ⟨v.yr, v.mon.getD 12, v.dy.getD (daysInMonth v.yr (v.mon.getD 12))⟩ := by
  cases v with
  | year y => exact lastDay_eq y (m := 12) (by decide) (by decide)
  | month y m => exact lastDay_eq y hv.2.1 hv.2.2
  | day y m d =>
    simp only [DicomDate.Valid] at hv
    simp only [DicomDate.Denotes] at hd
    simp [DicomDate.latest, DicomDate.yr, DicomDate.mon, DicomDate.dy, fromYmdOpt_eq, hv, hd]

/-! ## orders -/

/-- a calendar date chrono can represent (`from_ymd_opt` returns it) -/
def NaiveDate.Valid (d : NaiveDate) : Prop := 1 ≤ d.m ∧ d.m ≤ 12 ∧ 1 ≤ d.d ∧ d.d ≤ daysInMonth d.y d.m

theorem fromYmdOpt_some {y m d : Nat} {nd : NaiveDate} (h : NaiveDate.fromYmdOpt y m d = some nd) :
    nd = ⟨y, m, d⟩ ∧ nd.Valid := by
  rw [fromYmdOpt_eq] at h
  split at h <;> simp at h
  subst h
  exact ⟨rfl, by assumption⟩

theorem NaiveDate.le_iff (a b : NaiveDate) :
    a.le b = true ↔ a.y < b.y ∨ (a.y = b.y ∧ (a.m < b.m ∨ (a.m = b.m ∧ a.d ≤ b.d))) := by
  simp [NaiveDate.le]

theorem NaiveDate.ext_iff' (a b : NaiveDate) : a = b ↔ a.y = b.y ∧ a.m = b.m ∧ a.d = b.d := by
  cases a; cases b; simp

theorem daysBeforeMonth_step (y m : Nat) (h1 : 1 ≤ m) (h11 : m ≤ 11) :
    daysBeforeMonth (isLeap y) (m + 1) = daysBeforeMonth (isLeap y) m + daysInMonth y m := by
  have := daysBeforeMonth_next y m h1 (by omega)
  have hm : m ≠ 12 := by omega
  simp only [hm, if_false] at this
  omega

theorem daysBeforeMonth_mono (y : Nat) {a b : Nat} (h1 : 1 ≤ a) (hab : a ≤ b) (hb : b ≤ 12) :
    daysBeforeMonth (isLeap y) a ≤ daysBeforeMonth (isLeap y) b := by
  induction hab with
  | refl => exact Nat.le_refl _
  | @step k hk ih =>
    have hk' : a ≤ k := hk
    have hb' : k + 1 ≤ 12 := hb
    have e1 := daysBeforeMonth_step y k (by omega) (by omega)
    have e2 := ih (by omega)
    show daysBeforeMonth (isLeap y) a ≤ daysBeforeMonth (isLeap y) (k + 1)
    omega

theorem daysBeforeMonth_le (y m : Nat) (h1 : 1 ≤ m) (h12 : m ≤ 12) :
    daysBeforeMonth (isLeap y) m + daysInMonth y m ≤ 365 + (if isLeap y then 1 else 0) := by
  by_cases hm : m = 12
  · have := daysBeforeMonth_next y m h1 h12
    simp only [hm, if_true] at this ⊢
    omega
  · have := daysBeforeMonth_next y m h1 h12
    simp only [hm, if_false] at this
    have h2 := daysBeforeMonth_mono y (a := m + 1) (b := 12) (by omega) (by omega) (by omega)
    have h3 := daysBeforeMonth_next y 12 (by omega) (by omega)
    simp only [if_true] at h3
    have := daysInMonth_bounds y 12
    omega

/-- the day number is strictly monotone in chrono's (lexicographic) date order -/
theorem dayNumber_lt {a b : NaiveDate} (ha : a.Valid) (hb : b.Valid) (h : a.le b = true) (hne : a ≠ b) :
    a.dayNumber < b.dayNumber := by
  obtain ⟨ay, am, ad⟩ := a
  obtain ⟨by_, bm, bd⟩ := b
  simp only [NaiveDate.Valid] at ha hb
  rw [NaiveDate.le_iff] at h
  simp only [ne_eq, NaiveDate.mk.injEq] at hne
  simp only at h
  simp only [NaiveDate.dayNumber]
  rcases h with h | ⟨rfl, h⟩
  · -- earlier year
    have e1 := daysBeforeMonth_le ay am ha.1 ha.2.1
    have e2 := daysBeforeYear_succ ay
    have e3 := daysBeforeYear_mono (show ay + 1 ≤ by_ from h)
    omega
  · rcases h with h | ⟨rfl, h⟩
    · -- same year, earlier month
      have e1 := daysBeforeMonth_step ay am ha.1 (by omega)
      have e2 := daysBeforeMonth_mono ay (a := am + 1) (b := bm) (by omega) h hb.2.1
      omega
    · have : ad ≠ bd := fun e => hne ⟨rfl, rfl, e⟩
      omega

theorem dayNumber_le {a b : NaiveDate} (ha : a.Valid) (hb : b.Valid) (h : a.le b = true) :
    a.dayNumber ≤ b.dayNumber := by
  by_cases e : a = b
  · subst e; exact Nat.le_refl _
  · exact Nat.le_of_lt (dayNumber_lt ha hb h e)

theorem NaiveDate.le_total (a b : NaiveDate) : a.le b = true ∨ b.le a = true := by
  rw [NaiveDate.le_iff, NaiveDate.le_iff]; omega

theorem NaiveDate.le_antisymm {a b : NaiveDate} (h1 : a.le b = true) (h2 : b.le a = true) : a = b := by
  rw [NaiveDate.le_iff] at h1 h2
  rw [NaiveDate.ext_iff']; omega

theorem NaiveDate.le_refl (a : NaiveDate) : a.le a = true := by simp [NaiveDate.le_iff]

theorem NaiveDate.le_antisymm_iff {a b : NaiveDate} : (a.le b = true ∧ b.le a = true) ↔ a = b :=
  ⟨fun h => NaiveDate.le_antisymm h.1 h.2, fun h => by subst h; exact ⟨a.le_refl, a.le_refl⟩⟩

/-- a time of day chrono can represent (`from_hms_micro_opt` returns it); microseconds from
1 000 000 on are chrono's representation of a leap second and need second 59 -/
def NaiveTime.Valid (t : NaiveTime) : Prop :=
  t.h < 24 ∧ t.m < 60 ∧ t.s < 60 ∧ (t.f < 1000000 ∨ (t.s = 59 ∧ t.f < 2000000))

theorem fromHmsMicroOpt_eq (h m s f : Nat) :
    NaiveTime.fromHmsMicroOpt h m s f =
      if h < 24 ∧ m < 60 ∧ s < 60 ∧ (f < 1000000 ∨ (s = 59 ∧ f < 2000000)) then some ⟨h, m, s, f⟩ else none := rfl

theorem NaiveTime.le_iff (a b : NaiveTime) :
    a.le b = true ↔ a.secs < b.secs ∨ (a.secs = b.secs ∧ a.f ≤ b.f) := by
  simp [NaiveTime.le]

theorem frac_bounds {f fp : Nat} (h6 : fp ≤ 6) (hf : f < 10 ^ fp) :
    1 ≤ 10 ^ (6 - fp) ∧ f * 10 ^ (6 - fp) + 10 ^ (6 - fp) - 1 < 1000000 := by
  have h := Nat.mul_le_mul_right (10 ^ (6 - fp)) (Nat.succ_le_of_lt hf)
  rw [pow_frac h6, Nat.succ_mul] at h
  have := Nat.pow_pos (n := 6 - fp) (by decide : 0 < 10)
  omega

/-! ## (date, time) order and local second count -/

theorem naiveLe_iff (d1 : NaiveDate) (t1 : NaiveTime) (d2 : NaiveDate) (t2 : NaiveTime) :
    naiveLe d1 t1 d2 t2 = true ↔ (d1.le d2 = true ∧ d1 ≠ d2) ∨ (d1 = d2 ∧ t1.le t2 = true) := by
  simp [naiveLe]

theorem secs_lt {t : NaiveTime} (ht : t.Valid) : t.secs < 86400 := by
  simp only [NaiveTime.Valid] at ht; simp only [NaiveTime.secs]; omega

/-- for real dates and times the (date, time) order is the order of the local second count,
ties broken by the fraction -/
theorem naiveLe_iff_localSecs {d1 d2 : NaiveDate} {t1 t2 : NaiveTime} (hd1 : d1.Valid) (hd2 : d2.Valid)
    (ht1 : t1.Valid) (ht2 : t2.Valid) :
    naiveLe d1 t1 d2 t2 = true ↔
      (localSecs d1 t1 < localSecs d2 t2 ∨ (localSecs d1 t1 = localSecs d2 t2 ∧ t1.f ≤ t2.f)) := by
  have s1 := secs_lt ht1
  have s2 := secs_lt ht2
  rw [naiveLe_iff, NaiveTime.le_iff]
  simp only [localSecs, Int.ofNat_eq_natCast]
  rcases NaiveDate.le_total d1 d2 with h | h
  · by_cases e : d1 = d2
    · subst e; simp; omega
    · have := dayNumber_lt hd1 hd2 h e
      simp [h, e]; omega
  · by_cases e : d1 = d2
    · subst e; simp; omega
    · have := dayNumber_lt hd2 hd1 h (Ne.symm e)
      have hn : ¬ d1.le d2 = true := fun c => e (NaiveDate.le_antisymm c h)
      simp [hn, e]; omega

theorem awareLe_same_offset {d1 d2 : NaiveDate} {t1 t2 : NaiveTime} (o : Int) (hd1 : d1.Valid) (hd2 : d2.Valid)
    (ht1 : t1.Valid) (ht2 : t2.Valid) : awareLe d1 t1 o d2 t2 o = naiveLe d1 t1 d2 t2 := by
  have h := naiveLe_iff_localSecs hd1 hd2 ht1 ht2
  have : awareLe d1 t1 o d2 t2 o = true ↔
      (localSecs d1 t1 < localSecs d2 t2 ∨ (localSecs d1 t1 = localSecs d2 t2 ∧ t1.f ≤ t2.f)) := by
    simp [awareLe] <;> omega
  rw [Bool.eq_iff_iff, this, h]


end Dicom.Partial
