import DicomModel.Lemmas.NormCanon
/-
The `NoChange` strategy (and, in fact, any strategy): the data set writer state machine cannot tell a
well-formed tree from its length-keeping normal form `keepElems` (values in normal form, recorded sequence /
item lengths kept). `LenOk*` says that the recorded lengths are consistent (every defined length = the length
of the reference encoding of the content); NormKeepCanon shows that `keepElems` is then canonical.
-/
namespace Dicom.Norm
open Dicom.C04 Dicom.Ref

mutual
/-- normal form keeping the recorded sequence and item lengths -/
def keepElem (ts : Syntax) : Elem → Elem
  | .prim tag vr _ v =>
    .prim tag vr (paddedValue ts.bigEndian vr v).length (normValue ts.bigEndian vr v)
  | .seq tag len items => .seq tag len (keepItems ts items)
  | .pix bot frags => .pix bot (frags.map fun f => padTo f 0)
def keepItems (ts : Syntax) : Items → Items
  | .nil => .nil
  | .cons len elems rest => .cons len (keepElems ts elems) (keepItems ts rest)
def keepElems (ts : Syntax) : Elems → Elems
  | .nil => .nil
  | .cons e rest => .cons (keepElem ts e) (keepElems ts rest)
end

mutual
/-- **recorded lengths are consistent**: a defined sequence / item length is the length of (the reference
encoding of) its content, representable in 32 bits; Implicit VR: a defined-length sequence is one the
dictionary knows as SQ (otherwise no reader could tell it from a primitive value) -/
def LenOkElem (ts : Syntax) (dict : Tag → Option VR) : Elem → Prop
  | .seq tag len items =>
    (len = undefinedLen ∨
      (len = (encItems ts (keepItems ts items)).length ∧ len < 4294967295
        ∧ (ts.explicit = true ∨ implicitVr dict tag = .SQ)))
    ∧ LenOkItems ts dict items
  | _ => True
def LenOkItems (ts : Syntax) (dict : Tag → Option VR) : Items → Prop
  | .nil => True
  | .cons len elems rest =>
    (len = undefinedLen ∨ (len = (encElems ts (keepElems ts elems)).length ∧ len < 4294967295))
    ∧ LenOkElems ts dict elems ∧ LenOkItems ts dict rest
def LenOkElems (ts : Syntax) (dict : Tag → Option VR) : Elems → Prop
  | .nil => True
  | .cons e rest => LenOkElem ts dict e ∧ LenOkElems ts dict rest
end

/-! ### steps of the writer that are not value tokens keep the syntax -/

theorem writeImpl_struct {u u' : Writer} {t : Token} (hn : ∀ v, t ≠ .primitiveValue v) (h : u.writeImpl t = .ok u') :
    u'.enc.ts = u.enc.ts ∧ u'.lastDe = u.lastDe := by
  cases t <;> simp only [Writer.writeImpl] at h
  case primitiveValue v => exact absurd rfl (hn v)
  case panic => cases h
  case itemValue bs => injection h with h; subst h; exact ⟨by simp only [Enc.writeBytes]; split <;> rfl, rfl⟩
  case elementHeader | sequenceStart | pixelSequenceStart =>
    split at h
    · rename_i h1; injection h with h; subst h; exact ⟨elementHeader_ts h1, rfl⟩
    · cases h
  all_goals (injection h with h; subst h; exact ⟨rfl, rfl⟩)

/-- every branch of `write` either hands the same encoder to `write_impl` or returns it untouched -/
theorem write_struct_ts {w w' : Writer} {tok : Token} (hnp : ∀ v, tok ≠ .primitiveValue v)
    (h : w.write tok = .ok w') : w'.enc.ts = w.enc.ts := by
  cases tok <;> simp only [Writer.write] at h
  case primitiveValue v => exact absurd rfl (hnp v)
  all_goals
    repeat' split at h
    -- `(… :)`: elaborate `writeImpl_struct … h` from `h` first; its writer is `w` with other fields, same `enc`
    all_goals first
      | exact ((writeImpl_struct (by intro v hv; cases hv) h).1 :)
      | (injection h with h; subst h; rfl)

/-- the writer's encoder has syntax `ts` and an exact byte counter (`EncOk ts w.enc`) -/
def Good (ts : Syntax) (w : Writer) : Prop := w.enc.ts = ts ∧ Enc.Exact w.enc

theorem good_step {ts : Syntax} {w w' : Writer} {tok : Token} (hnp : ∀ v, tok ≠ .primitiveValue v)
    (hg : Good ts w) (h : w.write tok = .ok w') : Good ts w' :=
  ⟨(write_struct_ts hnp h).trans hg.1, write_exact hg.2 tok h⟩

/-! ### fragments: padded or not, the same writer state results -/

theorem frags_keep (frags : List Bytes) (hf : ∀ f ∈ frags, f.length < 4294967294) (w : Writer)
    (hs : w.strat = .noChange ∨ w.lastDe = some pixHdr) :
    w.writeAll ((frags.map fun f => padTo f 0).flatMap fragTokens) = w.writeAll (frags.flatMap fragTokens) := by
  rw [frags_run frags (fun f h => by have := hf f h; omega) w hs]
  rw [frags_run _ (fun f h => by
    obtain ⟨g, hg, rfl⟩ := List.mem_map.mp h
    have := hf g hg
    rw [padTo_length]; unfold evenUp; omega) w hs]
  rw [recFrags_pad frags _ hf]

theorem pix_start_state {w w1 : Writer} (h : w.write .pixelSequenceStart = .ok w1) :
    w1.strat = .noChange ∨ w1.lastDe = some pixHdr := by
  right
  simp only [Writer.write, Writer.writeImpl] at h
  split at h
  · injection h with h; subst h; rfl
  · cases h

/-! ### the writer on a tree and on its length-keeping normal form -/

theorem writeAll_cons (w : Writer) (t : Token) (r : List Token) :
    w.writeAll (t :: r) = exBind (w.write t) fun w' => w'.writeAll r := by
  simp only [Writer.writeAll]; cases w.write t <;> rfl

def Idle (ts : Syntax) (w : Writer) : Prop := Good ts w ∧ w.lastDe = none

/-- inside a pixel sequence: either condition makes `write` keep the lengths of fragment items -/
def InPix (ts : Syntax) (w : Writer) : Prop := Good ts w ∧ (w.strat = .noChange ∨ w.lastDe = some pixHdr)

theorem write_seqEnd_lastDe {w w' : Writer} (h : w.write .sequenceEnd = .ok w') : w'.lastDe = none := by
  simp only [Writer.write] at h
  repeat' split at h
  all_goals first
    | exact ((writeImpl_struct (by intro v hv; cases hv) h).2 :)
    | (injection h with h; subst h; rfl)

theorem write_lastDe {w w' : Writer} {tok : Token}
    (htok : (∃ t l, tok = .sequenceStart t l) ∨ (∃ l, tok = .itemStart l) ∨ tok = .itemEnd)
    (h : w.write tok = .ok w') : w'.lastDe = w.lastDe := by
  rcases htok with ⟨_, _, rfl⟩ | ⟨_, rfl⟩ | rfl <;> simp only [Writer.write] at h <;> repeat' split at h
  all_goals first
    | exact ((writeImpl_struct (by intro v hv; cases hv) h).2 :)
    | (injection h with h; subst h; rfl)

theorem Idle.step {ts : Syntax} {w : Writer} (hi : Idle ts w) (tok : Token) (hnp : ∀ v, tok ≠ .primitiveValue v)
    (hl : ∀ w', w.write tok = .ok w' → w'.lastDe = w.lastDe) : SameOk (Idle ts) (w.write tok) (w.write tok) :=
  .of_ok fun w' h => ⟨good_step hnp hi.1 h, (hl w' h).trans hi.2⟩

theorem seqEnd_step {ts : Syntax} {w : Writer} (hg : Good ts w) :
    SameOk (Idle ts) (exBind (w.write .sequenceEnd) fun w' => w'.writeAll [])
      (exBind (w.write .sequenceEnd) fun w' => w'.writeAll []) :=
  SameOk.bind (Q := Idle ts)
    (.of_ok fun _ h => ⟨good_step (by intro v hv; cases hv) hg h, write_seqEnd_lastDe h⟩) fun _ h => .ok h

mutual
theorem keep_elem (ts : Syntax) (dict : Tag → Option VR) : ∀ (el : Elem), WfElem ts dict el →
    ∀ (w : Writer), Good ts w → w.lastDe = none →
      w.writeAll (keepElem ts el).tokens = w.writeAll el.tokens ∧
      ∀ w', w.writeAll el.tokens = .ok w' → Good ts w' ∧ w'.lastDe = none
  | .prim tag vr len v, h, w, hg, hl => by
    have hlen' := (wf_elem ts dict _ h).2.2
    obtain ⟨_, h2, hv, hf, _⟩ := h
    obtain ⟨hts, hex⟩ := hg
    subst hts
    obtain ⟨heq, hok⟩ := encodePrimitiveElement_norm w.enc hex tag vr len (paddedValue w.enc.ts.bigEndian vr v).length v hv hf
    refine ⟨?_, fun w' hw' => ?_⟩
    · simp only [keepElem, Elem.tokens, hv.1, h2, hlen', if_false, Writer.writeAll, Writer.write, Writer.writeImpl, heq]
    · simp only [Elem.tokens, hv.1, h2, if_false, Writer.writeAll, Writer.write, Writer.writeImpl] at hw'
      cases hE : w.enc.encodePrimitiveElement ⟨tag, vr, len⟩ v with
      | error x => simp only [hE] at hw'; cases hw'
      | ok e1 =>
        simp only [hE] at hw'
        injection hw' with hw'; subst hw'
        exact ⟨hok e1 hE, rfl⟩
  | .seq tag len items, h, w, hg, hl => by
    simp only [keepElem, Elem.tokens, writeAll_cons, writeAll_append]
    exact (Idle.step ⟨hg, hl⟩ _ (by intro v hv; cases hv) fun _ => write_lastDe (.inl ⟨_, _, rfl⟩)).bind fun w1 h1 =>
      SameOk.bind (Q := Idle ts) (keep_items ts dict items h.2.2 w1 h1.1 h1.2) fun _ h2 => seqEnd_step h2.1
  | .pix bot frags, h, w, hg, hl => by
    have hlt : ∀ f ∈ frags, f.length < 4294967295 := fun f hf => by have := (h.2.2 f hf).1; omega
    simp only [keepElem, Elem.tokens, writeAll_cons, List.append_assoc, writeAll_append]
    refine SameOk.bind (Q := InPix ts) (.of_ok fun w1 h1 =>
      ⟨good_step (by intro v hv; cases hv) hg h1, pix_start_state h1⟩) fun w1 h1 => ?_
    rw [bot_run bot w1 h1.2]
    refine SameOk.bind (Q := InPix ts)
      (.ok ⟨⟨(recBot_ts bot _).trans h1.1.1, recBot_exact _ _ h1.1.2⟩, h1.2⟩) fun w2 h2 => ?_
    rw [frags_keep frags (fun f hf => (h.2.2 f hf).1) w2 h2.2, frags_run frags hlt w2 h2.2]
    exact seqEnd_step ⟨(recFrags_ts frags w2.enc).trans h2.1.1, recFrags_exact _ _ h2.1.2⟩
theorem keep_items (ts : Syntax) (dict : Tag → Option VR) : ∀ (its : Items), WfItems ts dict its →
    ∀ (w : Writer), Good ts w → w.lastDe = none →
      w.writeAll (keepItems ts its).tokens = w.writeAll its.tokens ∧
      ∀ w', w.writeAll its.tokens = .ok w' → Good ts w' ∧ w'.lastDe = none
  | .nil, _, _, hg, hl => SameOk.ok (Q := Idle ts) ⟨hg, hl⟩
  | .cons len es r, h, w, hg, hl => by
    simp only [keepItems, Items.tokens, writeAll_cons, writeAll_append]
    exact (Idle.step ⟨hg, hl⟩ _ (by intro v hv; cases hv) fun _ => write_lastDe (.inr (.inl ⟨_, rfl⟩))).bind fun w1 h1 =>
      SameOk.bind (Q := Idle ts) (keep_elems ts dict es h.1 w1 h1.1 h1.2) fun w2 h2 =>
        (Idle.step h2 _ (by intro v hv; cases hv) fun _ => write_lastDe (.inr (.inr rfl))).bind fun w3 h3 =>
          keep_items ts dict r h.2.2 w3 h3.1 h3.2
theorem keep_elems (ts : Syntax) (dict : Tag → Option VR) : ∀ (es : Elems), WfElems ts dict es →
    ∀ (w : Writer), Good ts w → w.lastDe = none →
      w.writeAll (keepElems ts es).tokens = w.writeAll es.tokens ∧
      ∀ w', w.writeAll es.tokens = .ok w' → Good ts w' ∧ w'.lastDe = none
  | .nil, _, _, hg, hl => SameOk.ok (Q := Idle ts) ⟨hg, hl⟩
  | .cons e r, h, w, hg, hl => by
    simp only [keepElems, Elems.tokens, writeAll_append]
    exact SameOk.bind (Q := Idle ts) (keep_elem ts dict e h.1 w hg hl) fun w1 h1 =>
      keep_elems ts dict r h.2 w1 h1.1 h1.2
end

/-- **whatever the strategy, the data set writer writes a well-formed tree and its length-keeping normal
form to the same bytes** -/
theorem write_keep (ts : Syntax) (dict : Tag → Option VR) (strat : Strategy) (t : Elems) (h : WfElems ts dict t) :
    writeDataset ts strat (keepElems ts t) = writeDataset ts strat t := by
  unfold writeDataset
  rw [(keep_elems ts dict t h (Writer.new ts strat) ⟨rfl, rfl⟩ rfl).1]

end Dicom.Norm
