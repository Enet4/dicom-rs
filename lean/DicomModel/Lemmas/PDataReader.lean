import DicomModel.Lemmas.PData
/-
Lemmas for C26, reader: wire form of general P-DATA-TF PDUs, `read_pdu` on complete and on
incomplete input, the receive loop over a segmented source.
-/
namespace Dicom.PData
open Dicom.Gen.Ul

/-- wire form of one presentation data value item -/
def encPdv (v : Pdv) : Bytes := be32 (v.data.length + 2) ++ [v.ctx, v.ctrl] ++ v.data

/-- wire form of a P-DATA-TF PDU with the given values -/
def encPdu (vs : List Pdv) : Bytes :=
  [4, 0] ++ be32 ((vs.map encPdv).flatten.length) ++ (vs.map encPdv).flatten

/-- lengths fit their 32-bit fields -/
def WfPdu (vs : List Pdv) : Prop :=
  (∀ v ∈ vs, v.data.length + 2 < u32) ∧ (vs.map encPdv).flatten.length < u32

theorem parsePdvs_enc : ∀ (vs : List Pdv), (∀ v ∈ vs, v.data.length + 2 < u32) →
    parsePdvs ((vs.map encPdv).flatten) = some vs := by
  intro vs
  induction vs with
  | nil => intro _; simp only [List.map_nil, List.flatten_nil]; rw [parsePdvs]
  | cons v vs ih =>
    intro h
    have hv := h v (by simp)
    have hr := ih (fun x hx => h x (by simp [hx]))
    have hval := be_val (v.data.length + 2) hv
    generalize hbody : (vs.map encPdv).flatten = body at hr
    have hshape : ((v :: vs).map encPdv).flatten
        = (v.data.length + 2) / 16777216 % 256 :: (v.data.length + 2) / 65536 % 256
          :: (v.data.length + 2) / 256 % 256 :: (v.data.length + 2) % 256 :: v.ctx :: v.ctrl
          :: (v.data ++ body) := by
      simp [encPdv, be32, hbody]
    rw [hshape, parsePdvs]
    have h1 : ¬ v.data.length + 2 < 2 := by omega
    have h2 : ¬ (v.data ++ body).length < v.data.length := by simp
    simp only [hval, h1, Nat.add_sub_cancel, h2, if_false, List.drop_left, List.take_left, hr]

theorem encPdu_length (vs : List Pdv) : (encPdu vs).length = (vs.map encPdv).flatten.length + 6 := by
  simp [encPdu]; omega

theorem readPdu_complete {max : Nat} (hmin : minimumPduSize ≤ max) (hmax : max ≤ maximumPduSize)
    (vs : List Pdv) (hw : WfPdu vs) (t : Bytes) :
    readPdu max (encPdu vs ++ t) = .pdata vs (encPdu vs).length := by
  have hr : ¬ (max < minimumPduSize ∨ maximumPduSize < max) := by omega
  have hval := be_val _ hw.2
  have hp := parsePdvs_enc vs hw.1
  simp only [readPdu, hr, if_false, encPdu, be32, List.cons_append, List.nil_append, hval]
  generalize (vs.map encPdv).flatten = body at *
  have h1 : ¬ (body ++ t).length < body.length := by simp
  simp only [h1, if_false, if_true, List.take_left, hp]
  simp; omega

theorem readPdu_incomplete {max : Nat} (hmin : minimumPduSize ≤ max) (hmax : max ≤ maximumPduSize)
    (vs : List Pdv) (hw : WfPdu vs) (m : Nat) (hm : m < (encPdu vs).length) :
    readPdu max ((encPdu vs).take m) = .incomplete := by
  have hr : ¬ (max < minimumPduSize ∨ maximumPduSize < max) := by omega
  have hval := be_val _ hw.2
  rw [encPdu_length] at hm
  simp only [readPdu, hr, if_false, encPdu, be32, List.cons_append, List.nil_append]
  generalize (vs.map encPdv).flatten = body at *
  -- fewer than 6 bytes do not match the header pattern of `readPdu`
  match m, hm with
  | 0, _ => simp
  | 1, _ => simp
  | 2, _ => simp
  | 3, _ => simp
  | 4, _ => simp
  | 5, _ => simp
  | m + 6, hm =>
    simp only [List.take_succ_cons, hval, List.length_take]
    have : min m body.length < body.length := by omega
    simp only [this, if_true]

theorem readPdu_prefix {max : Nat} (hmin : minimumPduSize ≤ max) (hmax : max ≤ maximumPduSize)
    (vs : List Pdv) (hw : WfPdu vs) {rb F tail : Bytes} (he : rb ++ F = encPdu vs ++ tail) :
    (∃ r, rb = encPdu vs ++ r ∧ r ++ F = tail) ∨
    (rb.length < (encPdu vs).length ∧ readPdu max rb = .incomplete) := by
  rcases List.append_eq_append_iff.mp he with ⟨a, h1, h2⟩ | ⟨c, h1, h2⟩
  · by_cases ha : a = []
    · subst ha
      exact .inl ⟨[], by rw [h1, List.append_nil, List.append_nil], by rw [h2]; rfl⟩
    · have hlt : rb.length < (encPdu vs).length := by
        have := List.length_pos_iff.mpr ha
        rw [h1, List.length_append]; omega
      have := readPdu_incomplete hmin hmax vs hw rb.length hlt
      rw [h1, List.take_left] at this
      exact .inr ⟨hlt, this⟩
  · exact .inl ⟨c, h1, h2.symm⟩

theorem fetch_complete {max : Nat} {rb : Bytes} {vs : List Pdv} {n : Nat}
    (h : readPdu max rb = .pdata vs n) (src : List Bytes) :
    fetch max rb src = .ok vs (rb.drop n) src := by
  cases src <;> simp only [fetch, h]

/-- The receive loop of `read`: whatever way the bytes `pdu ++ tail` are split between the shared
buffer and the (non-empty) segments still to come, the PDU is returned and exactly `tail` is left
in buffer + source. -/
theorem fetch_spec {max : Nat} (hmin : minimumPduSize ≤ max) (hmax : max ≤ maximumPduSize)
    (vs : List Pdv) (hw : WfPdu vs) (tail : Bytes) :
    ∀ (src : List Bytes) (rb : Bytes), rb ++ src.flatten = encPdu vs ++ tail →
      (∀ seg ∈ src, seg ≠ []) →
      ∃ rb' src', fetch max rb src = .ok vs rb' src' ∧ rb' ++ src'.flatten = tail ∧
        (∀ seg ∈ src', seg ≠ []) := by
  intro src
  induction src with
  | nil =>
    intro rb he hne
    rcases readPdu_prefix hmin hmax vs hw he with ⟨r, rfl, h2⟩ | ⟨hlt, _⟩
    · exact ⟨r, [], by rw [fetch_complete (readPdu_complete hmin hmax vs hw r), List.drop_left], h2, hne⟩
    · have := congrArg List.length he
      simp only [List.flatten_nil, List.append_nil, List.length_append] at this
      omega
  | cons seg rest ih =>
    intro rb he hne
    rcases readPdu_prefix hmin hmax vs hw he with ⟨r, rfl, h2⟩ | ⟨_, hinc⟩
    · exact ⟨r, seg :: rest,
        by rw [fetch_complete (readPdu_complete hmin hmax vs hw r), List.drop_left], h2, hne⟩
    · have hseg := List.isEmpty_eq_false_iff.mpr (hne seg List.mem_cons_self)
      obtain ⟨rb', src', h3, h4, h5⟩ := ih (rb ++ seg)
        (by rw [List.append_assoc]; exact he) (fun x hx => hne x (List.mem_cons_of_mem _ hx))
      exact ⟨rb', src', by simp only [fetch, hinc, hseg]; exact h3, h4, h5⟩

/-! ### a whole message through `read` -/

/-- payload carried by one PDU / by a sequence of PDUs -/
def pduData (vs : List Pdv) : Bytes := vs.flatMap (·.data)
def msgData (pdus : List (List Pdv)) : Bytes := pdus.flatMap pduData
def encMsg (pdus : List (List Pdv)) : Bytes := (pdus.map encPdu).flatten

theorem msgData_cons (p : List Pdv) (ps : List (List Pdv)) :
    msgData (p :: ps) = pduData p ++ msgData ps := List.flatMap_cons

theorem encMsg_cons (p : List Pdv) (ps : List (List Pdv)) :
    encMsg (p :: ps) = encPdu p ++ encMsg ps := rfl

/-- A message as the reader's property sees it: well-formed PDUs; every PDU before the final one
carries some data and its final value is not marked last; the final PDU's final value is marked
last. -/
def MsgOk : List (List Pdv) → Prop
  | [] => False
  | [p] => WfPdu p ∧ ∃ v, p.getLast? = some v ∧ v.isLast = true
  | p :: q :: ps => WfPdu p ∧ (∃ v, p.getLast? = some v ∧ v.isLast = false) ∧ pduData p ≠ [] ∧
      MsgOk (q :: ps)

/-- what the reader still expects between two PDUs: nothing after a value marked last, otherwise
the rest of a message -/
def Expects (last : Bool) (pdus : List (List Pdv)) : Prop :=
  (last = true ∧ pdus = []) ∨ (last = false ∧ MsgOk pdus)

theorem MsgOk.cons {p : List Pdv} {ps : List (List Pdv)} (h : MsgOk (p :: ps)) :
    WfPdu p ∧ ∃ v, p.getLast? = some v ∧ Expects v.isLast ps ∧
      (pduData p = [] → ps = [] ∧ v.isLast = true) := by
  cases ps with
  | nil =>
    obtain ⟨hw, v, hv, hvl⟩ := h
    exact ⟨hw, v, hv, .inl ⟨hvl, rfl⟩, fun _ => ⟨rfl, hvl⟩⟩
  | cons q qs =>
    obtain ⟨hw, ⟨v, hv, hvl⟩, hd, h'⟩ := h
    exact ⟨hw, v, hv, .inr ⟨hvl, h'⟩, fun e => absurd e hd⟩

theorem read_nonempty (max : Nat) (q : Bytes) (last : Bool) (rb : Bytes) (src : List Bytes) (k : Nat)
    (hq : q ≠ []) :
    read max ⟨q, last, rb, src⟩ k = (⟨q.drop k, last, rb, src⟩, .data (q.take k)) := by
  simp only [read, List.isEmpty_eq_false_iff.mpr hq]; rfl

theorem read_fetch {max : Nat} {rb : Bytes} {src : List Bytes} {p : List Pdv} {rb1 : Bytes}
    {src1 : List Bytes} {v : Pdv} (hf : fetch max rb src = .ok p rb1 src1) (hv : p.getLast? = some v)
    (k : Nat) :
    read max ⟨[], false, rb, src⟩ k
      = (⟨(pduData p).drop k, v.isLast, rb1, src1⟩, .data ((pduData p).take k)) := by
  simp only [read, hf, hv]; rfl

theorem readLoop_step {max : Nat} {rs rs' : RS} {k : Nat} {d : Bytes} (ks : List Nat) (acc : Bytes)
    (hr : read max rs k = (rs', .data d)) (hd : d ≠ []) :
    readLoop max rs (k :: ks) acc = readLoop max rs' ks (acc ++ d) := by
  cases d with
  | nil => exact absurd rfl hd
  | cons b bs => simp only [readLoop, hr]

theorem readLoop_eof {max : Nat} {rs rs' : RS} {k : Nat} (ks : List Nat) (acc : Bytes)
    (hr : read max rs k = (rs', .data [])) :
    readLoop max rs (k :: ks) acc = (rs', acc, .eof) := by
  simp only [readLoop, hr]

theorem take_ne_nil {q : Bytes} {k : Nat} (hq : q ≠ []) (hk : 1 ≤ k) : q.take k ≠ [] :=
  fun h => (List.take_eq_nil_iff.mp h).elim (by omega) hq

/-- Generalised invariant of a caller reading until end of stream. Enough reads: at worst one per
payload byte, one per PDU (it may carry no data) and the final read of 0 bytes. -/
theorem readLoop_spec {max : Nat} (hmin : minimumPduSize ≤ max) (hmax : max ≤ maximumPduSize)
    (rest : Bytes) : ∀ (ks : List Nat) (q : Bytes) (last : Bool) (rb : Bytes) (src : List Bytes)
      (pdus : List (List Pdv)) (acc : Bytes),
      (∀ k ∈ ks, 1 ≤ k) → (∀ seg ∈ src, seg ≠ []) → Expects last pdus →
      rb ++ src.flatten = encMsg pdus ++ rest →
      q.length + (msgData pdus).length + pdus.length < ks.length →
      ∃ rb' src', readLoop max ⟨q, last, rb, src⟩ ks acc
          = (⟨[], true, rb', src'⟩, acc ++ q ++ msgData pdus, .eof) ∧
        rb' ++ src'.flatten = rest ∧ (∀ seg ∈ src', seg ≠ []) := by
  intro ks
  induction ks with
  | nil => intro q last rb src pdus acc _ _ _ _ hl; exact absurd hl (Nat.not_lt_zero _)
  | cons k ks ih =>
    intro q last rb src pdus acc hks hsrc hst he hl
    obtain ⟨hk, hks'⟩ := List.forall_mem_cons.mp hks
    by_cases hq : q = []
    · subst hq
      rcases hst with ⟨rfl, rfl⟩ | ⟨rfl, hp⟩
      · exact ⟨rb, src, by simp [readLoop, read, msgData], he, hsrc⟩
      · cases pdus with
        | nil => exact hp.elim
        | cons p ps =>
          obtain ⟨hw, v, hv, hst', hempty⟩ := hp.cons
          rw [encMsg_cons, List.append_assoc] at he
          obtain ⟨rb1, src1, hf, hrest, hsrc1⟩ := fetch_spec hmin hmax p hw _ src rb he hsrc
          have hrd := read_fetch hf hv k
          rw [msgData_cons] at hl ⊢
          by_cases hd : pduData p = []
          · obtain ⟨rfl, hvl⟩ := hempty hd
            rw [hd, hvl, List.take_nil, List.drop_nil] at hrd
            exact ⟨rb1, src1, by rw [readLoop_eof ks acc hrd, hd]; simp [msgData], hrest, hsrc1⟩
          · rw [readLoop_step ks acc hrd (take_ne_nil hd hk)]
            obtain ⟨rb', src', h1, h2, h3⟩ := ih ((pduData p).drop k) v.isLast rb1 src1 ps
              (acc ++ (pduData p).take k) hks' hsrc1 hst' hrest
              (by simp only [List.length_cons, List.length_append, List.length_drop] at hl ⊢; omega)
            exact ⟨rb', src', by rw [h1]; simp [List.append_assoc], h2, h3⟩
    · rw [readLoop_step ks acc (read_nonempty max q last rb src k hq) (take_ne_nil hq hk)]
      have hqpos := List.length_pos_iff.mpr hq
      obtain ⟨rb', src', h1, h2, h3⟩ := ih (q.drop k) last rb src pdus (acc ++ q.take k) hks' hsrc hst he
        (by simp only [List.length_cons, List.length_drop] at hl ⊢; omega)
      exact ⟨rb', src', by rw [h1]; simp [List.append_assoc], h2, h3⟩

/-- a PDU as the writers emit it is the general wire form with one value -/
theorem pdu_eq_encPdu (ctx : Nat) (last : Bool) (data : Bytes) :
    pdu ctx last data = encPdu [⟨ctx, if last then 2 else 0, data⟩] := by
  have : 4 + (data.length + 1 + 1) = data.length + 6 := by omega
  simp [pdu, encPdu, encPdv, this]

theorem encMsg_writer (ctx : Nat) (blocks : List Bytes) (tail : Bytes) :
    encMsg (blocks.map (fun b => [(⟨ctx, 0, b⟩ : Pdv)]) ++ [[⟨ctx, 2, tail⟩]])
      = (blocks.map (pdu ctx false)).flatten ++ pdu ctx true tail := by
  induction blocks with
  | nil => rw [pdu_eq_encPdu]; simp [encMsg]
  | cons b bs ih =>
    rw [List.map_cons, List.cons_append, encMsg_cons, ih, List.map_cons, List.flatten_cons,
      List.append_assoc, pdu_eq_encPdu ctx false b]
    rfl

theorem msgData_writer (ctx : Nat) (blocks : List Bytes) (tail : Bytes) :
    msgData (blocks.map (fun b => [(⟨ctx, 0, b⟩ : Pdv)]) ++ [[⟨ctx, 2, tail⟩]])
      = blocks.flatten ++ tail := by
  induction blocks with
  | nil => simp [msgData, pduData]
  | cons b bs ih =>
    rw [List.map_cons, List.cons_append, msgData_cons, ih, List.flatten_cons, List.append_assoc]
    simp [pduData]

theorem length_le_flatten_length {bl : List Bytes} (h : ∀ b ∈ bl, b ≠ []) :
    bl.length ≤ bl.flatten.length := by
  induction bl with
  | nil => exact Nat.le_refl _
  | cons b bs ih =>
    have := List.length_pos_iff.mpr (h b List.mem_cons_self)
    have := ih (fun x hx => h x (List.mem_cons_of_mem _ hx))
    rw [List.flatten_cons, List.length_append, List.length_cons]; omega

end Dicom.PData
