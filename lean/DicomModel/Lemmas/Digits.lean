import DicomModel.Model.Digits
/-
Decimal print/parse lemmas (`Dicom.Digits`): `read_number` characterised and its round trip with
fixed-width fields; Rust's `to_string` and `{:0w}` against `fixed`.
-/
namespace Dicom.Digits

@[simp] theorem fixed_length (w n : Nat) : (fixed w n).length = w := by
  induction w generalizing n with
  | zero => rfl
  | succ w ih => simp [fixed, ih]

theorem fixed_isDigit (w n : Nat) : ∀ b ∈ fixed w n, isDigit b = true := by
  induction w generalizing n with
  | zero => simp [fixed]
  | succ w ih =>
    intro b hb
    simp only [fixed, List.mem_append, List.mem_singleton] at hb
    rcases hb with hb | hb
    · exact ih _ b hb
    · subst hb; simp [isDigit]; omega

theorem readUnchecked_eq_foldl (l : Bytes) :
    readUnchecked l = l.foldl (fun acc v => acc * 10 + (v - 48)) 0 := by
  cases l with
  | nil => rfl
  | cons b r => simp [readUnchecked]

theorem foldl_fixed (w n acc : Nat) :
    (fixed w n).foldl (fun acc v => acc * 10 + (v - 48)) acc = acc * 10 ^ w + n % 10 ^ w := by
  induction w generalizing n acc with
  | zero => simp [fixed, Nat.mod_one]
  | succ w ih =>
    simp only [fixed, List.foldl_append, List.foldl_cons, List.foldl_nil, ih]
    have h1 : 48 + n % 10 - 48 = n % 10 := by omega
    rw [h1, Nat.pow_succ]
    have h2 : n % (10 ^ w * 10) = (n / 10 % 10 ^ w) * 10 + n % 10 := by
      rw [Nat.mul_comm (10 ^ w) 10, Nat.mod_mul, Nat.mul_comm]; omega
    rw [h2, Nat.add_mul, Nat.mul_assoc]; omega

theorem foldl_digits_lt (l : Bytes) (acc k : Nat) (hd : ∀ v ∈ l, isDigit v = true) (h : acc < 10 ^ k) :
    l.foldl (fun acc v => acc * 10 + (v - 48)) acc < 10 ^ (k + l.length) := by
  induction l generalizing acc k with
  | nil => simpa using h
  | cons v r ih =>
    have hv : v - 48 ≤ 9 := by have := hd v (by simp); simp [isDigit] at this; omega
    have := ih (acc * 10 + (v - 48)) (k + 1) (fun w hw => hd w (by simp [hw])) (by rw [Nat.pow_succ]; omega)
    rwa [Nat.add_assoc, Nat.add_comm 1] at this

theorem readNumber_eq_some_iff {text : Bytes} {v : Nat} :
    readNumber text = some v ↔
      text ≠ [] ∧ text.length ≤ 9 ∧ (∀ b ∈ text, isDigit b = true) ∧ readUnchecked text = v := by
  unfold readNumber
  by_cases h1 : text = []
  · simp [h1]
  by_cases h2 : text.length ≤ 9
  · simp [h1, h2, Nat.not_lt.mpr h2]
  · simp [h2, Nat.not_le.mp h2]

theorem readNumber_fixed {w n : Nat} (h1 : 1 ≤ w) (h9 : w ≤ 9) (hn : n < 10 ^ w) :
    readNumber (fixed w n) = some n := by
  refine readNumber_eq_some_iff.mpr ⟨?_, by simpa using h9, fixed_isDigit w n, ?_⟩
  · intro e; have := fixed_length w n; rw [e] at this; simp at this; omega
  · rw [readUnchecked_eq_foldl, foldl_fixed, Nat.mod_eq_of_lt hn]; simp

theorem readNumber_lt {text : Bytes} {v : Nat} (h : readNumber text = some v) : v < 10 ^ text.length := by
  obtain ⟨_, _, hd, rfl⟩ := readNumber_eq_some_iff.mp h
  rw [readUnchecked_eq_foldl]
  simpa using foldl_digits_lt text 0 0 hd (by decide)

theorem fixed_zero (w : Nat) : fixed w 0 = List.replicate w 48 := by
  induction w with
  | zero => rfl
  | succ w ih => simp [fixed, ih, List.replicate_succ']

theorem toDecAux_fuel (f g n : Nat) (hf : n < f) (hg : n < g) : toDecAux f n = toDecAux g n := by
  induction f generalizing g n with
  | zero => omega
  | succ f ih =>
    cases g with
    | zero => omega
    | succ g =>
      simp only [toDecAux]
      by_cases hn : n < 10
      · simp [hn]
      · simp only [hn, if_false]
        rw [ih g (n / 10) (by omega) (by omega)]

theorem toDec_lt {n : Nat} (h : n < 10) : toDec n = [48 + n] := by
  simp [toDec, toDecAux, h]

theorem toDec_ge {n : Nat} (h : 10 ≤ n) : toDec n = toDec (n / 10) ++ [48 + n % 10] := by
  have hn : ¬ n < 10 := by omega
  show toDecAux (n + 1) n = toDecAux (n / 10 + 1) (n / 10) ++ [48 + n % 10]
  rw [toDecAux.eq_2]
  simp only [hn, if_false]
  rw [toDecAux_fuel n (n / 10 + 1) (n / 10) (by omega) (by omega)]

theorem toDec_isDigit (n : Nat) : ∀ b ∈ toDec n, isDigit b = true := by
  induction n using Nat.strongRecOn with
  | _ n ih =>
    by_cases h : n < 10
    · rw [toDec_lt h]; intro b hb; simp at hb; subst hb; simp [isDigit]; omega
    · rw [toDec_ge (by omega)]
      intro b hb
      simp only [List.mem_append, List.mem_singleton] at hb
      rcases hb with hb | hb
      · exact ih (n / 10) (by omega) b hb
      · subst hb; simp [isDigit]; omega

theorem toDec_ne_nil (n : Nat) : toDec n ≠ [] := by
  by_cases h : n < 10
  · rw [toDec_lt h]; simp
  · rw [toDec_ge (by omega)]; simp

theorem foldl_toDec (n : Nat) : (toDec n).foldl (fun acc b => acc * 10 + (b - 48)) 0 = n := by
  induction n using Nat.strongRecOn with
  | _ n ih =>
    by_cases h : n < 10
    · rw [toDec_lt h]; simp
    · rw [toDec_ge (by omega), List.foldl_append, ih (n / 10) (by omega)]
      simp; omega

/-- below `10^w` the decimal string has at most `w` characters, and padding it gives `fixed` -/
theorem pad_toDec {w n : Nat} (h1 : 1 ≤ w) (hn : n < 10 ^ w) :
    (toDec n).length ≤ w ∧ List.replicate (w - (toDec n).length) 48 ++ toDec n = fixed w n := by
  induction w generalizing n with
  | zero => omega
  | succ w ih =>
    by_cases hlt : n < 10
    · rw [toDec_lt hlt]
      have hz : n / 10 = 0 := by omega
      have hm : n % 10 = n := by omega
      simp [fixed, hz, hm, fixed_zero]
    · have hge : 10 ≤ n := by omega
      have hw : 1 ≤ w := by
        cases w with
        | zero => simp at hn; omega
        | succ _ => omega
      have hq : n / 10 < 10 ^ w := by rw [Nat.pow_succ] at hn; omega
      obtain ⟨hl, he⟩ := ih hw hq
      rw [toDec_ge hge]
      refine ⟨by simp; omega, ?_⟩
      simp only [fixed, ← he, List.length_append, List.length_singleton, List.append_assoc]
      congr 2
      omega

/-- `format!("{:0w}", n)` is the fixed-width field whenever the value fits -/
theorem fmtPad_eq_fixed {w n : Nat} (h1 : 1 ≤ w) (hn : n < 10 ^ w) : fmtPad w n = fixed w n :=
  (pad_toDec h1 hn).2

/-- `(10^w + f).to_string()` is `'1'` followed by the `w`-digit field of `f` -/
theorem toDec_pow_add {w f : Nat} (hf : f < 10 ^ w) : toDec (10 ^ w + f) = 49 :: fixed w f := by
  induction w generalizing f with
  | zero => simp at hf; subst hf; rfl
  | succ w ih =>
    have hp : 10 ^ (w + 1) = 10 ^ w * 10 := Nat.pow_succ ..
    have hpos : 0 < 10 ^ w := Nat.pow_pos (by omega)
    have hge : 10 ≤ 10 ^ (w + 1) + f := by omega
    rw [toDec_ge hge]
    have hd : (10 ^ (w + 1) + f) / 10 = 10 ^ w + f / 10 := by omega
    have hm : (10 ^ (w + 1) + f) % 10 = f % 10 := by omega
    rw [hd, hm, ih (by omega : f / 10 < 10 ^ w)]
    simp [fixed]

theorem fixed_append (w : Nat) {v a b : Nat} (hb : b < 10 ^ v) :
    fixed w a ++ fixed v b = fixed (w + v) (a * 10 ^ v + b) := by
  induction v generalizing b with
  | zero => simp at hb; simp [fixed, hb]
  | succ v ih =>
    have hq : b / 10 < 10 ^ v := by rw [Nat.pow_succ] at hb; omega
    have e : a * 10 ^ (v + 1) = a * 10 ^ v * 10 := by rw [Nat.pow_succ, Nat.mul_assoc]
    have e1 : (a * 10 ^ (v + 1) + b) / 10 = a * 10 ^ v + b / 10 := by rw [e]; omega
    have e2 : (a * 10 ^ (v + 1) + b) % 10 = b % 10 := by rw [e]; omega
    rw [← Nat.add_assoc, fixed, fixed, e1, e2, ← ih hq, List.append_assoc]

@[simp] theorem leadingDigits_fixed_append (w n : Nat) (r : Bytes) :
    leadingDigits (fixed w n ++ r) = w + leadingDigits r := by
  have : ∀ l : Bytes, (∀ b ∈ l, isDigit b = true) → leadingDigits (l ++ r) = l.length + leadingDigits r := by
    intro l
    induction l with
    | nil => simp
    | cons b t ih =>
      intro h
      have hb := h b (by simp)
      have ht := ih (fun x hx => h x (by simp [hx]))
      simp [leadingDigits, hb, ht]; omega
  simpa using this (fixed w n) (fixed_isDigit w n)

/-- a text whose first byte is not a digit is not a number -/
theorem readNumber_cons_nondigit {b : Nat} (h : isDigit b = false) (r : Bytes) :
    readNumber (b :: r) = none := by
  simp [readNumber, h]

end Dicom.Digits
