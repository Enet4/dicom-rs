import DicomModel.Lemmas.LazySteps
import DicomModel.Model.LazyRun
/-
C07 over the lazy reader `LState` of Model/LazyReader.lean (its decoder is `Dicom.Dec` of Model/Reader.lean;
namespace `LP` = "lazy position", begun in Model/LazyRun.lean): every token `advance` yields adds to `position`
exactly what it takes from the source, and so does every way the consumer deals with an announced value
(`into_owned`, `skip`) provided the value lies inside the source (`ValueInside`).
-/
namespace Dicom.LP
open Dicom.DC

/-- from `d` to `d'` the decoder took exactly as many bytes from the source as it added to `position` -/
def DExact (d d' : Dec) : Prop := d'.pos + d'.rest.length = d.pos + d.rest.length ∧ d.pos ≤ d'.pos

theorem DExact.refl (d : Dec) : DExact d d := ⟨rfl, Nat.le_refl _⟩
theorem DExact.trans {a b c : Dec} (h1 : DExact a b) (h2 : DExact b c) : DExact a c :=
  ⟨h2.1.trans h1.1, Nat.le_trans h1.2 h2.2⟩

theorem after_exact (d : Dec) (n : Nat) (h : n ≤ d.rest.length) : DExact d (after d n) := by
  simp [DExact, after]; omega

/-- `advance`: every token it yields (structural tokens, `LazyValue`, `LazyItemValue`, a peeked token) -/
theorem advance_exact {s s' : LState} {t : LTok} (h : s.advance = (some (.ok t), s')) : DExact s.dec s'.dec := by
  obtain ⟨n, e, hn⟩ := (Dicom.LS.advance_ok h).1
  rw [e]
  exact after_exact _ n hn

/-- the announced value lies inside the source, where the consumer goes through `io::copy`
(`read_to_vec`, `skip_bytes`): item values always, element values when skipped -/
def ValueInside (u : Use) (t : LTok) (d : Dec) : Prop :=
  match t, u with
  | .lazyItemValue len, _ => len ≤ d.rest.length
  | .lazyValue h, .skip => h.len ≤ d.rest.length
  | _, _ => True

instance (u : Use) (t : LTok) (d : Dec) : Decidable (ValueInside u t d) := by
  unfold ValueInside; split <;> infer_instance

theorem consume_exact {u : Use} {t : LTok} {d d' : Dec} {o : Option Token} (hin : ValueInside u t d)
    (h : consumeTok u t d = .ok (o, d')) : DExact d d' := by
  cases u <;> cases t <;> simp only [consumeTok, LTok.intoOwned, LTok.skip, Dec.skip, Dec.readToVec] at h
  -- fetched (an element value is one that `read_value_preserved` found inside the source)
  · cases h; exact DExact.refl d
  · split at h
    · rename_i hi
      cases h
      split at hi
      · rename_i hv
        cases hi
        obtain ⟨ha, hl⟩ := readValuePreserved_after hv
        exact ha ▸ after_exact d _ hl
      · cases hi
    · cases h
  · cases h; exact after_exact d _ hin
  · cases h; exact DExact.refl d
  · cases h; exact after_exact d _ hin
  · cases h; exact after_exact d _ hin

end Dicom.LP
