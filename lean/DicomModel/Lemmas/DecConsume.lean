import DicomModel.Model.LazyReader
import DicomModel.Lemmas.Drops
/-
What the stateful decoder `Dicom.Dec` of Model/Reader.lean consumes (namespace `DC` = "decoder consumes"):
`read_value_preserved`, when it succeeds, consumes exactly the declared length, whatever the VR — so reading a
value, skipping it (`skip_bytes`) and copying it (`read_to_vec`) leave the same `Dec` value, `after d len`.
-/
namespace Dicom.DC

/-- the decoder `n` bytes further -/
def after (d : Dec) (n : Nat) : Dec := ⟨d.ts, d.dict, d.rest.drop n, d.pos + n⟩

theorem rdMany_drops {rd : Bytes → Option (Nat × Bytes)} {w : Nat}
    (hrd : ∀ bs v r, rd bs = some (v, r) → Drops w bs r) :
    ∀ (n : Nat) {bs : Bytes} {vs : List Nat} {r : Bytes}, rdMany rd n bs = some (vs, r) → Drops (n * w) bs r
  | 0, bs, _, _, h => by cases h; exact (Drops.refl bs).cast (Nat.zero_mul w).symm
  | n + 1, _, _, _, h => by
    simp only [rdMany] at h
    split at h
    · rename_i h1
      split at h
      · rename_i h2
        cases h
        exact ((hrd _ _ _ h1).trans (rdMany_drops hrd n h2)).cast (by rw [Nat.add_mul, Nat.one_mul, Nat.add_comm])
      · cases h
    · cases h

theorem rdTags_drops (be : Bool) :
    ∀ (n : Nat) {bs : Bytes} {ts : List Tag} {r : Bytes}, rdTags be n bs = some (ts, r) → Drops (n * 4) bs r
  | 0, bs, _, _, h => by cases h; exact (Drops.refl bs).cast (Nat.zero_mul 4).symm
  | n + 1, _, _, _, h => by
    simp only [rdTags] at h
    split at h
    · rename_i h1
      split at h
      · rename_i h2
        cases h
        exact ((decodeTag_drops h1).trans (rdTags_drops be n h2)).cast (by omega)
      · cases h
    · cases h

theorem drops_units_rest {w len : Nat} {bs r r' : Bytes} (h1 : Drops (len / w * w) bs r)
    (h2 : Drops (len % w) r r') : Drops len bs r' :=
  (h1.trans h2).cast (by rw [Nat.mul_comm]; exact Nat.div_add_mod len w)

theorem readNums_after {d d' : Dec} {len shift : Nat} {rd : Bytes → Option (Nat × Bytes)}
    (hrd : ∀ bs v r, rd bs = some (v, r) → Drops (2 ^ shift) bs r) {mk : List Nat → PValue} {v : PValue}
    (h : d.readNums len shift rd mk = .ok (v, d')) : d' = after d len ∧ len ≤ d.rest.length := by
  unfold Dec.readNums at h
  split at h
  · rename_i h1
    split at h
    · rename_i h2
      have hd := drops_units_rest (rdMany_drops hrd _ h1) (takeN_drops h2).1
      cases h
      exact ⟨by rw [after, hd.1], hd.2⟩
    · cases h
  · cases h

theorem take_drops {d d' : Dec} {len : Nat} {buf : Bytes} (h : d.take len = .ok (buf, d')) :
    d' = ⟨d.ts, d.dict, d.rest.drop len, d.pos⟩ ∧ len ≤ d.rest.length := by
  unfold Dec.take at h
  split at h
  · rename_i h1
    have hd := (takeN_drops h1).1
    cases h
    exact ⟨by rw [hd.1], hd.2⟩
  · cases h

/-- `read_value_preserved` consumes exactly the declared length, and a value it delivers lies
completely inside the source -/
theorem readValuePreserved_after {d d' : Dec} {h : ElemHeader} {v : PValue}
    (hr : d.readValuePreserved h = .ok (v, d')) : d' = after d h.len ∧ h.len ≤ d.rest.length := by
  unfold Dec.readValuePreserved at hr
  split at hr
  · rename_i hz
    cases hr
    exact ⟨by rw [hz]; rfl, by omega⟩
  · split at hr
    · cases hr
    · split at hr
      · cases hr
      · dsimp only at hr
        split at hr
        -- each arm of the VR dispatch: a number array, the tag array, or `take` followed by a text decoder
        all_goals first
          | (cases hr; done)
          | (split at hr
             · cases hr
             · rename_i ht
               obtain ⟨rfl, hle⟩ := take_drops ht
               first
                 | (cases hr; exact ⟨rfl, hle⟩)
                 | (split at hr
                    · cases hr; exact ⟨rfl, hle⟩
                    · cases hr))
          | (split at hr
             · rename_i h1
               split at hr
               · rename_i h2
                 have hd := drops_units_rest (rdTags_drops _ _ h1) (takeN_drops h2).1
                 cases hr
                 exact ⟨by rw [after, hd.1], hd.2⟩
               · cases hr
             · cases hr)
          | (refine readNums_after ?_ hr
             first
               | exact fun _ _ _ => rd16_drops
               | exact fun _ _ _ => rd32_drops
               | exact fun _ _ _ => rd64_drops)

theorem decodeHeader_after {d d' : Dec} {h : ElemHeader} (hd : d.decodeHeader = .ok (h, d')) :
    ∃ n, d' = after d n ∧ n ≤ d.rest.length := by
  unfold Dec.decodeHeader at hd
  split at hd
  · rename_i n _ hdec
    have := decodeHeader_drops hdec
    cases hd
    exact ⟨n, by rw [after, this.1], this.2⟩
  · cases hd

theorem decodeItemHeader_after {d d' : Dec} {h : ItemHeader} (hd : d.decodeItemHeader = .ok (h, d')) :
    d' = after d 8 ∧ 8 ≤ d.rest.length := by
  unfold Dec.decodeItemHeader at hd
  split at hd
  · rename_i hdec
    have := decodeItemHeader_drops hdec
    cases hd
    exact ⟨by rw [after, this.1], this.2⟩
  · cases hd
  · cases hd

theorem skip_after (d : Dec) (n : Nat) : d.skip n = .ok (after d n) := rfl
theorem readToVec_after (d : Dec) (n : Nat) : d.readToVec n = .ok (d.rest.take n, after d n) := rfl

end Dicom.DC
