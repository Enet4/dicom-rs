import DicomModel.Model.PersonName
/-
Helper lemmas for C17 (person names): `split('^')` of a `'^'`-joined text, `trim` is the identity
on a text whose ends are not white space, decomposition of a component list into its stripped
part and trailing absent components.
-/
namespace Dicom.PN

/-! ### split / join -/

theorem split_nocaret {s : List Char} (h : '^' ∉ s) : splitCaret s = [s] := by
  induction s with
  | nil => rfl
  | cons c cs ih =>
    simp [splitCaret, (List.ne_of_not_mem_cons h).symm, ih (List.not_mem_of_not_mem_cons h)]

theorem split_append {s : List Char} (h : '^' ∉ s) (r : List Char) :
    splitCaret (s ++ '^' :: r) = s :: splitCaret r := by
  induction s with
  | nil => simp [splitCaret]
  | cons c cs ih =>
    simp [splitCaret, (List.ne_of_not_mem_cons h).symm, ih (List.not_mem_of_not_mem_cons h)]

def NoCaret (c : Comp) : Prop := ∀ s, c = some s → '^' ∉ s

theorem noCaret_getD {c : Comp} (h : NoCaret c) : '^' ∉ c.getD [] := by
  cases c with
  | none => simp
  | some s => exact h s rfl

/-- splitting the joined text gives back the component texts (absent ↦ empty). -/
theorem split_join : ∀ (cs : List Comp), cs ≠ [] → (∀ c ∈ cs, NoCaret c) →
    splitCaret (joinCaret cs) = cs.map (·.getD [])
  | [], h, _ => absurd rfl h
  | [c], _, hc => by
    simp [joinCaret, split_nocaret (noCaret_getD (hc c (by simp)))]
  | c :: c' :: r, _, hc => by
    have h1 := noCaret_getD (hc c (by simp))
    have ih := split_join (c' :: r) (by simp) (fun x hx => hc x (by simp [hx]))
    simp only [joinCaret, split_append h1, ih, List.map_cons]

/-! ### trim is the identity on the produced text -/

theorem dropWhile_id {p : Char → Bool} {l : List Char} (h : l.head?.any p = false) :
    l.dropWhile p = l := by
  cases l with
  | nil => rfl
  | cons a t => rw [List.dropWhile_cons, if_neg (by simpa using h)]

theorem trim_id {s : List Char} (hh : s.head?.any isWs = false) (hl : s.getLast?.any isWs = false) :
    trim s = s := by
  unfold trim
  rw [dropWhile_id hh, dropWhile_id (by simpa using hl), List.reverse_reverse]

theorem compOk_noCaret {c : Comp} (h : CompOk c = true) : NoCaret c := by
  intro s e; subst e
  simp [CompOk, strOk] at h
  exact h.1.1

theorem compOk_ends {c : Comp} (h : CompOk c = true) :
    (c.getD []).head?.any isWs = false ∧ (c.getD []).getLast?.any isWs = false := by
  cases c with
  | none => exact ⟨rfl, rfl⟩
  | some s =>
    simp only [CompOk, Option.all_some, strOk, Bool.and_eq_true, Bool.not_eq_true'] at h
    exact ⟨h.1.2, h.2⟩

theorem join_ends : ∀ (cs : List Comp), (∀ c ∈ cs, CompOk c = true) →
    (joinCaret cs).head?.any isWs = false ∧ (joinCaret cs).getLast?.any isWs = false
  | [], _ => ⟨rfl, rfl⟩
  | [c], h => compOk_ends (h c (by simp))
  | c :: c' :: r, h => by
    have hc := (compOk_ends (h c (by simp))).1
    have ih := (join_ends (c' :: r) fun y hy => h y (by simp [hy])).2
    simp only [joinCaret]
    rw [List.head?_append, List.getLast?_append, List.getLast?_cons]
    constructor
    · cases hd : (c.getD []).head? with
      | none => rfl
      | some x => rw [hd] at hc; exact hc
    · cases hl : (joinCaret (c' :: r)).getLast? with
      | none => rfl
      | some x => rw [hl] at ih; exact ih

/-! ### trailing absent components -/

theorem strip_spec (cs : List Comp) :
    ∃ k, cs = stripTrailingNone cs ++ List.replicate k none := by
  refine ⟨(cs.reverse.takeWhile (·.isNone)).length, ?_⟩
  have h := List.takeWhile_append_dropWhile (p := fun c : Comp => c.isNone) (l := cs.reverse)
  have h2 : cs = (cs.reverse.dropWhile (·.isNone)).reverse ++ (cs.reverse.takeWhile (·.isNone)).reverse := by
    rw [← List.reverse_append, h, List.reverse_reverse]
  have h3 : (cs.reverse.takeWhile (·.isNone)).reverse
      = List.replicate (cs.reverse.takeWhile (·.isNone)).length none := by
    rw [List.eq_replicate_iff]
    refine ⟨by simp, ?_⟩
    intro b hb
    have hall := List.all_takeWhile (p := fun c : Comp => c.isNone) (l := cs.reverse)
    rw [List.all_eq_true] at hall
    have hb' := hall b (List.mem_reverse.mp hb)
    cases b with
    | none => rfl
    | some v => simp at hb'
  unfold stripTrailingNone
  rw [← h3]; exact h2

theorem strip_subset (cs : List Comp) : ∀ c ∈ stripTrailingNone cs, c ∈ cs := by
  intro c hc
  obtain ⟨k, hk⟩ := strip_spec cs
  rw [hk]; exact List.mem_append_left _ hc

theorem getElem?_join_strip (cs : List Comp) (i : Nat) :
    (stripTrailingNone cs)[i]?.join = cs[i]?.join := by
  obtain ⟨k, hk⟩ := strip_spec cs
  generalize stripTrailingNone cs = A at hk
  subst hk
  by_cases hi : i < A.length
  · rw [List.getElem?_append_left hi]
  · have hi' : A.length ≤ i := Nat.le_of_not_lt hi
    rw [List.getElem?_append_right hi', List.getElem?_eq_none hi']
    simp [List.getElem?_replicate]
    split <;> simp

/-- the last element left by `stripTrailingNone` is a present component -/
theorem strip_last (cs : List Comp) : (stripTrailingNone cs).getLast? ≠ some none := by
  unfold stripTrailingNone
  rw [List.getLast?_reverse]
  cases h : cs.reverse.dropWhile (·.isNone) with
  | nil => simp
  | cons a t =>
    have := List.head?_dropWhile_not (fun c : Comp => c.isNone) cs.reverse
    rw [h] at this
    simp at this
    simp
    intro e; subst e; simp at this

/-! ### components of the parsed text -/

theorem component_map (A : List Comp) (i : Nat) :
    component (A.map (·.getD [])) i = normEmpty (A[i]?.join) := by
  unfold component
  rw [List.getElem?_map]
  cases A[i]? with
  | none => rfl
  | some c =>
    cases c with
    | none => rfl
    | some s => cases s <;> rfl

theorem component_empty (i : Nat) : component [[]] i = none := by
  cases i <;> simp [component]

end Dicom.PN
