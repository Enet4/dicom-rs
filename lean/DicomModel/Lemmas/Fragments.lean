import DicomModel.Lemmas.CollWhole2
/-
C06: pixel data fragments and the basic offset table retrieved one by one through the collector
(repaired code), on the reference encoding of a canonical data set.
-/
namespace Dicom.CW
open Dicom.LE Dicom.LS Dicom.DC Dicom.Ref

/-- a token `skip_until` of the fragment functions stops at -/
def pixelStartTok : Token → Bool
  | .pixelSequenceStart => true
  | .elementHeader h => h.tag = Tag.pixelData && h.len ≠ undefinedLen
  | _ => false

theorem pixelStartTok_norm (be : Bool) (t : Token) : pixelStartTok (normTok be t) = pixelStartTok t := by
  cases t <;> rfl

theorem consumes_skip {lt : LTok} {d0 d : Dec} {t : Token} (h : Consumes lt d0 t d) : lt.skip d0 = .ok d := by
  cases lt with
  | tok _ => rw [h.2]; rfl
  | lazyValue _ => obtain ⟨_, _, _, rfl⟩ := h; rfl
  | lazyItemValue _ => rw [h.2]; rfl

theorem consumes_pixelStart {lt : LTok} {d0 d : Dec} {t : Token} (h : Consumes lt d0 t d) :
    isPixelStart lt = pixelStartTok t := by
  cases lt with
  | tok t0 => rw [h.1]; cases t0 <;> rfl
  | lazyValue _ => obtain ⟨_, rfl, _⟩ := h; rfl
  | lazyItemValue _ => rw [h.1]; rfl

theorem skip_run : ∀ {l m : LState} {toks : List Token}, LRun l toks m → (∀ t ∈ toks, pixelStartTok t = false) →
    ∀ (fuel : Nat) (st : CState), toks.length < fuel →
    ∃ st', skipUntilPixel fuel ⟨l, st⟩ = skipUntilPixel (fuel - toks.length) ⟨m, st'⟩ := by
  intro l m toks h
  induction h with
  | nil l => intro _ fuel st _; exact ⟨st, by simp⟩
  | @cons l l1 l2 t ts s _ ih =>
    intro hno fuel st hf
    obtain ⟨k, rfl⟩ : ∃ k, fuel = k + 1 := ⟨fuel - 1, by simp at hf; omega⟩
    obtain ⟨st', h2⟩ := ih (fun x hx => hno x (by simp [hx])) k .inDataset (by simp at hf; omega)
    obtain ⟨_, _, _, _, lt, l0, ha, hc, hl⟩ := s
    refine ⟨st', ?_⟩
    rw [skipUntilPixel]
    simp only [ha, consumes_pixelStart hc, hno t (by simp), Bool.false_eq_true, if_false, consumes_skip hc, ← hl, h2]
    simp

theorem skip_to_pixel {l l' : LState} {pre rest : List Token}
    (h : LRun l (pre ++ .pixelSequenceStart :: rest) l') (hno : ∀ t ∈ pre, pixelStartTok t = false)
    (fuel : Nat) (st : CState) (hf : pre.length < fuel) :
    ∃ m st', skipUntilPixel fuel ⟨l, st⟩ = .ok (true, ⟨m, st'⟩) ∧ LRun m rest l' ∧ m.dec.ts = l.dec.ts := by
  obtain ⟨m0, r1, r2⟩ := LRun.split pre h
  obtain ⟨m1, ha, r3, hts⟩ := lrun_tok r2 rfl
  obtain ⟨st', h1⟩ := skip_run r1 hno fuel st hf
  obtain ⟨j, hj⟩ : ∃ j, fuel - pre.length = j + 1 := ⟨fuel - pre.length - 1, by omega⟩
  refine ⟨m1, st', ?_, r3, by rw [hts, lrun_ts r1]⟩
  rw [h1, hj, skipUntilPixel]
  simp [ha, isPixelStart]

theorem frag_loop (rest : List Token) (l' : LState) (f : Bytes) (more : List Bytes) (l : LState) (fuel : Nat)
    (hf : f.length < 4294967295)
    (hr : LRun l (.itemEnd :: ((f :: more).flatMap fragTokens ++ .sequenceEnd :: rest)) l') (hfu : 3 < fuel) :
    ∃ m, nextFragmentLoop fuel l = .ok (some (f.length, f), false, m) ∧
      LRun m (.itemEnd :: (more.flatMap fragTokens ++ .sequenceEnd :: rest)) l' := by
  obtain ⟨k, rfl⟩ : ∃ k, fuel = k + 3 := ⟨fuel - 3, by omega⟩
  obtain ⟨m0, ha0, r0, _⟩ := lrun_tok hr rfl
  by_cases hz : f = []
  · subst hz
    simp only [List.flatMap_cons, fragTokens, List.isEmpty_nil, if_true, List.cons_append, List.nil_append] at r0
    obtain ⟨m1, ha1, r1, _⟩ := lrun_tok r0 rfl
    exact ⟨m1, by simp [nextFragmentLoop, ha0, ha1], r1⟩
  · simp only [List.flatMap_cons, fragTokens_ne hz hf, List.cons_append, List.nil_append] at r0
    obtain ⟨m1, l0, ha1, ha2, _, hb, r2⟩ := lrun_item_value r0
    refine ⟨_, ?_, r2⟩
    -- `ItemStart 0` would be answered at once; this one is not of length 0
    obtain ⟨j, hj⟩ : ∃ j, f.length = j + 1 := Nat.exists_eq_add_one_of_ne_zero (mt List.length_eq_zero_iff.mp hz)
    rw [hj] at ha1
    simp only [nextFragmentLoop, ha0, ha1]
    simp only [ha2, readToVec_after, ← hb]

/-- the fragments come one per call, in order, each with its length; then `None`, and the collector is in
state `PixelDataEnd` (where every further call returns `None`) -/
inductive FragCalls (fuel : Nat) : Coll → List Bytes → Prop
  | done {c c' : Coll} : c.readNextFragment fuel = .ok (none, c') → c'.state = .pixelDataEnd → FragCalls fuel c []
  | next {c c' : Coll} {f : Bytes} {more : List Bytes} :
      c.readNextFragment fuel = .ok (some (f.length, f), c') → FragCalls fuel c' more → FragCalls fuel c (f :: more)

theorem frag_calls (rest : List Token) (l' : LState) (fuel : Nat) (hfu : 3 < fuel) : ∀ (frags : List Bytes) (l : LState),
    (∀ f ∈ frags, f.length % 2 = 0 ∧ f.length < 4294967295) →
    LRun l (.itemEnd :: (frags.flatMap fragTokens ++ .sequenceEnd :: rest)) l' →
    FragCalls fuel ⟨l, .inPixelData⟩ frags
  | [], l, _, hr => by
    obtain ⟨k, rfl⟩ : ∃ k, fuel = k + 2 := ⟨fuel - 2, by omega⟩
    obtain ⟨m0, ha0, r0, _⟩ := lrun_tok hr rfl
    obtain ⟨m1, ha1, _, _⟩ := lrun_tok r0 rfl
    exact .done (c' := ⟨m1, .pixelDataEnd⟩) (by simp [Coll.readNextFragment, nextFragmentLoop, ha0, ha1]) rfl
  | f :: more, l, hok, hr => by
    obtain ⟨m, h1, r1⟩ := frag_loop rest l' f more l fuel (hok f (by simp)).2 hr hfu
    exact .next (c' := ⟨m, .inPixelData⟩) (by simp [Coll.readNextFragment, h1])
      (frag_calls rest l' fuel hfu more m (fun g hg => hok g (by simp [hg])) r1)


theorem bot_item {bot : List Nat} {frags : List Bytes} (ok : PixOk bot frags) (be : Bool) (tail : List Token)
    (l l' : LState) (hbe : l.dec.ts.bigEndian = be) (fuel : Nat) (hfu : 2 < fuel)
    (hr : LRun l ((botTokens bot).map (normTok be) ++ tail) l') :
    ∃ m, LRun m (.itemEnd :: tail) l' ∧ offsetTableLoop fuel l = .ok (some (4 * bot.length, bot), m) ∧
      nextFragmentLoop fuel l = .ok (some (4 * bot.length, bot.flatMap (enc32 be)), false, m) := by
  rw [norm_botTokens be bot ok.botLen] at hr
  obtain ⟨k, rfl⟩ : ∃ k, fuel = k + 2 := ⟨fuel - 2, by omega⟩
  by_cases hz : bot = []
  · subst hz
    obtain ⟨m1, ha1, r1, _⟩ := lrun_tok hr rfl
    exact ⟨m1, r1, by simp [offsetTableLoop, ha1], by simp [nextFragmentLoop, ha1]⟩
  · simp only [hz, if_false, List.cons_append, List.nil_append] at hr
    obtain ⟨m1, l0, ha1, ha2, hts0, hb, r2⟩ := lrun_item_value hr
    -- `ItemStart 0` would be answered at once; this one is not of length 0
    obtain ⟨j, hj⟩ : ∃ j, bot.length * 4 = j + 1 :=
      ⟨bot.length * 4 - 1, by have := mt List.length_eq_zero_iff.mp hz; omega⟩
    rw [hj] at ha1
    refine ⟨_, r2, ?_, ?_⟩
    · simp only [offsetTableLoop, ha1]
      simp only [ha2, table_of_bytes ok.bot be l0 (by rw [hts0]; exact hbe) hb, Nat.mul_comm 4]
    · simp only [nextFragmentLoop, ha1]
      simp only [ha2, readToVec_after, ← hb, Nat.mul_comm 4]


def appendElems : Elems → Elems → Elems
  | .nil, b => b
  | .cons e r, b => .cons e (appendElems r b)

theorem tokens_append : ∀ a b : Elems, (appendElems a b).tokens = a.tokens ++ b.tokens
  | .nil, b => by simp [appendElems, Elems.tokens]
  | .cons e r, b => by simp [appendElems, Elems.tokens, tokens_append r b]

theorem pix_of_append (ts : Syntax) (dict : Tag → Option VR) (bot : List Nat) (frags : List Bytes) (post : Elems) :
    ∀ (a : Elems), canonElems ts dict (appendElems a (.cons (.pix bot frags) post)) = true → PixOk bot frags
  | .nil, h => by simp only [appendElems, canonElems, Bool.and_eq_true] at h; exact pixOk_of_canon h.1
  | .cons e r, h => by
    simp only [appendElems, canonElems, Bool.and_eq_true] at h
    exact pix_of_append ts dict bot frags post r h.2

theorem fragments_ref (ts : Syntax) (dict : Tag → Option VR) (pre post : Elems) (bot : List Nat) (frags : List Bytes)
    (hd : dictOk ts dict = true)
    (hc : canonElems ts dict (appendElems pre (.cons (.pix bot frags) post)) = true)
    (hno : ∀ t ∈ pre.tokens, pixelStartTok t = false) :
    let t := appendElems pre (.cons (.pix bot frags) post)
    let fuel := (encElems ts t).length + 4
    (∃ c1, (Coll.new ts dict (encElems ts t)).readBasicOffsetTable fuel = .ok (some (4 * bot.length, bot), c1) ∧
        FragCalls fuel c1 frags) ∧
    (∃ c1, (Coll.new ts dict (encElems ts t)).readNextFragment fuel =
        .ok (some (4 * bot.length, bot.flatMap (enc32 ts.bigEndian)), c1) ∧ FragCalls fuel c1 frags) := by
  intro t fuel
  obtain ⟨lend, l'', lr, _, _⟩ := lrun_ref ts dict t hd hc
  have hlen := tokens_le_elems ts t
  have hpix : PixOk bot frags := pix_of_append ts dict bot frags post pre hc
  have htoks : t.tokens.map (normTok ts.bigEndian) =
      pre.tokens.map (normTok ts.bigEndian) ++ .pixelSequenceStart ::
        ((botTokens bot).map (normTok ts.bigEndian) ++
          (frags.flatMap fragTokens ++ .sequenceEnd :: post.tokens.map (normTok ts.bigEndian))) := by
    simp [t, tokens_append, Elems.tokens, Elem.tokens, normTok, norm_frags, List.append_assoc]
  rw [htoks] at lr
  have hpl : (pre.tokens.map (normTok ts.bigEndian)).length < fuel := by
    have : pre.tokens.length ≤ t.tokens.length := by simp [t, tokens_append]
    simp only [List.length_map, fuel]; omega
  obtain ⟨m1, st1, hskip, r1, hts1⟩ := skip_to_pixel lr (by simpa [pixelStartTok_norm] using hno) fuel .fileMeta hpl
  obtain ⟨m2, r2, htab, hfrag⟩ := bot_item hpix ts.bigEndian _ m1 lend (by rw [hts1]; rfl) fuel (by omega) r1
  have hcalls := frag_calls _ lend fuel (by omega) frags m2 hpix.frags r2
  exact ⟨⟨⟨m2, .inPixelData⟩, by simp [Coll.readBasicOffsetTable, Coll.new, hskip, htab], hcalls⟩,
    ⟨⟨m2, .inPixelData⟩, by simp [Coll.readNextFragment, Coll.new, hskip, hfrag], hcalls⟩⟩

end Dicom.CW
