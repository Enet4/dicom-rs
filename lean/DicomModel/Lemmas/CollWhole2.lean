import DicomModel.Lemmas.RefLazy
import DicomModel.Lemmas.ReadUntil
import DicomModel.Lemmas.Collector
/-
C06, namespace `CW` ("collector = whole file"): the collector (repaired code) on an annotated lazy run over
the tokens of a canonical tree collects the tree, up to the item lengths it does not keep (`cnElems`); mutual
induction on the tree, then `read_dataset_to_end` on the reference encoding.
-/
namespace Dicom.CW
open Dicom.LE Dicom.LS Dicom.DC Dicom.Ref


theorem lrun_ts {l l' : LState} {toks : List Token} (h : LRun l toks l') : l'.dec.ts = l.dec.ts := by
  induction h with
  | nil _ => rfl
  | cons st _ ih => rw [ih, st.ts]

theorem lrun_tok {l l' : LState} {t : Token} {rest : List Token} (h : LRun l (t :: rest) l')
    (hs : structural t = true) :
    ∃ m, l.advance = (some (.ok (.tok t)), m) ∧ LRun m rest l' ∧ m.dec.ts = l.dec.ts := by
  obtain ⟨m, s, r⟩ := h.head
  exact ⟨m, s.tok_inv hs, r, s.ts⟩

theorem lrun_peek {l l' : LState} {t : Token} {rest : List Token} (h : LRun l (t :: rest) l')
    (hs : structural t = true) :
    ∃ m, l.peek = (.ok (some t), { m with peeked := some t }) ∧
      ({ m with peeked := some t } : LState).advance = (some (.ok (.tok t)), m) ∧
      LRun m rest l' ∧ m.dec.ts = l.dec.ts := by
  obtain ⟨m, s, r⟩ := h.head
  have ha := s.tok_inv hs
  obtain ⟨hp, hq, hb, hts, _⟩ := s
  refine ⟨m, by simp [LState.peek, hp, ha], ?_, r, hts⟩
  unfold LState.advance
  simp only [hb, Bool.false_eq_true, if_false]
  cases m
  simp_all

/-- the value step announces the length the item was opened with: both are read off the delimiter stack -/
theorem lrun_item_value {l l' : LState} {n : Nat} {b : Bytes} {rest : List Token}
    (h : LRun l (.itemStart n :: .itemValue b :: rest) l') :
    ∃ m1 l0, l.advance = (some (.ok (.tok (.itemStart n))), m1) ∧
      m1.advance = (some (.ok (.lazyItemValue n)), l0) ∧ l0.dec.ts = l.dec.ts ∧ b = l0.dec.rest.take n ∧
      LRun { l0 with dec := after l0.dec n } rest l' := by
  obtain ⟨m1, s1, r1⟩ := h.head
  obtain ⟨m2, s2, r2⟩ := r1.head
  have ha := s1.tok_inv rfl
  obtain ⟨len, l0, hb, hv, hd, hl⟩ := s2.item_inv
  have hn : len = n := by
    have h1 := LState.advance_spec s1.1
    have h2 := LState.advance_spec s2.1
    rw [ha] at h1
    rw [hb] at h2
    obtain ⟨_, _, _, h1⟩ := h1
    obtain ⟨_, _, h2⟩ := h2
    rw [h1] at h2
    cases h2
    rfl
  subst hn
  have hm2 : ({ l0 with dec := after l0.dec len } : LState) = m2 := by rw [hl, hd]
  refine ⟨m1, l0, ha, hb, ?_, hv, hm2 ▸ r2⟩
  rw [← s1.ts, ← s2.ts, hd]
  rfl


theorem fragTokens_ne {f : Bytes} (hz : f ≠ []) (hl : f.length < 4294967295) :
    fragTokens f = [.itemStart f.length, .itemValue f, .itemEnd] := by
  have he : f.isEmpty = false := by cases f <;> simp_all
  simp [fragTokens, he, Nat.mod_eq_of_lt (show f.length < 4294967296 by omega)]

theorem norm_fragTokens (be : Bool) (f : Bytes) : (fragTokens f).map (normTok be) = fragTokens f := by
  unfold fragTokens; split <;> simp [normTok]

theorem norm_frags (be : Bool) : ∀ frags : List Bytes,
    (frags.flatMap fragTokens).map (normTok be) = frags.flatMap fragTokens
  | [] => rfl
  | f :: r => by simp [List.flatMap_cons, norm_fragTokens, norm_frags be r]

theorem coll_frags (t : List Nat) (rest : List Token) (l' : LState) : ∀ (frags : List Bytes) (fr : List Bytes)
    (l : LState) (fuel : Nat), (∀ f ∈ frags, f.length % 2 = 0 ∧ f.length < 4294967295) →
    LRun l (frags.flatMap fragTokens ++ .sequenceEnd :: rest) l' →
    (frags.flatMap fragTokens).length < fuel →
    ∃ m, collBuildEncapsulated fuel l (some t) fr false = .ok (t, fr ++ frags, m) ∧ LRun m rest l'
  | [], fr, l, fuel, _, hr, hf => by
    obtain ⟨k, rfl⟩ : ∃ k, fuel = k + 1 := ⟨fuel - 1, by simp at hf; omega⟩
    obtain ⟨m, ha, r1, _⟩ := lrun_tok hr rfl
    exact ⟨m, by simp [collBuildEncapsulated, ha], r1⟩
  | f :: more, fr, l, fuel, hok, hr, hf => by
    have ih := fun fr' m k => coll_frags t rest l' more fr' m k (fun g hg => hok g (by simp [hg]))
    by_cases hz : f = []
    · subst hz
      simp only [List.flatMap_cons, fragTokens, List.isEmpty_nil, if_true, List.cons_append, List.nil_append,
        List.length_cons] at hr hf
      obtain ⟨m1, ha1, r1, _⟩ := lrun_tok hr rfl
      obtain ⟨m2, ha2, r2, _⟩ := lrun_tok r1 rfl
      obtain ⟨k, rfl⟩ : ∃ k, fuel = k + 2 := ⟨fuel - 2, by omega⟩
      obtain ⟨m, h1, h2⟩ := ih (fr ++ [[]]) m2 k r2 (by omega)
      refine ⟨m, ?_, h2⟩
      simp only [collBuildEncapsulated, ha1, ha2, Bool.false_eq_true, if_false, h1, List.append_assoc,
        List.singleton_append]
    · simp only [List.flatMap_cons, fragTokens_ne hz (hok f (by simp)).2, List.cons_append, List.nil_append,
        List.length_cons] at hr hf
      obtain ⟨m1, l0, ha1, ha2, _, hb, r2⟩ := lrun_item_value hr
      obtain ⟨m3, ha3, r3, _⟩ := lrun_tok r2 rfl
      obtain ⟨k, rfl⟩ : ∃ k, fuel = k + 3 := ⟨fuel - 3, by omega⟩
      obtain ⟨m, h1, h2⟩ := ih (fr ++ [f]) m3 k r3 (by omega)
      refine ⟨m, ?_, h2⟩
      simp only [collBuildEncapsulated, ha1, ha2, readToVec_after, ← hb, ha3, if_true, h1, List.append_assoc,
        List.singleton_append]

theorem norm_botTokens (be : Bool) (bot : List Nat) (hb : 4 * bot.length < 4294967295) :
    (botTokens bot).map (normTok be) =
      if bot = [] then [.itemStart 0, .itemEnd]
      else [.itemStart (bot.length * 4), .itemValue (bot.flatMap (enc32 be)), .itemEnd] := by
  have hm : bot.length * 4 % 4294967296 = bot.length * 4 := Nat.mod_eq_of_lt (by omega)
  unfold botTokens
  rw [hm]
  cases bot <;> simp [normTok]

theorem table_of_bytes {bot : List Nat} (hb : ∀ o ∈ bot, o < 4294967296) (be : Bool) (l0 : LState)
    (hts : l0.dec.ts.bigEndian = be) (hbytes : bot.flatMap (enc32 be) = l0.dec.rest.take (bot.length * 4)) :
    l0.dec.readU32ToVec (bot.length * 4) = .ok (bot, after l0.dec (bot.length * 4)) := by
  have hrd := rdMany_flatMap (rd32 be) (enc32 be) id (· < 4294967296) (fun a r ha => rd32_enc32 _ a ha r)
    (l0.dec.rest.drop (bot.length * 4)) bot hb
  rw [List.map_id, hbytes, List.take_append_drop] at hrd
  simp only [Dec.readU32ToVec, hts, Nat.mul_div_cancel _ (by decide : 0 < 4), hrd, Nat.mul_mod_left,
    List.drop_zero, after]

theorem coll_pix {bot : List Nat} {frags : List Bytes} (ok : PixOk bot frags) (be : Bool) (rest : List Token)
    (l l' : LState) (hbe : l.dec.ts.bigEndian = be) (fuel : Nat)
    (hr : LRun l ((botTokens bot).map (normTok be) ++ (frags.flatMap fragTokens ++ .sequenceEnd :: rest)) l')
    (hf : (botTokens bot).length + (frags.flatMap fragTokens).length < fuel) :
    ∃ m, collBuildEncapsulated fuel l none [] false = .ok (bot, frags, m) ∧ LRun m rest l' := by
  rw [← List.length_map (normTok be)] at hf
  rw [norm_botTokens be bot ok.botLen] at hr hf
  by_cases hz : bot = []
  · subst hz
    simp only [if_true, List.cons_append, List.nil_append, List.length_cons, List.length_nil] at hr hf
    obtain ⟨m1, ha1, r1, _⟩ := lrun_tok hr rfl
    obtain ⟨m2, ha2, r2, _⟩ := lrun_tok r1 rfl
    obtain ⟨k, rfl⟩ : ∃ k, fuel = k + 2 := ⟨fuel - 2, by omega⟩
    obtain ⟨m, h1, h2⟩ := coll_frags [] rest l' frags [] m2 k ok.frags r2 (by omega)
    refine ⟨m, ?_, h2⟩
    simp only [collBuildEncapsulated, ha1, ha2, h1, List.nil_append]
  · simp only [hz, if_false, List.cons_append, List.nil_append, List.length_cons, List.length_nil] at hr hf
    obtain ⟨m1, l0, ha1, ha2, hts0, hb, r2⟩ := lrun_item_value hr
    obtain ⟨m3, ha3, r3, _⟩ := lrun_tok r2 rfl
    obtain ⟨k, rfl⟩ : ∃ k, fuel = k + 3 := ⟨fuel - 3, by omega⟩
    obtain ⟨m, h1, h2⟩ := coll_frags bot rest l' frags [] m3 k ok.frags r3 (by omega)
    refine ⟨m, ?_, h2⟩
    have hrd := table_of_bytes ok.bot be l0 (by rw [hts0]; exact hbe) hb
    simp only [collBuildEncapsulated, ha1, ha2, hrd, ha3, if_true, h1, List.nil_append]


mutual
/-- the tree as the collector builds it: the recorded length of every item is lost (undefined) — object
equality of dicom-rs ignores it -/
def cnElem : Elem → Elem
  | .seq t l its => .seq t l (cnItems its)
  | .prim t vr l v => .prim t vr l v
  | .pix b f => .pix b f
def cnItems : Items → Items
  | .nil => .nil
  | .cons _ es r => .cons undefinedLen (cnElems es) (cnItems r)
def cnElems : Elems → Elems
  | .nil => .nil
  | .cons e r => .cons (cnElem e) (cnElems r)
end

theorem cnElem_tag (e : Elem) : (cnElem e).tag = e.tag := by cases e <;> rfl

theorem toList_cn : ∀ es : Elems, toList (cnElems es) = (toList es).map cnElem
  | .nil => rfl
  | .cons e r => by simp [cnElems, toList, toList_cn r]

theorem foldl_insert_sorted : ∀ (l acc : List Elem), (acc ++ l).Pairwise ELt →
    l.foldl (fun a e => insertElem e a) acc = acc ++ l
  | [], acc, _ => by simp
  | e :: r, acc, h => by
    have hpw := List.pairwise_append.mp h
    have hall : ∀ x ∈ acc, ELt x e := fun x hx => hpw.2.2 x hx e (by simp)
    simp only [List.foldl_cons]
    rw [insert_last e acc hall, foldl_insert_sorted r (acc ++ [e]) (by simpa [List.append_assoc] using h)]
    simp [List.append_assoc]

theorem objectOf_cn (es : Elems) (hs : sortedElems es = true) :
    elemsOfList (objectOf (toList (cnElems es))) = cnElems es := by
  have hp : ((toList es).map cnElem).Pairwise ELt :=
    (sorted_pairwise es hs).map cnElem fun a b h => by simpa [ELt, cnElem_tag] using h
  unfold objectOf
  rw [toList_cn, foldl_insert_sorted _ [] hp, List.nil_append, ← toList_cn, elemsOfList_toList]

theorem tokens_prim_map {ts : Syntax} {dict : Tag → Option VR} {t : Tag} {vr : VR} {len : Nat} {v : PValue}
    (h : PrimOk ts dict t vr len v) (be : Bool) :
    (Elem.tokens (.prim t vr len v)).map (normTok be) = [.elementHeader ⟨t, vr, len⟩, .primitiveValue v] := by
  rw [prim_tokens h]; rfl

theorem collectElements_one {fuel : Nat} {inItem : Bool} {c c' : Coll} {acc : List Elem} {tok : Token}
    {rd1 : LState} {tag : Tag} {e : Elem} (hpk : c.rd.peek = (.ok (some tok), rd1)) (htag : tokTag tok = some tag)
    (hone : collectOne fuel tok { c with rd := rd1 } = .ok (e, c')) :
    collectElements (fuel + 1) inItem none none c acc = collectElements fuel inItem none none c' (acc ++ [e]) := by
  have hne : tok ≠ .itemEnd := by rintro rfl; cases htag
  rw [collectElements]
  simp only [hpk, hne, if_false, htag, stopAt, Bool.or_self, Bool.false_eq_true, hone]

mutual
theorem coll_elem (ts : Syntax) (dict : Tag → Option VR) : ∀ (e : Elem), canonElem ts dict e = true →
    ∀ (fuel : Nat) (inItem : Bool) (rest : List Token) (l l' : LState) (st : CState) (acc : List Elem),
    l.dec.ts = ts → LRun l (e.tokens.map (normTok ts.bigEndian) ++ rest) l' → e.tokens.length < fuel →
    ∃ m st', m.dec.ts = ts ∧ LRun m rest l' ∧
      collectElements fuel inItem none none ⟨l, st⟩ acc =
        collectElements (fuel - 1) inItem none none ⟨m, st'⟩ (acc ++ [cnElem e])
  | .prim t vr len v, hc, fuel, inItem, rest, l, l', st, acc, hts, hr, hf => by
    have ok := primOk_of_canon hc
    rw [tokens_prim_map ok] at hr
    rw [prim_tokens ok] at hf
    obtain ⟨k, rfl⟩ : ∃ k, fuel = k + 2 := ⟨fuel - 2, by simp at hf; omega⟩
    obtain ⟨m1, hpk, hadv, r1, hts1⟩ := lrun_peek hr rfl
    obtain ⟨m2, s2, r2⟩ := r1.head
    obtain ⟨hh, l0, ha, hv, hd, hl⟩ := s2.value_inv
    refine ⟨m2, .inDataset, by rw [s2.ts, hts1, hts], r2, collectElements_one hpk rfl ?_⟩
    simp only [collectOne, hadv, ha, hv, ← hl, cnElem]
  | .pix bot frags, hc, fuel, inItem, rest, l, l', st, acc, hts, hr, hf => by
    simp only [Elem.tokens, List.map_cons, List.map_append, List.map_nil, normTok, norm_frags, List.cons_append,
      List.append_assoc, List.nil_append, List.length_cons, List.length_append, List.length_nil] at hr hf
    obtain ⟨k, rfl⟩ : ∃ k, fuel = k + 2 := ⟨fuel - 2, by omega⟩
    obtain ⟨m1, hpk, hadv, r1, hts1⟩ := lrun_peek hr rfl
    obtain ⟨m2, h1, r2⟩ := coll_pix (pixOk_of_canon hc) ts.bigEndian rest m1 l' (by rw [hts1, hts]) k r1 (by omega)
    -- the decoder's syntax never changes along a run: `m1` and `m2` both run to `l'`
    refine ⟨m2, .inPixelData, by rw [← lrun_ts r2, lrun_ts r1, hts1, hts], r2, collectElements_one hpk rfl ?_⟩
    simp only [collectOne, hadv, h1, cnElem]
  | .seq tag len items, hc, fuel, inItem, rest, l, l', st, acc, hts, hr, hf => by
    simp only [Elem.tokens, List.map_cons, List.map_append, List.map_nil, normTok, List.cons_append,
      List.append_assoc, List.nil_append, List.length_cons, List.length_append, List.length_nil] at hr hf
    obtain ⟨k, rfl⟩ : ∃ k, fuel = k + 2 := ⟨fuel - 2, by omega⟩
    obtain ⟨m1, hpk, hadv, r1, hts1⟩ := lrun_peek hr rfl
    obtain ⟨m2, st2, hts2, r2, h1⟩ := coll_items ts dict items (seqOk_of_canon hc).items k rest m1 l' .inDataset []
      (by rw [hts1, hts]) r1 (by omega)
    refine ⟨m2, st2, hts2, r2, collectElements_one hpk rfl ?_⟩
    simp only [collectOne, hadv, h1, List.nil_append, itemsOfList_toList, cnElem]
theorem coll_elems (ts : Syntax) (dict : Tag → Option VR) : ∀ (es : Elems), canonElems ts dict es = true →
    ∀ (fuel : Nat) (inItem : Bool) (rest : List Token) (l l' : LState) (st : CState) (acc : List Elem),
    l.dec.ts = ts → LRun l (es.tokens.map (normTok ts.bigEndian) ++ rest) l' → es.tokens.length < fuel →
    ∃ m st', m.dec.ts = ts ∧ LRun m rest l' ∧
      collectElements fuel inItem none none ⟨l, st⟩ acc =
        collectElements (fuel - cnt es) inItem none none ⟨m, st'⟩ (acc ++ toList (cnElems es))
  | .nil, _, fuel, inItem, rest, l, l', st, acc, hts, hr, _ =>
    ⟨l, st, hts, by simpa [Elems.tokens] using hr, by simp [cnt, cnElems, toList]⟩
  | .cons e more, hc, fuel, inItem, rest, l, l', st, acc, hts, hr, hf => by
    simp only [canonElems, Bool.and_eq_true] at hc
    have he := tokens_pos hc.1
    simp only [Elems.tokens, List.map_append, List.append_assoc, List.length_append] at hr hf
    obtain ⟨m1, st1, hts1, r1, h1⟩ := coll_elem ts dict e hc.1 fuel inItem _ l l' st acc hts hr (by omega)
    obtain ⟨m, st', e1, e2, e3⟩ := coll_elems ts dict more hc.2 (fuel - 1) inItem rest m1 l' st1
      (acc ++ [cnElem e]) hts1 r1 (by omega)
    refine ⟨m, st', e1, e2, ?_⟩
    rw [h1, e3, cnt, Nat.sub_sub, Nat.add_comm 1]
    simp only [cnElems, toList, List.append_assoc, List.singleton_append]
theorem coll_items (ts : Syntax) (dict : Tag → Option VR) : ∀ (its : Items), canonItems ts dict its = true →
    ∀ (fuel : Nat) (rest : List Token) (l l' : LState) (st : CState) (acc : List (Nat × Elems)),
    l.dec.ts = ts → LRun l (its.tokens.map (normTok ts.bigEndian) ++ .sequenceEnd :: rest) l' →
    its.tokens.length < fuel →
    ∃ m st', m.dec.ts = ts ∧ LRun m rest l' ∧
      collectSequence fuel ⟨l, st⟩ acc = .ok (acc ++ itemsToList (cnItems its), ⟨m, st'⟩)
  | .nil, _, fuel, rest, l, l', st, acc, hts, hr, hf => by
    obtain ⟨k, rfl⟩ : ∃ k, fuel = k + 1 := ⟨fuel - 1, by omega⟩
    obtain ⟨m, ha, r1, hts1⟩ := lrun_tok hr rfl
    refine ⟨m, st, by rw [hts1, hts], r1, ?_⟩
    simp [collectSequence, ha, cnItems, itemsToList]
  | .cons len es more, hc, fuel, rest, l, l', st, acc, hts, hr, hf => by
    obtain ⟨ok, hmore⟩ := itemOk_of_canon hc
    simp only [Items.tokens, List.map_append, List.map_cons, normTok, List.cons_append, List.append_assoc,
      List.length_append, List.length_cons] at hr hf
    obtain ⟨k, rfl⟩ : ∃ k, fuel = k + 1 := ⟨fuel - 1, by omega⟩
    obtain ⟨m1, ha1, r1, hts1⟩ := lrun_tok hr rfl
    have hcnt := cnt_le_tokens es ok.elems
    obtain ⟨m2, st2, hts2, r2, h1⟩ := coll_elems ts dict es ok.elems k true _ m1 l' st [] (by rw [hts1, hts]) r1
      (by omega)
    obtain ⟨m3, hpk, hadv, r3, hts3⟩ := lrun_peek r2 rfl
    obtain ⟨m, st', e1, e2, e3⟩ := coll_items ts dict more hmore k rest m3 l' st2
      (acc ++ [(undefinedLen, cnElems es)]) (by rw [hts3, hts2]) r3 (by omega)
    refine ⟨m, st', e1, e2, ?_⟩
    obtain ⟨j, hj⟩ : ∃ j, k - cnt es = j + 1 := ⟨k - cnt es - 1, by omega⟩
    rw [hj, collectElements] at h1
    simp only [hpk, if_true, hadv, List.nil_append] at h1
    rw [collectSequence]
    simp only [ha1, h1, objectOf_cn es ok.sorted, e3, cnItems, itemsToList, List.append_assoc,
      List.singleton_append]
end


theorem advance_none_of_nextOwned {l l'' : LState} (h : l.nextOwned = (none, l'')) : l.advance = (none, l'') := by
  unfold LState.nextOwned at h
  split at h
  · rename_i ha
    cases h
    exact ha
  · cases h
  · split at h <;> cases h

theorem lrun_ref (ts : Syntax) (dict : Tag → Option VR) (t : Elems)
    (hd : dictOk ts dict = true) (hc : canonElems ts dict t = true) :
    ∃ lend l'', LRun (LState.new ts dict (encElems ts t)) (t.tokens.map (normTok ts.bigEndian)) lend ∧
      lend.advance = (none, l'') ∧ lend.peeked = none := by
  have r := run_elems ts dict hd t hc [] 0 false [] (fun f hf => by simp at hf) trivial
  rw [List.append_nil] at r
  obtain ⟨lr, _⟩ := lrun_of_run r ts rfl
  obtain ⟨l'', he⟩ := lazy_at_end ts dict (0 + (encElems ts t).length) (if elemsNil t then false else true)
  exact ⟨_, l'', lr, advance_none_of_nextOwned he, rfl⟩

theorem collector_ref (ts : Syntax) (dict : Tag → Option VR) (t : Elems)
    (hd : dictOk ts dict = true) (hc : canonElems ts dict t = true) :
    ∃ c', (Coll.new ts dict (encElems ts t)).readDatasetToEnd ((encElems ts t).length + 2) =
      .ok (toList (cnElems t), c') := by
  obtain ⟨lend, l'', lr, hend, hpk⟩ := lrun_ref ts dict t hd hc
  have hlen := tokens_le_elems ts t
  have hcnt := cnt_le_tokens t hc
  obtain ⟨m, st', _, r2, h1⟩ := coll_elems ts dict t hc ((encElems ts t).length + 2) false [] _ lend .fileMeta []
    rfl (by simpa using lr) (by omega)
  cases r2
  obtain ⟨j, hj⟩ : ∃ j, (encElems ts t).length + 2 - cnt t = j + 1 := ⟨(encElems ts t).length + 1 - cnt t, by omega⟩
  unfold Coll.readDatasetToEnd Coll.new
  rw [h1, hj, collectElements]
  simp [LState.peek, hpk, hend]
end Dicom.CW
