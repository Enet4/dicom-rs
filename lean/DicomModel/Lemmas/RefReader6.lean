import DicomModel.Lemmas.RefReader5
/-
C02, reader side: from runs to `readTokens`; the token count is bounded by the byte count.
-/
namespace Dicom.Ref

/-- `readTokens` hands `next` the loop fuel `s.dec.rest.length + 1`, hence the instances below -/
theorem readTokens_of_run {s s' : RState} {toks : List Token} (h : Run s toks s')
    (hend : ∀ fuel, ∃ s'', s'.next (fuel + 1) = (none, s'')) :
    ∀ fuel, toks.length < fuel → readTokens fuel s = (toks, none) := by
  induction h with
  | nil s =>
    intro fuel hf
    cases fuel with
    | zero => simp at hf
    | succ k =>
      obtain ⟨s'', hs⟩ := hend s.dec.rest.length
      simp [readTokens, hs]
  | @cons s s1 s2 t ts st _ ih =>
    intro fuel hf
    cases fuel with
    | zero => simp at hf
    | succ k =>
      have := st.1 s.dec.rest.length
      simp only [readTokens, this]
      rw [ih hend k (by simp at hf; omega)]

/-- at the end of the input, outside any sequence, `next()` returns `None` -/
theorem next_at_end (ts : Syntax) (dict : Tag → Option VR) (pos : Nat) (p : Bool) (fuel : Nat) :
    ∃ s'', (stE ts dict [] pos p []).next (fuel + 1) = (none, s'') := by
  obtain ⟨s', hs⟩ := body_end ts dict pos
  exact ⟨s', next_body _ _ _ fuel rfl (fun _ => trivial) hs⟩

/-! ### number of tokens ≤ number of bytes -/

theorem fragTokens_le (f : Bytes) : (fragTokens f).length ≤ 3 := by
  unfold fragTokens; split <;> simp
theorem botTokens_le (b : List Nat) : (botTokens b).length ≤ 3 := by
  unfold botTokens; split <;> simp

theorem frags_tokens_le (be : Bool) : ∀ frags : List Bytes,
    (frags.flatMap fragTokens).length ≤ (frags.flatMap (fragment be)).length
  | [] => by simp
  | f :: r => by
    have := frags_tokens_le be r
    have h1 := fragTokens_le f
    simp only [List.flatMap_cons, List.length_append, fragment, itemHdr_length]
    omega

theorem tokens_le_prim (ts : Syntax) (t : Tag) (vr : VR) (len : Nat) (v : PValue) :
    (Elem.tokens (.prim t vr len v)).length ≤ (encElem ts (.prim t vr len v)).length := by
  have h8 := header_ge8 ts t vr len
  have : (Elem.tokens (.prim t vr len v)).length ≤ 2 := by
    simp only [Elem.tokens]
    split
    · simp
    · split
      · split <;> simp
      · simp
  rw [encElem_prim_length]; omega

theorem tokens_le_seq (ts : Syntax) (tag : Tag) (len : Nat) {items : Items}
    (ih : items.tokens.length ≤ (encItems ts items).length) :
    (Elem.tokens (.seq tag len items)).length ≤ (encElem ts (.seq tag len items)).length := by
  have := header_ge8 ts tag .SQ len
  simp only [Elem.tokens, encElem_seq_length, List.length_append, List.length_cons, List.length_nil]; omega

theorem tokens_le_pix (ts : Syntax) (bot : List Nat) (frags : List Bytes) :
    (Elem.tokens (.pix bot frags)).length ≤ (encElem ts (.pix bot frags)).length := by
  have := header_ge8 ts Tag.pixelData .OB undefinedLen
  have := botTokens_le bot
  have := frags_tokens_le ts.bigEndian frags
  simp only [Elem.tokens, encElem_pix_length, List.length_append, List.length_cons, List.length_nil]
  omega

theorem tokens_le_item (ts : Syntax) (len : Nat) {es : Elems} {rest : Items}
    (ih1 : es.tokens.length ≤ (encElems ts es).length) (ih2 : rest.tokens.length ≤ (encItems ts rest).length) :
    (Items.tokens (.cons len es rest)).length ≤ (encItems ts (.cons len es rest)).length := by
  simp only [Items.tokens, encItems_cons_length, List.length_append, List.length_cons]; omega

theorem tokens_le_cons (ts : Syntax) {e : Elem} {rest : Elems}
    (ih1 : e.tokens.length ≤ (encElem ts e).length) (ih2 : rest.tokens.length ≤ (encElems ts rest).length) :
    (Elems.tokens (.cons e rest)).length ≤ (encElems ts (.cons e rest)).length := by
  simp only [Elems.tokens, encElems_cons_length, List.length_append]; omega

mutual
theorem tokens_le_elem (ts : Syntax) : ∀ e : Elem, e.tokens.length ≤ (encElem ts e).length
  | .prim t vr len v => tokens_le_prim ts t vr len v
  | .seq tag len items => tokens_le_seq ts tag len (tokens_le_items ts items)
  | .pix bot frags => tokens_le_pix ts bot frags
theorem tokens_le_items (ts : Syntax) : ∀ its : Items, its.tokens.length ≤ (encItems ts its).length
  | .nil => Nat.le_refl _
  | .cons len es rest => tokens_le_item ts len (tokens_le_elems ts es) (tokens_le_items ts rest)
theorem tokens_le_elems (ts : Syntax) : ∀ es : Elems, es.tokens.length ≤ (encElems ts es).length
  | .nil => Nat.le_refl _
  | .cons e rest => tokens_le_cons ts (tokens_le_elem ts e) (tokens_le_elems ts rest)
end

/-- the reader model on the reference encoding of a canonical tree yields the tree's tokens (with the
recorded lengths) and ends without error -/
theorem readTokens_ref (ts : Syntax) (dict : Tag → Option VR) (t : Elems)
    (hd : dictOk ts dict = true) (hc : canonElems ts dict t = true) (fuel : Nat) (hf : t.tokens.length < fuel) :
    readTokens fuel (RState.new ts dict (encElems ts t)) = (t.tokens, none) := by
  have r := run_elems ts dict hd t hc [] 0 false [] (fun f hf => by simp at hf) trivial
  rw [List.append_nil] at r
  exact readTokens_of_run r (fun fuel => next_at_end ts dict _ _ fuel) fuel hf

end Dicom.Ref
