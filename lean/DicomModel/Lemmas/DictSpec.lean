/-
The dictionaries of C15 for *any* table (`Props/C15.lean` puts in the generated ones): for a
well-formed entry table the coded lookup (`indexed_tag` over the registry built by `init_dictionary`)
equals the precedence order of the property statement (`specLookup`); likewise `by_name`, the
group-local registry of the driver's sweep, the SOP class registry, and `constsCheck` line by line.
-/
import DicomModel.Lemmas.Dict
namespace Dicom.Dict

/-- table invariants used by the refinement proof -/
structure TableOk (es : List Row) : Prop where
  keysNodup : (es.map Row.key).Nodup
  check : tableCheck es = true

section
variable {es : List Row}

theorem TableOk.fields (ok : TableOk es) {r : Row} (hr : r ∈ es) :
    r.group < 65536 ∧ r.elem < 65536 ∧ r.kind ≤ 2 ∧ (r.kind = 1 → r.group % 256 = 0) ∧
      (r.kind = 2 → r.elem % 256 = 0) := by
  have h := ok.check
  simp only [tableCheck, Bool.and_eq_true, List.all_eq_true] at h
  have := h.1 r hr
  simp only [decide_eq_true_eq, Bool.or_eq_true, bne_iff_ne, ne_eq, beq_iff_eq] at this
  omega

theorem TableOk.noOverlap (ok : TableOk es) {r1 r2 : Row} (h1 : r1 ∈ es) (h2 : r2 ∈ es)
    (k1 : r1.kind = 1) (k2 : r2.kind = 2) {g e : Nat} (c1 : r1.covers g e = true)
    (c2 : r2.covers g e = true) : False := by
  have h := ok.check
  simp only [tableCheck, Bool.and_eq_true, List.all_eq_true] at h
  have := h.2 r1 (List.mem_filter.mpr ⟨h1, by simp [k1]⟩) r2 (List.mem_filter.mpr ⟨h2, by simp [k2]⟩)
  simp [Row.covers, k1, k2] at c1 c2 this
  omega

theorem TableOk.covers_of_key (ok : TableOk es) {r : Row} (hr : r ∈ es) {g e : Nat} (he : e < 65536)
    (hk : r.key = tagKey g e) : r.covers g e = true := by
  obtain ⟨h1, h2⟩ := tagKey_inj (ok.fields hr).2.1 he hk
  simp [Row.covers, h1, h2]

/-- a row covers a tag iff its key is the tag, trimmed as `indexed_tag` trims it for the row's kind -/
theorem TableOk.covers_iff_key (ok : TableOk es) {r : Row} (hr : r ∈ es) {g e : Nat} (hg : g < 65536)
    (he : e < 65536) :
    r.covers g e = true ↔
      r.key = tagKey (if r.kind = 1 then g &&& 0xFF00 else g) (if r.kind = 2 then e &&& 0xFF00 else e) := by
  have f := ok.fields hr
  rw [and_ff00 g hg, and_ff00 e he]
  unfold Row.covers Row.key tagKey
  have : r.kind = 0 ∨ r.kind = 1 ∨ r.kind = 2 := by omega
  rcases this with k | k | k <;> simp [k] <;> omega

/-- two table entries that cover a common tag and are both exact, or both ranges, are the same entry -/
theorem TableOk.cover_unique (ok : TableOk es) {r r' : Row} (hr : r ∈ es) (hr' : r' ∈ es) {g e : Nat}
    (hg : g < 65536) (he : e < 65536) (hc : r.covers g e = true) (hc' : r'.covers g e = true)
    (hk : (r.kind = 0 ↔ r'.kind = 0)) : r = r' := by
  apply eq_of_key_eq ok.keysNodup hr hr'
  by_cases hkk : r.kind = r'.kind
  · rw [(ok.covers_iff_key hr hg he).mp hc, (ok.covers_iff_key hr' hg he).mp hc', hkk]
  · have k := (ok.fields hr).2.2.1
    have k' := (ok.fields hr').2.2.1
    have : r.kind = 1 ∧ r'.kind = 2 ∨ r.kind = 2 ∧ r'.kind = 1 := by omega
    rcases this with ⟨a, b⟩ | ⟨a, b⟩
    · exact (ok.noOverlap hr hr' a b hc hc').elim
    · exact (ok.noOverlap hr' hr b a hc' hc).elim

/-- **Refinement**: `indexed_tag` over the registry built by `init_dictionary` from a well-formed
table returns, for every tag, what the statement's precedence order prescribes. -/
theorem indexedTag_eq_spec (ok : TableOk es) (g e : Nat) (hg : g < 65536) (he : e < 65536) :
    indexedTag (initDictionary es) g e = specLookup es g e := by
  have get := fun {r : Row} (hr : r ∈ es) => byTag_get_of_mem ok.keysNodup hr
  have key := fun {r : Row} (hr : r ∈ es) => ok.covers_iff_key hr hg he
  -- spec side: each scan finds the covering row, which is unique among its like
  have findExact : ∀ {r : Row}, r ∈ es → r.kind = 0 → r.covers g e = true →
      es.find? (fun r => r.kind == 0 && r.covers g e) = some r := by
    intro r hr hk hc
    apply find?_eq_some_of_unique hr (by simp [hk, hc])
    intro x hx hpx
    simp only [Bool.and_eq_true, beq_iff_eq] at hpx
    exact ok.cover_unique hx hr hg he hpx.2 hc (by simp [hpx.1, hk])
  have findRange : ∀ {r : Row}, r ∈ es → r.kind ≠ 0 → r.covers g e = true →
      es.find? (fun r => r.kind != 0 && r.covers g e) = some r := by
    intro r hr hk hc
    apply find?_eq_some_of_unique hr (by simp [hk, hc])
    intro x hx hpx
    simp only [Bool.and_eq_true, bne_iff_ne, ne_eq] at hpx
    exact ok.cover_unique hx hr hg he hpx.2 hc (by simp [hpx.1, hk])
  have exactKey : ∀ x ∈ es, (x.kind == 0 && x.covers g e) = true → x.key = tagKey g e := by
    intro x hx hpx
    simp only [Bool.and_eq_true, beq_iff_eq] at hpx
    simpa [hpx.1] using (key hx).mp hpx.2
  unfold indexedTag specLookup
  by_cases hex : ∃ r ∈ es, r.key = tagKey g e
  · -- the map lookup succeeds
    obtain ⟨r, hr, hk⟩ := hex
    have hc := ok.covers_of_key hr he hk
    rw [← hk, get hr]
    by_cases k0 : r.kind = 0
    · rw [findExact hr k0 hc]
    · have : es.find? (fun r => r.kind == 0 && r.covers g e) = none := by
        rw [List.find?_eq_none]
        intro x hx hpx
        have hxr := eq_of_key_eq ok.keysNodup hx hr ((exactKey x hx hpx).trans hk.symm)
        simp [hxr, k0] at hpx
      rw [this, findRange hr k0 hc]
  · -- no entry under the tag itself
    have hno : ∀ r ∈ es, r.key ≠ tagKey g e := fun r hr hk => hex ⟨r, hr, hk⟩
    have exactNone : es.find? (fun r => r.kind == 0 && r.covers g e) = none :=
      List.find?_eq_none.mpr fun x hx hpx => hno x hx (exactKey x hx hpx)
    rw [byTag_get_none hno, exactNone]
    simp only []
    -- `repeating_ggxx` holds the group-trimmed key iff a repeating-group row covers the tag
    by_cases hG : setContains (initDictionary es).ggxx (tagKey (g &&& 0xFF00) e) = true
    · obtain ⟨r, hr, hk, hkey⟩ := (ggxx_contains es _).mp hG
      have hc : r.covers g e = true := (key hr).mpr (by simpa [hk] using hkey)
      rw [if_pos hG, ← hkey, get hr, findRange hr (by omega) hc]
    · rw [if_neg hG]
      by_cases hE : setContains (initDictionary es).eexx (tagKey g (e &&& 0xFF00)) = true
      · obtain ⟨r, hr, hk, hkey⟩ := (eexx_contains es _).mp hE
        have hc : r.covers g e = true := (key hr).mpr (by simpa [hk] using hkey)
        rw [if_pos hE, ← hkey, get hr, findRange hr (by omega) hc]
      · rw [if_neg hE]
        have rangeNone : es.find? (fun r => r.kind != 0 && r.covers g e) = none := by
          rw [List.find?_eq_none]
          intro x hx hpx
          simp only [Bool.and_eq_true, bne_iff_ne, ne_eq] at hpx
          have hxk := (key hx).mp hpx.2
          have := (ok.fields hx).2.2.1
          have c : x.kind = 1 ∨ x.kind = 2 := by omega
          rcases c with c | c
          · exact hG ((ggxx_contains es _).mpr ⟨x, hx, c, by simpa [c] using hxk⟩)
          · exact hE ((eexx_contains es _).mpr ⟨x, hx, c, by simpa [c] using hxk⟩)
        rw [rangeNone, Nat.and_one_is_mod]

/-- every table entry is found under its own (inner) tag -/
theorem indexedTag_inner (ok : TableOk es) {r : Row} (hr : r ∈ es) :
    indexedTag (initDictionary es) r.group r.elem = .entry r := by
  unfold indexedTag
  rw [show tagKey r.group r.elem = r.key from rfl, byTag_get_of_mem ok.keysNodup hr]

/-- `by_name` of an entry's keyword returns that entry (same keyword, same tag), provided keywords
are distinct and none is "GenericGroupLength" (which `init_dictionary` adds by hand) -/
theorem byName_entry (hn : (es.map Row.alias).Nodup) (hgl : glAlias ∉ es.map Row.alias)
    {r : Row} (hr : r ∈ es) : byName (initDictionary es) r.alias = .entry r := by
  have hne : glAlias ≠ r.alias := fun h => hgl (h ▸ List.mem_map_of_mem hr)
  unfold byName
  rw [initDictionary_eq, mapGet_cons, if_neg hne, mapGet_reverse_of_nodup hn hr]

theorem byName_groupLength : byName (initDictionary es) glAlias = .groupLength := by
  unfold byName
  rw [initDictionary_eq, mapGet_cons, if_pos rfl]

/-- a keyword that no entry carries (and that is not "GenericGroupLength") is unknown -/
theorem byName_none {a : Nat} (h : ∀ r ∈ es, r.alias ≠ a) (hg : a ≠ glAlias) :
    byName (initDictionary es) a = .none := by
  unfold byName
  rw [initDictionary_eq, mapGet_cons, if_neg (Ne.symm hg), mapGet_reverse_eq_none h]

/-! ### group-local evaluation (used by the driver to evaluate the model on all 2^32 tags) -/

theorem byTag_get_filter (q : Row → Bool) (k : Nat) (hq : ∀ r ∈ es, r.key = k → q r = true) :
    mapGet (initDictionary (es.filter q)).byTag k = mapGet (initDictionary es).byTag k := by
  rw [byTag_get, byTag_get, ← List.filter_reverse]
  apply find?_filter_of_imp
  intro x hx hpx
  exact hq x (List.mem_reverse.mp hx) (by simpa using hpx)

theorem exists_mem_filter_iff (q : Row → Bool) {P : Row → Prop} (hq : ∀ r ∈ es, P r → q r = true) :
    (∃ r ∈ es.filter q, P r) ↔ ∃ r ∈ es, P r :=
  ⟨fun ⟨r, hr, h⟩ => ⟨r, (List.mem_filter.mp hr).1, h⟩,
   fun ⟨r, hr, h⟩ => ⟨r, List.mem_filter.mpr ⟨hr, hq r hr h⟩, h⟩⟩

theorem ggxx_contains_filter (q : Row → Bool) (k : Nat) (hq : ∀ r ∈ es, r.key = k → q r = true) :
    setContains (initDictionary (es.filter q)).ggxx k = setContains (initDictionary es).ggxx k := by
  apply Bool.eq_iff_iff.mpr
  rw [ggxx_contains, ggxx_contains]
  exact exists_mem_filter_iff q fun r hr h => hq r hr h.2

theorem eexx_contains_filter (q : Row → Bool) (k : Nat) (hq : ∀ r ∈ es, r.key = k → q r = true) :
    setContains (initDictionary (es.filter q)).eexx k = setContains (initDictionary es).eexx k := by
  apply Bool.eq_iff_iff.mpr
  rw [eexx_contains, eexx_contains]
  exact exists_mem_filter_iff q fun r hr h => hq r hr h.2

/-- Evaluating `indexed_tag` for a tag of group `g` only needs the rows of groups `g` and
`g & 0xFF00`: the registry built from those rows alone gives the same answer. -/
theorem indexedTag_filter (hb : ∀ r ∈ es, r.elem < 65536) (g e : Nat) (he : e < 65536) :
    indexedTag (initDictionary (es.filter (relevant g))) g e = indexedTag (initDictionary es) g e := by
  have rel : ∀ (g' e' : Nat), e' < 65536 → (g' = g ∨ g' = g &&& 0xFF00) →
      ∀ r ∈ es, r.key = tagKey g' e' → relevant g r = true := by
    intro g' e' he' hg' r hr hk
    obtain ⟨h1, _⟩ := tagKey_inj (hb r hr) he' hk
    unfold relevant
    rcases hg' with h | h <;> simp [h1, h]
  have he' : e &&& 0xFF00 < 65536 := Nat.lt_of_le_of_lt Nat.and_le_left he
  unfold indexedTag
  simp only []
  rw [byTag_get_filter _ _ (rel g e he (Or.inl rfl)),
    byTag_get_filter _ _ (rel (g &&& 0xFF00) e he (Or.inr rfl)),
    byTag_get_filter _ _ (rel g (e &&& 0xFF00) he' (Or.inl rfl)),
    ggxx_contains_filter _ _ (rel (g &&& 0xFF00) e he (Or.inr rfl)),
    eexx_contains_filter _ _ (rel g (e &&& 0xFF00) he' (Or.inl rfl))]

end

/-! ### SOP class registry -/

theorem indexAll_consistent {es : List UidRow} (hu : (es.map UidRow.uid).Nodup)
    (ha : (es.map UidRow.alias).Nodup) {e : UidRow} (he : e ∈ es) :
    byUid (UidRegistry.indexAll ⟨[], []⟩ es) e.uid = some e ∧
      byKeyword (UidRegistry.indexAll ⟨[], []⟩ es) e.alias = some e :=
  ⟨mapGet_foldl_of_nodup UidRow.uid es hu he, mapGet_foldl_of_nodup UidRow.alias es ha he⟩

/-! ### constants table -/

theorem constRowOk_spec {c : Const} {f : Nat × Nat} {r : Row} (h : constRowOk c f r = true) :
    c.group = r.group ∧ c.elem = r.elem ∧ c.docAlias = r.alias ∧
      (c.kind = 3 ∧ r.kind = 0 ∨ c.kind = r.kind) := by
  simp only [constRowOk, Bool.and_eq_true, Nat.beq_eq] at h
  -- the conjuncts: name, kind, group, element, keyword, and the four bounds of the documented range
  obtain ⟨⟨⟨⟨⟨⟨⟨⟨_, hk⟩, hg⟩, he⟩, ha⟩, _⟩, _⟩, _⟩, _⟩ := h
  refine ⟨hg.symm, he.symm, ha, ?_⟩
  cases h3 : Nat.beq c.kind 3
  · simp only [h3, cond_false, Bool.and_eq_true, Nat.beq_eq] at hk
    exact Or.inr hk.2.symm
  · simp only [h3, cond_true, Bool.and_eq_true, Nat.beq_eq] at hk
    exact Or.inl ⟨Nat.eq_of_beq_eq_true h3, hk.2⟩

theorem constsCheck_getElem {cs : List Const} {fs : List (Nat × Nat)} {rs : List Row}
    (h : constsCheck cs fs rs = true) :
    cs.length = rs.length ∧
      ∀ i (hc : i < cs.length) (hr : i < rs.length),
        cs[i].group = rs[i].group ∧ cs[i].elem = rs[i].elem ∧ cs[i].docAlias = rs[i].alias ∧
        (cs[i].kind = 3 ∧ rs[i].kind = 0 ∨ cs[i].kind = rs[i].kind) := by
  fun_induction constsCheck cs fs rs with
  | case1 => exact ⟨rfl, fun i hc => absurd hc (Nat.not_lt_zero i)⟩
  | case2 c cs f fs r rs ih =>
    rw [Bool.and_eq_true] at h
    obtain ⟨l, hall⟩ := ih h.2
    refine ⟨congrArg (· + 1) l, fun i hc hr => ?_⟩
    cases i with
    | zero => exact constRowOk_spec h.1
    | succ j => exact hall j (Nat.lt_of_succ_lt_succ hc) (Nat.lt_of_succ_lt_succ hr)
  | case3 => cases h

theorem constsCheck_append {cs₁ cs₂ : List Const} {fs₁ fs₂ : List (Nat × Nat)} {rs₁ rs₂ : List Row}
    (h₁ : constsCheck cs₁ fs₁ rs₁ = true) (h₂ : constsCheck cs₂ fs₂ rs₂ = true) :
    constsCheck (cs₁ ++ cs₂) (fs₁ ++ fs₂) (rs₁ ++ rs₂) = true := by
  fun_induction constsCheck cs₁ fs₁ rs₁ with
  | case1 => exact h₂
  | case2 c cs f fs r rs ih =>
    rw [Bool.and_eq_true] at h₁
    simp only [List.cons_append, constsCheck, h₁.1, ih h₁.2, Bool.and_self]
  | case3 => cases h₁

theorem constsCheck_drop {cs : List (List Const)} {fs : List (List (Nat × Nat))} {rs : List (List Row)}
    (a n : Nat)
    (h₁ : constsCheck ((cs.drop a).take n).flatten ((fs.drop a).take n).flatten
      ((rs.drop a).take n).flatten = true)
    (h₂ : constsCheck (cs.drop (a + n)).flatten (fs.drop (a + n)).flatten (rs.drop (a + n)).flatten = true) :
    constsCheck (cs.drop a).flatten (fs.drop a).flatten (rs.drop a).flatten = true := by
  rw [flatten_drop cs a n, flatten_drop fs a n, flatten_drop rs a n]
  exact constsCheck_append h₁ h₂

theorem byName_const {cs : List Const} {fs : List (Nat × Nat)} {rs : List Row}
    (h : constsCheck cs fs rs = true) (hn : (rs.map Row.alias).Nodup)
    (hgl : glAlias ∉ rs.map Row.alias) (i : Nat) (hc : i < cs.length) :
    ∃ r, byName (initDictionary rs) cs[i].docAlias = .entry r ∧
      r.group = cs[i].group ∧ r.elem = cs[i].elem := by
  obtain ⟨l, hall⟩ := constsCheck_getElem h
  have hr : i < rs.length := l ▸ hc
  obtain ⟨hg, he, ha, _⟩ := hall i hc hr
  exact ⟨rs[i], ha ▸ byName_entry hn hgl (List.getElem_mem hr), hg.symm, he.symm⟩

end Dicom.Dict
