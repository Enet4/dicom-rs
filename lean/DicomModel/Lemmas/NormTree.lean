import DicomModel.Lemmas.Norm
import DicomModel.Lemmas.RefBuild
/-
Tree level: the normal form of a data set, well-formedness of the *original* data set, and `rec_norm_*`:
the (recursive = state machine) writer writes a tree and its normal form to the same bytes.
-/
namespace Dicom.Norm
open Dicom.C04

mutual
/-- **the data set as it comes back**: values in normal form, recorded value lengths = the written ones,
every sequence and item with undefined length, fragments padded to even length -/
def normElem (ts : Syntax) : Elem → Elem
  | .prim tag vr _ v =>
    .prim tag vr (paddedValue ts.bigEndian vr v).length (normValue ts.bigEndian vr v)
  | .seq tag _ items => .seq tag undefinedLen (normItems ts items)
  | .pix bot frags => .pix bot (frags.map fun f => padTo f 0)
def normItems (ts : Syntax) : Items → Items
  | .nil => .nil
  | .cons _ elems rest => .cons undefinedLen (normElems ts elems) (normItems ts rest)
def normElems (ts : Syntax) : Elems → Elems
  | .nil => .nil
  | .cons e rest => .cons (normElem ts e) (normElems ts rest)
end

mutual
/-- **well-formed in-memory data set** for syntax `ts` (and dictionary `dict` in Implicit VR): data element
tags outside group FFFE, values valid for their VR and fitting their header, Implicit VR only with the
dictionary's VR (the documented normalisation), encapsulated pixel data only as a pixel sequence,
ascending tags inside every item -/
def WfElem (ts : Syntax) (dict : Tag → Option VR) : Elem → Prop
  | .prim tag vr len v =>
    Ref.tagOk tag = true ∧ ¬ (vr = .OB ∧ tag = Tag.pixelData ∧ len = undefinedLen)
      ∧ ValidFor ts.bigEndian vr v ∧ FitsHeader ts vr (paddedValue ts.bigEndian vr v).length
      ∧ (ts.explicit = true ∨ Ref.implicitVr dict tag = vr)
  | .seq tag _ items => Ref.tagOk tag = true ∧ tag ≠ Tag.pixelData ∧ WfItems ts dict items
  | .pix bot frags =>
    4 * bot.length < 4294967295 ∧ (∀ o ∈ bot, o < 4294967296)
      ∧ ∀ f ∈ frags, f.length < 4294967294 ∧ ∀ b ∈ f, b < 256
def WfItems (ts : Syntax) (dict : Tag → Option VR) : Items → Prop
  | .nil => True
  | .cons _ elems rest => WfElems ts dict elems ∧ Ref.sortedElems elems = true ∧ WfItems ts dict rest
def WfElems (ts : Syntax) (dict : Tag → Option VR) : Elems → Prop
  | .nil => True
  | .cons e rest => WfElem ts dict e ∧ WfElems ts dict rest
end

/-! ### token-level well-formedness of both trees -/

mutual
theorem wf_elem (ts : Syntax) (dict : Tag → Option VR) : ∀ e, WfElem ts dict e → e.WF ∧ (normElem ts e).WF
  | .prim tag vr len v, h => by
    obtain ⟨_, h2, hv, hf, _⟩ := h
    refine ⟨⟨hv.1, h2⟩, hv.1, ?_⟩
    intro hx
    have := hf.1
    have h3 := hx.2.2
    unfold undefinedLen at h3
    omega
  | .seq tag len items, h => by
    have := wf_items ts dict items h.2.2
    exact ⟨this.1, this.2⟩
  | .pix bot frags, h => by
    refine ⟨fun f hf => by have := (h.2.2 f hf).1; omega, ?_⟩
    intro f hf
    obtain ⟨g, hg, rfl⟩ := List.mem_map.mp hf
    have := (h.2.2 g hg).1
    rw [padTo_length]; unfold evenUp; omega
theorem wf_items (ts : Syntax) (dict : Tag → Option VR) : ∀ its, WfItems ts dict its → its.WF ∧ (normItems ts its).WF
  | .nil, _ => ⟨trivial, trivial⟩
  | .cons len es r, h => by
    have h1 := wf_elems ts dict es h.1
    have h2 := wf_items ts dict r h.2.2
    exact ⟨⟨h1.1, h2.1⟩, h1.2, h2.2⟩
theorem wf_elems (ts : Syntax) (dict : Tag → Option VR) : ∀ es, WfElems ts dict es → es.WF ∧ (normElems ts es).WF
  | .nil, _ => ⟨trivial, trivial⟩
  | .cons e r, h => by
    have h1 := wf_elem ts dict e h.1
    have h2 := wf_elems ts dict r h.2
    exact ⟨⟨h1.1, h2.1⟩, h1.2, h2.2⟩
end

/-! ### the writer writes a tree and its normal form identically -/

theorem ascii_of_padTo {s : Bytes} {p : Nat} (h : Ascii (padTo s p)) : Ascii s := by
  intro b hb
  apply h
  unfold padTo; split
  · exact List.mem_append_left _ hb
  · exact hb

/-- what `primitiveElement` writes depends only on the header bytes and the padded value field -/
theorem primitiveElement_congr (e : Enc) (de de' : ElemHeader) (v v' : PValue)
    (hhdr : ∀ n, encodeHeader e.ts ⟨de'.tag, de'.vr, n⟩ = encodeHeader e.ts ⟨de.tag, de.vr, n⟩)
    (hpv : paddedValue e.ts.bigEndian de'.vr v' = paddedValue e.ts.bigEndian de.vr v)
    (ha : ValueAscii v) (hd : DsIsOk de.vr v) (hsz : (paddedValue e.ts.bigEndian de.vr v).length < 4294967295)
    (ha' : ValueAscii v') (hd' : DsIsOk de'.vr v') :
    e.primitiveElement de' v' = e.primitiveElement de v := by
  rw [primitiveElement_eq e de' v' ha' hd' (hpv ▸ hsz), primitiveElement_eq e de v ha hd hsz, hpv]
  unfold Enc.headerAndValue
  rw [elementHeader_eq, elementHeader_eq]
  dsimp only
  rw [hhdr]

theorem itemHeader_odd (e : Enc) {n : Nat} (hodd : n % 2 = 1) (hn : n < 4294967294) :
    e.itemHeader n = e.itemHeader (n + 1) := by
  have h1 : evenLen n = n + 1 := by rw [evenLen_eq_evenUp (by omega)]; unfold evenUp; omega
  have h2 : evenLen (n + 1) = n + 1 := by
    rw [evenLen_eq_evenUp (by omega), evenUp_of_even (by omega)]
  have h3 : n ≠ 0xFFFFFFFF := by omega
  have h4 : n + 1 ≠ 0xFFFFFFFF := by omega
  simp only [Enc.itemHeader, h1, h2, h3, h4, if_false]

theorem writeBytes_pad (e : Enc) {f : Bytes} (hodd : f.length % 2 = 1) : e.writeBytes (f ++ [0]) = e.writeBytes f := by
  have heven : (f.length + 1) % 2 = 0 := by omega
  simp [Enc.writeBytes, Enc.push, hodd, heven, Nat.add_assoc]

theorem recFrag_pad (e : Enc) (f : Bytes) (hf : f.length < 4294967294) : recFrag e (padTo f 0) = recFrag e f := by
  unfold padTo
  split
  · rename_i hodd
    have hne : f.isEmpty = false := by cases f with | nil => cases hodd | cons => rfl
    have hne2 : (f ++ [0]).isEmpty = false := by cases f <;> rfl
    simp only [recFrag, hne, hne2, Bool.false_eq_true, if_false, List.length_append, List.length_singleton]
    rw [Nat.mod_eq_of_lt (by omega), Nat.mod_eq_of_lt (by omega), ← itemHeader_odd e hodd hf, writeBytes_pad _ hodd]
  · rfl
theorem recFrags_pad : ∀ (frags : List Bytes) (e : Enc), (∀ f ∈ frags, f.length < 4294967294) →
    recFrags e (frags.map fun f => padTo f 0) = recFrags e frags
  | [], _, _ => rfl
  | f :: r, e, h => by
    simp only [List.map_cons, recFrags]
    rw [recFrag_pad e f (h f (by simp)), recFrags_pad r _ (fun x hx => h x (by simp [hx]))]

theorem recFrags_exact : ∀ (frags : List Bytes) (e : Enc), Enc.Exact e → Enc.Exact (recFrags e frags)
  | [], _, h => h
  | f :: r, e, h => by
    simp only [recFrags]
    apply recFrags_exact r
    unfold recFrag
    split
    · exact itemHeader_exact h _
    · exact writeBytes_exact (itemHeader_exact h _) _

theorem recBot_exact (bot : List Nat) (e : Enc) (h : Enc.Exact e) : Enc.Exact (recBot e bot) := by
  unfold recBot; split
  · exact itemHeader_exact h _
  · exact offsetTable_exact (itemHeader_exact h _) _

theorem recItemHeader_ts (e : Enc) (n : Nat) : (e.itemHeader n).ts = e.ts := rfl
theorem recItemDelimiter_ts (e : Enc) : e.itemDelimiter.ts = e.ts := rfl
theorem recSeqDelimiter_ts (e : Enc) : e.seqDelimiter.ts = e.ts := rfl

theorem elementHeader_ts {e e' : Enc} {hd : ElemHeader} (h : e.elementHeader hd = .ok e') : e'.ts = e.ts := by
  unfold Enc.elementHeader at h
  dsimp only at h
  split at h
  · injection h with h; subst h; rfl
  · cases h

/-! The tree lemmas all say "the writer does the same on `t` and on its transform, and a successful run
re-establishes the invariant"; `SameOk.bind` composes that along `exBind`, which is how the steps are chained. -/

def SameOk {σ : Type} (Q : σ → Prop) (x y : Except WErr σ) : Prop := x = y ∧ ∀ s, y = .ok s → Q s

theorem SameOk.of_ok {σ : Type} {Q : σ → Prop} {y : Except WErr σ} (h : ∀ s, y = .ok s → Q s) : SameOk Q y y :=
  ⟨rfl, h⟩

theorem SameOk.ok {σ : Type} {Q : σ → Prop} {s : σ} (h : Q s) : SameOk Q (.ok s) (.ok s) :=
  ⟨rfl, fun _ hs => by injection hs with hs; exact hs ▸ h⟩

theorem SameOk.bind {σ τ : Type} {Q : σ → Prop} {R : τ → Prop} {x y : Except WErr σ} {f g : σ → Except WErr τ}
    (h : SameOk Q x y) (hfg : ∀ s, Q s → SameOk R (f s) (g s)) : SameOk R (exBind x f) (exBind y g) := by
  obtain ⟨rfl, hq⟩ := h
  cases x with
  | error e => exact ⟨rfl, fun _ hs => by cases hs⟩
  | ok s => exact hfg s (hq s rfl)

theorem exBind_congr {ε α β : Type} {x : Except ε α} {f g : α → Except ε β} (h : ∀ a, x = .ok a → f a = g a) :
    exBind x f = exBind x g := by
  cases x with
  | error _ => rfl
  | ok a => exact h a rfl

def EncOk (ts : Syntax) (e : Enc) : Prop := e.ts = ts ∧ Enc.Exact e

theorem EncOk.elementHeader {ts : Syntax} {e : Enc} (h : EncOk ts e) (hd : ElemHeader) :
    SameOk (EncOk ts) (e.elementHeader hd) (e.elementHeader hd) :=
  .of_ok fun _ h1 => ⟨(elementHeader_ts h1).trans h.1, elementHeader_exact h.2 _ h1⟩

/-- **one element**: `encode_primitive_element` produces the same state for a valid `v` and for its normal form
(under any recorded length), with the syntax and the counter kept -/
theorem encodePrimitiveElement_norm (e : Enc) (hex : Enc.Exact e) (tag : Tag) (vr : VR) (len len' : Nat) (v : PValue)
    (hv : ValidFor e.ts.bigEndian vr v) (hf : FitsHeader e.ts vr (paddedValue e.ts.bigEndian vr v).length) :
    SameOk (EncOk e.ts) (e.encodePrimitiveElement ⟨tag, vr, len'⟩ (normValue e.ts.bigEndian vr v))
      (e.encodePrimitiveElement ⟨tag, vr, len⟩ v) := by
  have hpn := paddedValue_norm e.ts.bigEndian vr v hv
  have hnv := normValue_valid e.ts.bigEndian vr v hv
  rw [encodePrimitiveElement_valid e tag vr _ _ _ hnv, encodePrimitiveElement_valid e tag vr _ _ _ hv,
    primitiveElement_congr e ⟨tag, vr, len⟩ ⟨tag, vr, len'⟩ v _ (fun _ => rfl) hpn hv.2.1 hv.2.2.1 hf.1
      hnv.2.1 hnv.2.2.1]
  refine .of_ok fun e' he' => ?_
  obtain ⟨e1, h1, t1⟩ := primitiveElement_total e ⟨tag, vr, len⟩ v hv.2.1 hv.2.2.1 hf
  rw [h1] at he'; injection he' with he'; subst he'
  exact ⟨t1, primitiveElement_exact hex _ _ h1⟩

mutual
/-- the recursive writer treats a well-formed tree and its normal form alike; it keeps the counter exact
and the syntax -/
theorem rec_norm_elem (ts : Syntax) (dict : Tag → Option VR) : ∀ (el : Elem), WfElem ts dict el →
    ∀ (e : Enc), e.ts = ts → Enc.Exact e →
      recElem e (normElem ts el) = recElem e el ∧
      ∀ e', recElem e el = .ok e' → e'.ts = ts ∧ Enc.Exact e'
  | .prim tag vr len v, h, e, hts, hex => by
    subst hts
    exact encodePrimitiveElement_norm e hex tag vr len _ v h.2.2.1 h.2.2.2.1
  | .seq tag len items, h, e, hts, hex =>
    (EncOk.elementHeader ⟨hts, hex⟩ _).bind fun e1 h1 =>
      SameOk.bind (Q := EncOk ts) (rec_norm_items ts dict items h.2.2 e1 h1.1 h1.2) fun _ h2 =>
        .ok ⟨h2.1, seqDelimiter_exact h2.2⟩
  | .pix bot frags, h, e, hts, hex => by
    show SameOk (EncOk ts) (recElem e (.pix bot (frags.map fun f => padTo f 0))) (recElem e (.pix bot frags))
    simp only [recElem, recFrags_pad frags _ fun f hf => (h.2.2 f hf).1]
    exact (EncOk.elementHeader ⟨hts, hex⟩ _).bind fun e1 h1 =>
      .ok ⟨by show (recFrags (recBot e1 bot) frags).ts = ts; rw [recFrags_ts, recBot_ts, h1.1],
        seqDelimiter_exact (recFrags_exact _ _ (recBot_exact _ _ h1.2))⟩
theorem rec_norm_items (ts : Syntax) (dict : Tag → Option VR) : ∀ (its : Items), WfItems ts dict its →
    ∀ (e : Enc), e.ts = ts → Enc.Exact e →
      recItems e (normItems ts its) = recItems e its ∧
      ∀ e', recItems e its = .ok e' → e'.ts = ts ∧ Enc.Exact e'
  | .nil, _, _, hts, hex => SameOk.ok (Q := EncOk ts) ⟨hts, hex⟩
  | .cons _ es r, h, e, hts, hex =>
    SameOk.bind (Q := EncOk ts)
      (rec_norm_elems ts dict es h.1 (e.itemHeader undefinedLen) hts (itemHeader_exact hex _)) fun e1 h1 =>
      rec_norm_items ts dict r h.2.2 e1.itemDelimiter h1.1 (itemDelimiter_exact h1.2)
theorem rec_norm_elems (ts : Syntax) (dict : Tag → Option VR) : ∀ (es : Elems), WfElems ts dict es →
    ∀ (e : Enc), e.ts = ts → Enc.Exact e →
      recElems e (normElems ts es) = recElems e es ∧
      ∀ e', recElems e es = .ok e' → e'.ts = ts ∧ Enc.Exact e'
  | .nil, _, _, hts, hex => SameOk.ok (Q := EncOk ts) ⟨hts, hex⟩
  | .cons el r, h, e, hts, hex =>
    SameOk.bind (Q := EncOk ts) (rec_norm_elem ts dict el h.1 e hts hex) fun e1 h1 => rec_norm_elems ts dict r h.2 e1 h1.1 h1.2
end

/-- **the data set writer writes a well-formed tree and its normal form to the same bytes** -/
theorem write_norm (ts : Syntax) (dict : Tag → Option VR) (t : Elems) (h : WfElems ts dict t) :
    writeDataset ts .setUndefined (normElems ts t) = writeDataset ts .setUndefined t := by
  obtain ⟨w1, w2⟩ := wf_elems ts dict t h
  rw [writeDataset_eq_rec ts t w1, writeDataset_eq_rec ts _ w2]
  rw [(rec_norm_elems ts dict t h (Enc.new ts) rfl rfl).1]

end Dicom.Norm
