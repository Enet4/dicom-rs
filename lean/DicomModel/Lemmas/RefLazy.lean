import DicomModel.Lemmas.RefReader6
import DicomModel.Lemmas.LazySteps
/-
C06 (eager reader = `RState` of Model/Reader.lean): on the reference encoding of a canonical tree the LAZY reader (every token materialised) yields the
tree's tokens too — by transferring every step of the eager run through the lock-step simulation
(`LE.step_sim`); no step of such a run is one of the designed differences.
-/
namespace Dicom.Ref
open Dicom.LE

theorem lazy_step_of_stepTo {s s' : RState} {t : Token} (h : StepTo s t s') :
    (toLazy s).nextOwned = (some (.ok (normTok s.dec.ts.bigEndian t)), toLazy s') := by
  obtain ⟨hnext, hcalm, _, _⟩ := h
  have hs := step_sim s hcalm 0
  rw [hnext 0] at hs
  obtain ⟨h1, h2⟩ := hs.inv
  exact Prod.ext h1 h2

theorem lazyTokens_of_run {s s' : RState} {toks : List Token} (h : Run s toks s')
    (hend : ∃ l'', (toLazy s').nextOwned = (none, l'')) :
    ∀ fuel, toks.length < fuel → ∃ toks', lazyTokens fuel (toLazy s) = (toks', none) ∧ ToksRel toks toks' := by
  induction h with
  | nil s =>
    intro fuel hf
    cases fuel with
    | zero => simp at hf
    | succ k =>
      obtain ⟨l'', hl⟩ := hend
      exact ⟨[], by simp [lazyTokens, hl], trivial⟩
  | @cons s s1 s2 t ts st _ ih =>
    intro fuel hf
    cases fuel with
    | zero => simp at hf
    | succ k =>
      have h1 := lazy_step_of_stepTo st
      obtain ⟨toks', h3, h4⟩ := ih hend k (by simp at hf; omega)
      refine ⟨normTok s.dec.ts.bigEndian t :: toks', ?_, ⟨⟨s.dec.ts.bigEndian, rfl⟩, h4⟩⟩
      simp only [lazyTokens, h1, h3]

/-- the end of the data set is the end for the lazy reader as well -/
theorem lazy_at_end (ts : Syntax) (dict : Tag → Option VR) (pos : Nat) (p : Bool) :
    ∃ l'', (toLazy (stE ts dict [] pos p [])).nextOwned = (none, l'') := by
  have hcalm : AnomStep (stE ts dict [] pos p []) = false := by
    have hd : (Dec.mk ts dict [] pos).decodeHeader = .error .eof := by
      unfold Dec.decodeHeader
      have : Dicom.decodeHeader ts dict [] = none := by
        cases ts <;> simp [Dicom.decodeHeader, decodeExplicitWith, decodeTag_short]
      simp [this]
    cases p <;> simp [AnomStep, Anom, RState.updateSeqDelimiters, hd]
  obtain ⟨s'', he⟩ := next_at_end ts dict pos p 0
  have hs := step_sim _ hcalm 0
  rw [he] at hs
  exact ⟨_, Prod.ext hs.inv rfl⟩

/-- the lazy reader on the reference encoding of a canonical tree -/
theorem lazyTokens_ref (ts : Syntax) (dict : Tag → Option VR) (t : Elems)
    (hd : dictOk ts dict = true) (hc : canonElems ts dict t = true) (fuel : Nat) (hf : t.tokens.length < fuel) :
    ∃ toks', lazyTokens fuel (LState.new ts dict (encElems ts t)) = (toks', none) ∧ ToksRel t.tokens toks' := by
  have r := run_elems ts dict hd t hc [] 0 false [] (fun f hf => by simp at hf) trivial
  rw [List.append_nil] at r
  exact lazyTokens_of_run r (lazy_at_end ts dict _ _) fuel hf

open Dicom.LS

theorem lstep_of_stepTo {s s' : RState} {t : Token} (h : StepTo s t s') :
    LStep (toLazy s) (normTok s.dec.ts.bigEndian t) (toLazy s') :=
  have ⟨_, _, hts, hhb⟩ := h
  lstep_of_nextOwned rfl rfl hhb hts (lazy_step_of_stepTo h)

/-- every step of an eager run is an annotated step of the lazy reader (tokens normalised) -/
theorem lrun_of_run {s s' : RState} {toks : List Token} (h : Run s toks s') (ts : Syntax) (hts : s.dec.ts = ts) :
    LRun (toLazy s) (toks.map (normTok ts.bigEndian)) (toLazy s') ∧ s'.dec.ts = ts := by
  induction h with
  | nil s => exact ⟨.nil _, hts⟩
  | @cons s s1 s2 t tl st _ ih =>
    have h1 := lstep_of_stepTo st
    rw [hts] at h1
    obtain ⟨r, e⟩ := ih (st.2.2.1.trans hts)
    exact ⟨.cons h1 r, e⟩

end Dicom.Ref
