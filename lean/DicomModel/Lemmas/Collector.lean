import DicomModel.Model.Collector
import DicomModel.Lemmas.LazyEager
/-
C06: what a result of the lazy reader's `advance` says about its delimiter stack and about `hardBreak`, the
flag that fuses the reader; the collector's portions (namespace `Coll6`): a portion followed by a further
read under a stop rule that stops no earlier is the longer read.
-/

namespace Dicom.LState

/-- what a result of `advance` / `advanceBody` says about the delimiter stack and the fuse: a `LazyItemValue`
is announced only under an open pixel data item, with that item's length; an `ItemStart` leaves the new
item on top of the stack; `None` fuses the reader and peeks nothing -/
def AdvancePost (stack : List RSeqTok) (peeked : Option Token) : Option (Except LErr LTok) × LState → Prop
  | (none, x') => x'.hardBreak = true ∧ x'.peeked = peeked
  | (some (.ok (.lazyItemValue len)), _) => ∃ b rest, stack = ⟨true, len, true, b⟩ :: rest
  | (some (.ok (.tok (.itemStart n))), x') => ∃ px b rest, x'.seqDelimiters = ⟨true, n, px, b⟩ :: rest
  | _ => True

theorem advanceBody_spec (x : LState) : AdvancePost x.seqDelimiters x.peeked x.advanceBody := by
  unfold advanceBody
  dsimp only
  repeat' split
  all_goals first | trivial | exact ⟨rfl, rfl⟩ | exact ⟨_, _, by assumption⟩ | exact ⟨_, _, _, rfl⟩

/-- the delimiter check in front of `advanceBody` yields only `ItemEnd` / `SequenceEnd` or an error, and
touches neither the stack nor the peeked token when it lets `advanceBody` run -/
theorem advance_spec {l : LState} (hp : l.peeked = none) : AdvancePost l.seqDelimiters none l.advance := by
  unfold advance
  split
  · exact ⟨by assumption, hp⟩
  · rw [hp]
    dsimp only
    split
    · rcases LE.lupdate_cases l with ⟨t, l', h, rfl | rfl, _⟩ | h | h <;> simp only [h]
      · trivial
      · trivial
      · trivial
      · exact hp ▸ advanceBody_spec { l with delimiterCheckPending := false }
    · exact hp ▸ advanceBody_spec l

end Dicom.LState

namespace Dicom.Coll6

/-- a second `peek` answers as the first and changes nothing -/
theorem peek_idem {s s' : LState} {o : Option Token} (h : s.peek = (.ok o, s')) : s'.peek = (.ok o, s') := by
  unfold LState.peek at h
  split at h
  · rename_i t0 hp
    cases h
    simp only [LState.peek, hp]
  · rename_i hp
    split at h
    · -- the source is exhausted: the reader is fused and `advance` answers `None` again
      rename_i s1 ha
      cases h
      have hs := LState.advance_spec hp
      rw [ha] at hs
      simp [LState.peek, hs.2, LState.advance, hs.1]
    · cases h
    · cases h
      simp [LState.peek]
    · cases h

/-- peeking first does not change a read -/
theorem collect_after_peek {c : Coll} {o : Option Token} {rd1 : LState} (hp : c.rd.peek = (.ok o, rd1)) (k : Nat)
    (inItem : Bool) (ru rt : Option Tag) (acc : List Elem) :
    collectElements (k + 1) inItem ru rt { c with rd := rd1 } acc = collectElements (k + 1) inItem ru rt c acc := by
  rw [collectElements, collectElements]
  simp only [hp, peek_idem hp]

def StopsLater (ru1 rt1 ru2 rt2 : Option Tag) : Prop :=
  ∀ tag, stopAt ru2 rt2 tag = true → stopAt ru1 rt1 tag = true

/-- **whole ⇒ portions**: if a top-level read under the later rule succeeds, then the read under the
earlier rule succeeds (same fuel) and a further read under the later rule, continuing where the first
stopped and appending to its elements, ends with exactly the elements and the state of the whole read -/
theorem split_whole (ru1 rt1 ru2 rt2 : Option Tag) (hl : StopsLater ru1 rt1 ru2 rt2) :
    ∀ (fuel : Nat) (c : Coll) (acc es : List Elem) (c2 : Coll),
    collectElements fuel false ru2 rt2 c acc = .ok (es, c2) →
    ∃ es1 c1 f2, collectElements fuel false ru1 rt1 c acc = .ok (es1, c1) ∧
      collectElements f2 false ru2 rt2 c1 es1 = .ok (es, c2) := by
  intro fuel
  induction fuel with
  | zero => intro c acc es c2 h; simp [collectElements] at h
  | succ k ih =>
    intro c acc es c2 hwhole
    have h := hwhole
    rw [collectElements] at h ⊢
    rcases hp : c.rd.peek with ⟨r, rd1⟩
    rw [hp] at h
    cases r with
    | error e => simp at h
    | ok o =>
      -- wherever the portion stops it leaves the peeked state, and from there the whole read goes as from `c`
      have hagain : collectElements (k + 1) false ru2 rt2 { c with rd := rd1 } acc = .ok (es, c2) := by
        rw [collect_after_peek hp]
        exact hwhole
      cases o with
      | none => exact ⟨acc, _, _, rfl, hagain⟩
      | some tok =>
        simp only at h ⊢
        by_cases hie : tok = .itemEnd
        · simp [hie] at h
        · simp only [hie, if_false] at h ⊢
          cases htag : tokTag tok with
          | none => simp [htag] at h
          | some tag =>
            simp only [htag] at h ⊢
            by_cases hs1 : stopAt ru1 rt1 tag = true
            · simp only [hs1, if_true]
              exact ⟨acc, _, _, rfl, hagain⟩
            · have hs2 : ¬ stopAt ru2 rt2 tag = true := fun hs2 => hs1 (hl tag hs2)
              simp only [hs1, hs2, Bool.false_eq_true, if_false] at h ⊢
              cases hone : collectOne k tok { c with rd := rd1 } with
              | error e => simp [hone] at h
              | ok p =>
                obtain ⟨e, c'⟩ := p
                simp only [hone] at h ⊢
                exact ih c' (acc ++ [e]) es c2 h

end Dicom.Coll6
