import DicomModel.Model.Rle
import DicomModel.Lemmas.Bytes
/-
Lemmas for C20: scatter writes, header and segment slicing, the PackBits equations, byte planes
against the interleaved output, the run chooser.
-/
namespace Dicom.Rle

theorem map_range_eq_map {α β : Type} (l : List α) (f : Nat → β) (g : α → β)
    (h : ∀ i (hi : i < l.length), f i = g l[i]) : (List.range l.length).map f = l.map g := by
  apply List.ext_getElem (by rw [List.length_map, List.length_map, List.length_range])
  intro i h1 _
  rw [List.length_map, List.length_range] at h1
  rw [List.getElem_map, List.getElem_map, List.getElem_range, h i h1]

theorem idx_lt {n step q c : Nat} (hq : q < n) (hc : c < step) : q * step + c < n * step := by
  have : (q + 1) * step ≤ n * step := Nat.mul_le_mul_right _ hq
  rw [Nat.succ_mul] at this
  omega

theorem idx_inj {step q c k s : Nat} (hc : c < step) (hs : s < step) :
    q * step + c = k * step + s ↔ q = k ∧ c = s := by
  constructor
  · intro h
    have h1 := congrArg (· / step) h
    have h2 := congrArg (· % step) h
    have hpos : 0 < step := by omega
    simp only [Nat.mul_comm _ step, Nat.mul_add_div hpos, Nat.mul_add_mod, Nat.div_eq_of_lt hc,
      Nat.div_eq_of_lt hs, Nat.mod_eq_of_lt hc, Nat.mod_eq_of_lt hs, Nat.add_zero] at h1 h2
    exact ⟨h1, h2⟩
  · rintro ⟨rfl, rfl⟩; rfl

/-- writing inside a window of a larger buffer = writing into the window, which keeps its length -/
theorem scatter_local {step e : Nat} (pre post : Bytes) : ∀ (src : Bytes) (pos : Nat) (mid : Bytes),
    e ≤ mid.length →
    scatter step (pre.length + e) (pre.length + pos) src (pre ++ mid ++ post)
      = (scatter step e pos src mid).map (fun m => pre ++ m ++ post) ∧
    ∀ m, scatter step e pos src mid = .ok m → m.length = mid.length := by
  intro src
  induction src with
  | nil =>
    intro pos mid _
    simp only [scatter, Nat.add_le_add_iff_left]
    split
    · exact ⟨rfl, fun m h => by cases h; rfl⟩
    · exact ⟨rfl, nofun⟩
  | cons x xs ih =>
    intro pos mid he
    simp only [scatter, Nat.add_le_add_iff_left]
    split
    · exact ⟨rfl, fun m h => by cases h; rfl⟩
    · have hp : pos < mid.length := by omega
      have hset : (pre ++ mid ++ post).set (pre.length + pos) x = pre ++ mid.set pos x ++ post := by
        rw [List.append_assoc, List.set_append_right _ _ (Nat.le_add_right _ _),
          Nat.add_sub_cancel_left, List.set_append_left _ _ hp, List.append_assoc]
      obtain ⟨h1, h2⟩ := ih (pos + step) (mid.set pos x) (by rw [List.length_set]; exact he)
      rw [if_pos hp, if_pos (by rw [List.length_append, List.length_append]; omega), hset,
        Nat.add_assoc]
      exact ⟨h1, fun m h => by rw [h2 m h, List.length_set]⟩

/-- `src` written down column `s`, from row `k` on, of a buffer of `n` rows of `step` bytes -/
theorem scatter_spec {step n s : Nat} (hs : s < step) : ∀ (src : Bytes) (k : Nat) (dst : Bytes),
    k + src.length = n → dst.length = n * step →
    ∃ dst', scatter step (n * step) (k * step + s) src dst = .ok dst' ∧ dst'.length = n * step ∧
      ∀ q c, c < step → dst'[q * step + c]? = if c = s ∧ k ≤ q then src[q - k]? else dst[q * step + c]? := by
  intro src
  induction src with
  | nil =>
    intro k dst hk hd
    rw [List.length_nil, Nat.add_zero] at hk
    subst hk
    refine ⟨dst, by simp [scatter], hd, fun q c hc => ?_⟩
    split
    · rename_i h
      have : k * step ≤ q * step := Nat.mul_le_mul_right _ h.2
      rw [List.getElem?_eq_none (by omega)]
      rfl
    · rfl
  | cons x xs ih =>
    intro k dst hk hd
    rw [List.length_cons] at hk
    have hlt : k * step + s < n * step := idx_lt (by omega) hs
    obtain ⟨dst', h1, h2, h3⟩ :=
      ih (k + 1) (dst.set (k * step + s) x) (by omega) (by rw [List.length_set]; exact hd)
    refine ⟨dst', ?_, h2, fun q c hc => ?_⟩
    · rw [scatter, if_neg (Nat.not_le.mpr hlt), if_pos (hd ▸ hlt), ← h1, Nat.succ_mul,
        Nat.add_right_comm]
    · -- row `k` was written in this step, the rows below by the recursive call
      rw [h3 q c hc, List.getElem?_set]
      simp only [idx_inj hs hc]
      by_cases h1 : c = s ∧ k + 1 ≤ q
      · rw [if_pos h1, if_pos ⟨h1.1, Nat.le_of_succ_le h1.2⟩,
          show q - k = (q - (k + 1)) + 1 by omega, List.getElem?_cons_succ]
      · rw [if_neg h1]
        by_cases h2 : k = q ∧ s = c
        · obtain ⟨rfl, rfl⟩ := h2
          rw [if_pos ⟨rfl, rfl⟩, if_pos (hd ▸ hlt), if_pos ⟨rfl, Nat.le_refl _⟩, Nat.sub_self]
          rfl
        · rw [if_neg h2, if_neg (by omega)]

theorem rdLe32s_flatMap : ∀ (offs : List Nat) (rest : Bytes), (∀ o ∈ offs, o < 4294967296) →
    rdLe32s offs.length (offs.flatMap le32 ++ rest) = some offs := by
  intro offs
  induction offs with
  | nil => intro rest _; rfl
  | cons o os ih =>
    intro rest h
    simp only [List.flatMap_cons, List.length_cons, rdLe32s, List.append_assoc]
    rw [rdLe32_le32 o (h o List.mem_cons_self)]
    simp only []  -- reduces the `match` on the `some` just rewritten in
    rw [ih rest (fun x hx => h x (List.mem_cons_of_mem _ hx))]

/-- all offsets including the end-of-fragment sentinel -/
def offsAll (off : Nat) (segs : List Bytes) : List Nat :=
  segOffsets off segs ++ [off + segs.flatten.length]

theorem offsAll_cons (off : Nat) (s : Bytes) (rest : List Bytes) :
    offsAll off (s :: rest) = off :: offsAll (off + s.length) rest := by
  simp [offsAll, segOffsets, Nat.add_assoc]

theorem segOffsets_length : ∀ (off : Nat) (segs : List Bytes), (segOffsets off segs).length = segs.length := by
  intro off segs
  induction segs generalizing off with
  | nil => rfl
  | cons s r ih => simp [segOffsets, ih]

theorem segOffsets_le : ∀ (segs : List Bytes) (off : Nat), ∀ o ∈ segOffsets off segs, o ≤ off + segs.flatten.length := by
  intro segs
  induction segs with
  | nil => intro off o h; cases h
  | cons s r ih =>
    intro off o h
    rw [List.flatten_cons, List.length_append]
    rcases List.mem_cons.mp h with h | h
    · omega
    · have := ih _ o h
      omega

theorem slice_seg : ∀ (segs : List Bytes) (pre : Bytes) (ii : Nat) (h : ii < segs.length),
    ∃ a b, (offsAll pre.length segs)[ii]? = some a ∧ (offsAll pre.length segs)[ii + 1]? = some b ∧
      a ≤ b ∧ b ≤ (pre ++ segs.flatten).length ∧
      ((pre ++ segs.flatten).drop a).take (b - a) = segs[ii] := by
  intro segs
  induction segs with
  | nil => intro pre ii h; cases h
  | cons s r ih =>
    intro pre ii h
    rw [offsAll_cons, List.flatten_cons]
    cases ii with
    | zero =>
      refine ⟨pre.length, pre.length + s.length, rfl, by cases r <;> rfl, Nat.le_add_right _ _, ?_, ?_⟩
      · rw [← List.append_assoc, List.length_append, List.length_append]
        exact Nat.le_add_right _ _
      · rw [List.drop_left, Nat.add_sub_cancel_left, List.take_left]
        rfl
    | succ i =>
      obtain ⟨a, b, h1, h2, h3, h4, h5⟩ := ih (pre ++ s) i (Nat.lt_of_succ_lt_succ h)
      rw [List.length_append] at h1 h2
      rw [List.append_assoc] at h4 h5
      exact ⟨a, b, h1, h2, h3, h4, h5⟩

theorem unpack_nil : unpack [] = some [] := by rw [unpack.eq_def]

theorem unpack_lit {h : Nat} (hh : h < 128) (rest : Bytes) :
    unpack (h :: rest) = (unpack (rest.drop (h + 1))).map (rest.take (h + 1) ++ ·) := by
  rw [unpack.eq_def]
  simp only [if_pos hh]
  cases unpack (rest.drop (h + 1)) <;> rfl

theorem unpack_noop (rest : Bytes) : unpack (128 :: rest) = unpack rest := by
  rw [unpack.eq_def]
  rfl

theorem unpack_rep {h : Nat} (hh : 128 < h) (d : Nat) (rest : Bytes) :
    unpack (h :: d :: rest) = (unpack rest).map (List.replicate (257 - h) d ++ ·) := by
  rw [unpack.eq_def]
  simp only [if_neg (show ¬ h < 128 by omega), if_neg (show ¬ h = 128 by omega)]
  cases unpack rest <;> rfl

/-- a replicate header without its data byte: the `UnexpectedEof` -/
theorem unpack_rep_eof {h : Nat} (hh : 128 < h) : unpack [h] = none := by
  rw [unpack.eq_def]
  simp only [if_neg (show ¬ h < 128 by omega), if_neg (show ¬ h = 128 by omega)]

theorem leBytes_length (bps v : Nat) : (leBytes bps v).length = bps := by simp [leBytes]

theorem leInterleaved_length (bps : Nat) (frame : List Nat) :
    (leInterleaved bps frame).length = frame.length * bps := by
  induction frame with
  | nil => simp [leInterleaved]
  | cons v r ih =>
    simp only [leInterleaved, List.flatMap_cons, List.length_append, leBytes_length, List.length_cons] at ih ⊢
    rw [ih, Nat.succ_mul, Nat.add_comm]

theorem leInterleaved_getElem? (bps : Nat) : ∀ (frame : List Nat) (i b : Nat), b < bps →
    (leInterleaved bps frame)[i * bps + b]? = frame[i]?.map (fun v => byteOf v b) := by
  intro frame
  induction frame with
  | nil => intro i b _; rfl
  | cons v r ih =>
    intro i b hb
    simp only [leInterleaved, List.flatMap_cons] at ih ⊢
    cases i with
    | zero =>
      rw [Nat.zero_mul, Nat.zero_add, List.getElem?_append_left (by rw [leBytes_length]; exact hb)]
      simp [leBytes, hb]
    | succ i =>
      rw [List.getElem?_append_right (by rw [leBytes_length, Nat.succ_mul]; omega), leBytes_length,
        show (i + 1) * bps + b - bps = i * bps + b by rw [Nat.succ_mul]; omega, ih i b hb]
      rfl

theorem plane_length (spp bps : Nat) (frame : List Nat) (ii : Nat) :
    (plane spp bps frame ii).length = frame.length / spp := by simp [plane]

/-- output column (byte position inside one pixel) written by segment `(sample, byte_offset)` -/
def col (bps sn bo : Nat) : Nat := sn * bps + (bps - 1 - bo)

theorem col_lt {bps spp sn bo : Nat} (hsn : sn < spp) (hbo : bo < bps) :
    col bps sn bo < bps * spp := by
  rw [Nat.mul_comm bps spp]
  exact idx_lt hsn (by omega)

theorem col_surj {bps : Nat} (c : Nat) (hbps : 0 < bps) : col bps (c / bps) (bps - 1 - c % bps) = c := by
  have := Nat.mod_lt c hbps
  rw [col, show bps - 1 - (bps - 1 - c % bps) = c % bps by omega, Nat.mul_comm]
  exact Nat.div_add_mod c bps

/-- Annex G.2 against the decoder's output format: a byte plane is a column of the interleaved
output, for every row (past the last row both sides are `none`). -/
theorem plane_eq_leInterleaved {spp bps n sn bo : Nat} {frame : List Nat}
    (hlen : frame.length = n * spp) (hsn : sn < spp) (hbo : bo < bps) (q : Nat) :
    (plane spp bps frame (sn * bps + bo))[q]?
      = (leInterleaved bps frame)[q * (bps * spp) + col bps sn bo]? := by
  have hbps : 0 < bps := by omega
  rw [show q * (bps * spp) + col bps sn bo = (q * spp + sn) * bps + (bps - 1 - bo) by
      rw [col, Nat.add_mul, Nat.mul_assoc, Nat.mul_comm spp bps, Nat.add_assoc],
    leInterleaved_getElem? bps frame _ _ (by omega), plane, List.getElem?_map, hlen,
    Nat.mul_div_cancel _ (by omega : 0 < spp), Nat.mul_comm sn bps, Nat.mul_add_div hbps,
    Nat.div_eq_of_lt hbo, Nat.add_zero, Nat.mul_add_mod, Nat.mod_eq_of_lt hbo]
  by_cases hq : q < n
  · have hi : q * spp + sn < frame.length := hlen ▸ idx_lt hq hsn
    rw [List.getElem?_range hq, List.getElem?_eq_getElem hi, Option.map_some, Option.map_some,
      List.getD_eq_getElem?_getD, List.getElem?_eq_getElem hi]
    rfl
  · have hi : frame.length ≤ q * spp + sn :=
      hlen ▸ Nat.le_trans (Nat.mul_le_mul_right _ (Nat.le_of_not_lt hq)) (Nat.le_add_right _ _)
    rw [List.getElem?_eq_none (by rw [List.length_range]; omega), List.getElem?_eq_none hi]
    rfl

/-! ### the run chooser of the reference encoder produces valid runs for its plane -/

theorem expand_cons (r : Run) (rs : List Run) : expand (r :: rs) = r.expand ++ expand rs := by
  simp [expand]

theorem runs_cons {r : Run} {rs : List Run} {pl rest : Bytes} (hr : r.Valid) (hpl : r.expand ++ rest = pl)
    (ih : (∀ x ∈ rs, x.Valid) ∧ expand rs = rest) :
    (∀ x ∈ r :: rs, x.Valid) ∧ expand (r :: rs) = pl := by
  refine ⟨fun x hx => ?_, by rw [expand_cons, ih.2, hpl]⟩
  rcases List.mem_cons.mp hx with rfl | hx
  · exact hr
  · exact ih.1 x hx

theorem litChunks_spec (bs : Bytes) : (∀ r ∈ litChunks bs, r.Valid) ∧ expand (litChunks bs) = bs := by
  fun_induction litChunks bs with
  | case1 => exact ⟨fun r hr => (nomatch hr), rfl⟩
  | case2 b rest ih =>
    refine runs_cons ?_ (List.take_append_drop 128 (b :: rest)) ih
    simp only [Run.Valid, List.length_take, List.length_cons]
    omega

theorem take_sameRun (b : Nat) : ∀ (l : Bytes) (n : Nat), n ≤ sameRun b l →
    l.take n = List.replicate n b := by
  intro l
  induction l with
  | nil => intro n h; rw [Nat.le_zero.mp h]; rfl
  | cons x xs ih =>
    intro n h
    cases n with
    | zero => rfl
    | succ n =>
      simp only [sameRun] at h
      split at h
      · rename_i hx
        rw [List.take_succ_cons, List.replicate_succ, hx, ih n (by omega)]
      · omega

theorem chooseRuns_spec (cs : List Nat) (pl : Bytes) :
    (∀ r ∈ chooseRuns cs pl, r.Valid) ∧ expand (chooseRuns cs pl) = pl := by
  fun_induction chooseRuns cs pl with
  | case1 pl => exact litChunks_spec pl
  | case2 c pl => exact litChunks_spec pl
  | case3 c0 c1 cs pl h ih => exact runs_cons trivial rfl ih
  | case4 c0 c1 cs h => exact ⟨fun r hr => (nomatch hr), rfl⟩
  | case5 c0 c1 cs h b rest hk n ih =>
    refine runs_cons ?_ (List.take_append_drop n (b :: rest)) ih
    simp only [Run.Valid, List.length_take, List.length_cons]
    omega
  | case6 c0 c1 cs h b rest hk n hn ih =>
    refine runs_cons ⟨hn, by omega⟩ ?_ ih
    have hrun : n ≤ sameRun b (b :: rest) := by
      simp only [sameRun, if_true]
      omega
    rw [Run.expand, ← take_sameRun b (b :: rest) n hrun]
    exact List.take_append_drop n (b :: rest)
  | case7 c0 c1 cs h b rest hk n hn ih => exact runs_cons (by simp [Run.Valid]) rfl ih

end Dicom.Rle
