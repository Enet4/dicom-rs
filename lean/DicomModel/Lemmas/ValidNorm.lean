import DicomModel.Lemmas.ValidAccept
import DicomModel.Lemmas.NormKeepCanon
/-
The checker's side conditions hold for the normal forms of a well-formed data set, with the sequence
oracle given by the dictionary (`dictSeq`), provided the padded values satisfy the visible padding rule.
-/
namespace Dicom.ValidRef
open Dicom.Ref Dicom.Valid Dicom.Norm Dicom.C04

/-- Implicit VR: the checker's sequence oracle = "the dictionary says SQ" -/
def dictSeq (dict : Tag → Option VR) : Nat → Nat → Bool := fun g e => implicitVr dict ⟨g, e⟩ == .SQ

mutual
/-- the content of text values does not end in the *other* class's padding byte: after padding, a text value
does not end in NUL and a UI value does not end in a space (automatically true when a pad byte was added) -/
def PadVisible (ts : Syntax) : Elem → Prop
  | .prim _ vr _ v =>
    trailOk (if ts.explicit then some vr else none) (paddedValue ts.bigEndian vr v) = true
  | .seq _ _ items => PadVisibleItems ts items
  | .pix _ _ => True
def PadVisibleItems (ts : Syntax) : Items → Prop
  | .nil => True
  | .cons _ es r => PadVisibleElems ts es ∧ PadVisibleItems ts r
def PadVisibleElems (ts : Syntax) : Elems → Prop
  | .nil => True
  | .cons e r => PadVisible ts e ∧ PadVisibleElems ts r
end

theorem dictSeq_pixel (dict : Tag → Option VR) : dictSeq dict 0x7FE0 0x0010 = false := by
  simp [dictSeq, implicitVr, Tag.pixelData]

mutual
theorem side_norm_elem (ts : Syntax) (dict : Tag → Option VR) : ∀ e, WfElem ts dict e → PadVisible ts e →
    Side ts (dictSeq dict) (normElem ts e)
  | .prim tag vr len v, h, hp => by
    obtain ⟨_, _, hv, _, himp⟩ := h
    refine ⟨?_, ?_⟩
    · show trailOk _ (value ts.bigEndian (normValue ts.bigEndian vr v)) = true
      rw [refValue_norm ts.bigEndian vr v hv]; exact hp
    · intro hx
      rcases himp with h1 | h1
      · rw [hx] at h1; cases h1
      · simp [dictSeq, h1, hv.1]
  | .seq tag len items, h, hp => ⟨fun _ hne => absurd rfl hne, side_norm_items ts dict items h.2.2 hp⟩
  | .pix bot frags, _, _ => fun _ => dictSeq_pixel dict
theorem side_norm_items (ts : Syntax) (dict : Tag → Option VR) : ∀ its, WfItems ts dict its → PadVisibleItems ts its →
    SideItems ts (dictSeq dict) (normItems ts its)
  | .nil, _, _ => trivial
  | .cons _ es r, h, hp => ⟨side_norm_elems ts dict es h.1 hp.1, side_norm_items ts dict r h.2.2 hp.2⟩
theorem side_norm_elems (ts : Syntax) (dict : Tag → Option VR) : ∀ es, WfElems ts dict es → PadVisibleElems ts es →
    SideElems ts (dictSeq dict) (normElems ts es)
  | .nil, _, _ => trivial
  | .cons e r, h, hp => ⟨side_norm_elem ts dict e h.1 hp.1, side_norm_elems ts dict r h.2 hp.2⟩
end

mutual
theorem side_keep_elem (ts : Syntax) (dict : Tag → Option VR) : ∀ e, WfElem ts dict e → LenOkElem ts dict e →
    PadVisible ts e → Side ts (dictSeq dict) (keepElem ts e)
  | .prim tag vr len v, h, _, hp => side_norm_elem ts dict (.prim tag vr len v) h hp
  | .pix bot frags, _, _, _ => fun _ => dictSeq_pixel dict
  | .seq tag len items, h, hl, hp => by
    refine ⟨?_, side_keep_items ts dict items h.2.2 hl.2 hp⟩
    intro hx hne
    rcases hl.1 with h1 | ⟨_, _, h3⟩
    · exact absurd h1 hne
    · rcases h3 with h3 | h3
      · rw [hx] at h3; cases h3
      · simp [dictSeq, h3]
theorem side_keep_items (ts : Syntax) (dict : Tag → Option VR) : ∀ its, WfItems ts dict its → LenOkItems ts dict its →
    PadVisibleItems ts its → SideItems ts (dictSeq dict) (keepItems ts its)
  | .nil, _, _, _ => trivial
  | .cons _ es r, h, hl, hp =>
    ⟨side_keep_elems ts dict es h.1 hl.2.1 hp.1, side_keep_items ts dict r h.2.2 hl.2.2 hp.2⟩
theorem side_keep_elems (ts : Syntax) (dict : Tag → Option VR) : ∀ es, WfElems ts dict es → LenOkElems ts dict es →
    PadVisibleElems ts es → SideElems ts (dictSeq dict) (keepElems ts es)
  | .nil, _, _, _ => trivial
  | .cons e r, h, hl, hp => ⟨side_keep_elem ts dict e h.1 hl.1 hp.1, side_keep_elems ts dict r h.2 hl.2 hp.2⟩
end

end Dicom.ValidRef
