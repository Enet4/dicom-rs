import DicomModel.Model.RefEncode
import DicomModel.Lemmas.Header
/-
C02, writer side: on canonical trees the data set writer model (`Writer.writeAll` over the token stream
of the tree, through the stateful encoder `Enc`) produces exactly the bytes of the reference encoder
`Ref.encElems` — with the no-change strategy always, with the default (set-undefined) strategy when
every sequence / item length is undefined.
-/
namespace Dicom.Ref

/-! ### the two VR tables and header layouts agree -/

theorem toBytes_eq (v : VR) : v.toBytes = vrCode v := by cases v <;> rfl

-- the four generated lists are the same literal list: the other three follow by unfolding
theorem encLe_contains (v : VR) : Gen.encLeShort.contains v = short16 v := by cases v <;> rfl
theorem encBe_contains (v : VR) : Gen.encBeShort.contains v = short16 v := encLe_contains v
theorem decLe_contains (v : VR) : Gen.decLeShort.contains v = short16 v := encLe_contains v
theorem decBe_contains (v : VR) : Gen.decBeShort.contains v = short16 v := encLe_contains v

theorem tagBytes_eq (be : Bool) (t : Tag) : tagBytes be t = encodeTag be t := rfl

theorem itemHdr_eq (be : Bool) (n : Nat) : itemHdr be n = encodeItemHeader be n := rfl
theorem itemDelim_eq (be : Bool) : itemDelim be = encodeItemDelimiter be := by
  rw [encodeItemDelimiter_eq]; rfl
theorem seqDelim_eq (be : Bool) : seqDelim be = encodeSeqDelimiter be := by
  rw [encodeSeqDelimiter_eq]; rfl

theorem encodeExplicitWith_ref (short : List VR) (be : Bool) (t : Tag) (vr : VR) (len : Nat)
    (hc : short.contains vr = short16 vr) (hs : short16 vr = true → len < 65536) :
    encodeExplicitWith short be ⟨t, vr, len⟩ =
      .ok (tagBytes be t ++ [(vrCode vr).1, (vrCode vr).2] ++
        (if short16 vr then enc16 be len else [0, 0] ++ enc32 be len),
      (tagBytes be t ++ [(vrCode vr).1, (vrCode vr).2] ++
        (if short16 vr then enc16 be len else [0, 0] ++ enc32 be len)).length) := by
  simp only [encodeExplicitWith, hc, toBytes_eq, tagBytes_eq]
  cases hv : short16 vr
  · simp
  · have h2 : ¬ len > 65535 := by have := hs hv; omega
    simp [h2]

/-- the header encoders of dicom-rs produce the PS3.5 layout -/
theorem encodeHeader_ref (ts : Syntax) (t : Tag) (vr : VR) (len : Nat)
    (hs : ts.explicit = true → short16 vr = true → len < 65536) :
    encodeHeader ts ⟨t, vr, len⟩ = .ok (header ts t vr len, (header ts t vr len).length) := by
  cases ts
  · simp [encodeHeader, header, tagBytes_eq, enc32]
  · exact encodeExplicitWith_ref _ false t vr len (encLe_contains vr) (hs rfl)
  · exact encodeExplicitWith_ref _ true t vr len (encBe_contains vr) (hs rfl)

theorem evenLen_id {l : Nat} (h : l % 2 = 0) (h2 : l < 4294967295) : evenLen l = l := by
  unfold evenLen clearBit0; omega

/-- a length field as the canonical form allows it: undefined, or even and below 2^32-1 -/
def LenOk (len : Nat) : Prop := len = undefinedLen ∨ (len % 2 = 0 ∧ len < 4294967295)

theorem len_ne_undef {len : Nat} (h : len < 4294967295) : len ≠ undefinedLen := by
  simp only [undefinedLen]; omega

theorem enc_elementHeader (e : Enc) (t : Tag) (vr : VR) (len : Nat) (hl : LenOk len)
    (hs : e.ts.explicit = true → short16 vr = true → len < 65536) :
    e.elementHeader ⟨t, vr, len⟩ =
      .ok (e.push (header e.ts t vr len) (header e.ts t vr len).length) := by
  unfold Enc.elementHeader
  have : (if (ElemHeader.mk t vr len).len = undefinedLen then (ElemHeader.mk t vr len)
      else { (ElemHeader.mk t vr len) with len := evenLen (ElemHeader.mk t vr len).len }) = ⟨t, vr, len⟩ := by
    rcases hl with h | ⟨h1, h2⟩
    · simp [h]
    · simp [evenLen_id h1 h2]
  simp only [this, encodeHeader_ref e.ts t vr len hs]

theorem enc_itemHeader (e : Enc) (len : Nat) (hl : LenOk len) :
    e.itemHeader len = e.push (itemHdr e.ts.bigEndian len) 8 := by
  unfold Enc.itemHeader
  rcases hl with h | ⟨h1, h2⟩
  · simp [h, undefinedLen, itemHdr_eq]
  · have : len ≠ 0xFFFFFFFF := by omega
    simp [this, evenLen_id h1 h2, itemHdr_eq]

/-! ### values -/

theorem join5C_eq : ∀ l : List Bytes, join5C l = joinBackslash l
  | [] => rfl
  | [_] => rfl
  | x :: y :: r => by simp [join5C, joinBackslash, join5C_eq (y :: r)]

theorem flatMap_congr' {α : Type} (f g : α → Bytes) : ∀ (l : List α), (∀ a ∈ l, f a = g a) →
    l.flatMap f = l.flatMap g
  | [], _ => rfl
  | a :: r, h => by
    simp only [List.flatMap_cons]
    rw [h a (by simp), flatMap_congr' f g r (fun b hb => h b (by simp [hb]))]

theorem twos_eq_unsigned {bits M : Nat} (hM : 2 ^ bits = M) {v : Int} (h1 : -(M : Int) ≤ 2 * v)
    (h2 : 2 * v < M) : twos bits v = unsigned M v := by
  unfold twos unsigned
  rw [hM]
  split
  · have : v % (M : Int) = v + M := by
      rw [← Int.add_emod_right]; exact Int.emod_eq_of_lt (by omega) (by omega)
    omega
  · have : v % (M : Int) = v := Int.emod_eq_of_lt (by omega) (by omega)
    omega

theorem textEncode_plain (s : Bytes) (h : plainText s = true) : textEncode s = some s := by
  unfold textEncode; unfold plainText at h; simp [h]

theorem plain_of_component (s : Bytes) (h : component s = true) : plainText s = true := by
  unfold component at h; unfold plainText
  rw [List.all_eq_true] at h ⊢
  intro c hc; have := h c hc; simp at this ⊢; exact this.1

theorem textEncodeAll_id : ∀ l : List Bytes, l.all component = true → textEncodeAll l = some l
  | [], _ => rfl
  | s :: r, h => by
    simp only [List.all_cons, Bool.and_eq_true] at h
    simp [textEncodeAll, textEncode_plain s (plain_of_component s h.1), textEncodeAll_id r h.2]

/-! ### what `valueFits` says, by value variant -/

/-- `fun_cases` visits the 33 fitting pairs, on which `valueFits` evaluates to the range test; elsewhere it is `false` -/
theorem valueFits_inv {vr : VR} {v : PValue} : valueFits vr v = true →
    match v with
    | .tags l => vr = .AT ∧ l.all fun t => t.group < 65536 && t.elem < 65536
    | .strs l => vr ∈ [VR.AE, .AS, .PN, .SH, .LO, .UC, .UI, .IS, .DS, .DA, .TM, .DT, .CS] ∧ l.all component
    | .str s => vr ∈ [VR.UT, .ST, .UR, .LT] ∧ plainText s
    | .u8 l => (vr = .UN ∨ vr = .OB) ∧ l.all (· < 256)
    | .u16 l => (vr = .US ∨ vr = .OW) ∧ l.all (· < 65536)
    | .i16 l => vr = .SS ∧ l.all fun n => -32768 ≤ n && n < 32768
    | .u32 l => (vr = .OL ∨ vr = .UL) ∧ l.all (· < 4294967296)
    | .i32 l => vr = .SL ∧ l.all fun n => -2147483648 ≤ n && n < 2147483648
    | .u64 l => (vr = .OV ∨ vr = .UV) ∧ l.all (· < 18446744073709551616)
    | .i64 l => vr = .SV ∧ l.all fun n => -9223372036854775808 ≤ n && n < 9223372036854775808
    | .f32 l => (vr = .FL ∨ vr = .OF) ∧ l.all fun p => p.1 < 4294967296 && p.2.isEmpty
    | .f64 l => (vr = .FD ∨ vr = .OD) ∧ l.all fun p => p.1 < 18446744073709551616 && p.2.isEmpty
    | .empty | .date _ | .dateTime _ | .time _ => False := by
  fun_cases valueFits vr v
  case case34 => exact fun h => absurd h Bool.false_ne_true
  all_goals exact fun h => ⟨by decide, h⟩

theorem not_text_vr {vr : VR} {v : PValue} (h : valueFits vr v = true) (hl : ∀ l, v ≠ .strs l) :
    ¬ (vr = .DS ∨ vr = .IS) := by
  intro hvr
  rcases hvr with rfl | rfl <;> cases v <;> first | exact absurd rfl (hl _) | exact absurd h Bool.false_ne_true

theorem signed_range {m : Int} {l : List Int} (h : (l.all fun n => -m ≤ n && n < m) = true) :
    ∀ n ∈ l, -(2 * m) ≤ 2 * n ∧ 2 * n < 2 * m := fun n hn => by
  have := List.all_eq_true.mp h n hn
  simp only [Bool.and_eq_true, decide_eq_true_eq] at this
  omega

theorem flatMap_twos {bits M : Nat} (hM : 2 ^ bits = M) (enc : Nat → Bytes) (l : List Int)
    (hr : ∀ n ∈ l, -(M : Int) ≤ 2 * n ∧ 2 * n < M) :
    (l.flatMap fun v => enc (twos bits v)) = l.flatMap fun v => enc (unsigned M v) :=
  flatMap_congr' _ _ l fun a ha => by rw [twos_eq_unsigned hM (hr a ha).1 (hr a ha).2]

/-- on each binary variant `calculate_byte_len` and `encode_primitive` reduce by `rfl` to `n` and `(bs', n)` -/
theorem binary_ok {bs' bs : Bytes} {n : Nat} (hb : bs' = bs) (hl : bs.length = n) :
    n = bs.length ∧ (bs', n) = (bs, bs.length) := by
  subst hb hl; exact ⟨rfl, rfl⟩

theorem encodePrimitive_ref (be : Bool) {vr : VR} {v : PValue} (h : valueFits vr v = true)
    (hs : ∀ s, v ≠ .str s) (hl : ∀ l, v ≠ .strs l) :
    v.calculateByteLen = (value be v).length ∧ encodePrimitive be v = (value be v, (value be v).length) := by
  have hf := valueFits_inv h
  cases v with
  | empty | date l | dateTime l | time l => exact hf.elim
  | str s => exact absurd rfl (hs s)
  | strs l => exact absurd rfl (hl l)
  | u8 l => exact ⟨rfl, rfl⟩
  | tags l | u16 l | u32 l | u64 l | f32 l | f64 l => exact binary_ok rfl (flatMap_length_const _ _ (by simp [tagBytes]) l)
  | i16 l =>
    exact binary_ok (flatMap_twos (M := 65536) (by decide) (enc16 be) l (signed_range hf.2))
      (flatMap_length_const _ _ (by simp) l)
  | i32 l =>
    exact binary_ok (flatMap_twos (M := 4294967296) (by decide) (enc32 be) l (signed_range hf.2))
      (flatMap_length_const _ _ (by simp) l)
  | i64 l =>
    exact binary_ok (flatMap_twos (M := 18446744073709551616) (by decide) (enc64 be) l (signed_range hf.2))
      (flatMap_length_const _ _ (by simp) l)

/-! ### canonical primitive element, unpacked -/

structure PrimOk (ts : Syntax) (dict : Tag → Option VR) (t : Tag) (vr : VR) (len : Nat) (v : PValue) : Prop where
  tag : tagOk t = true
  notSq : vr ≠ .SQ
  len_eq : len = (value ts.bigEndian v).length
  len_lt : len < 4294967295
  even : len % 2 = 0
  short : ts.explicit = true → short16 vr = true → len < 65536
  dictVr : ts.explicit = false → implicitVr dict t = vr
  fits : if len = 0 then v = .empty else valueFits vr v = true

theorem primOk_of_canon {ts : Syntax} {dict : Tag → Option VR} {t : Tag} {vr : VR} {len : Nat} {v : PValue}
    (h : canonElem ts dict (.prim t vr len v) = true) : PrimOk ts dict t vr len v := by
  simp only [canonElem, lenTrue, Bool.and_eq_true, Bool.or_eq_true, Bool.not_eq_true', beq_iff_eq,
    bne_iff_ne, ne_eq, decide_eq_true_eq] at h
  obtain ⟨⟨⟨⟨⟨⟨h1, h2⟩, h3, h4⟩, h5⟩, h6⟩, h7⟩, h8⟩ := h
  refine ⟨h1, h2, h3, h4, h5, ?_, ?_, ?_⟩
  · intro a b
    rcases h6 with h6 | h6
    · simp [a, b] at h6
    · exact h6
  · intro a
    rcases h7 with h7 | h7
    · simp [a] at h7
    · exact h7
  · split
    · rename_i hz; simpa [hz] using h8
    · rename_i hz; simpa [hz] using h8

theorem tagOk_valid {t : Tag} (h : tagOk t = true) : t.Valid ∧ t.group ≠ 0xFFFE := by
  simp only [tagOk, Bool.and_eq_true, decide_eq_true_eq, bne_iff_ne, ne_eq] at h
  exact ⟨⟨h.1.1, h.1.2⟩, h.2⟩

/-- the stateful encoder's output only: what was appended -/
def Appended (e e' : Enc) (bs : Bytes) : Prop := e'.out = e.out ++ bs ∧ e'.ts = e.ts

theorem push_appended (e : Enc) (bs : Bytes) (n : Nat) : Appended e (e.push bs n) bs := ⟨rfl, rfl⟩

theorem Appended.trans {e e' e'' : Enc} {a b : Bytes} (h1 : Appended e e' a) (h2 : Appended e' e'' b) :
    Appended e e'' (a ++ b) := by
  refine ⟨?_, h2.2.trans h1.2⟩
  rw [h2.1, h1.1, List.append_assoc]

/-- the two text paths of `encode_primitive_element` -/
theorem enc_headerAndValue (e : Enc) (t : Tag) (vr : VR) (l0 : Nat) (bs : Bytes) (pad : Nat)
    (he : bs.length % 2 = 0) (hlt : bs.length < 4294967295)
    (hs : e.ts.explicit = true → short16 vr = true → bs.length < 65536) :
    ∃ e', e.headerAndValue ⟨t, vr, l0⟩ (padTo bs pad) = .ok e' ∧
      Appended e e' (header e.ts t vr bs.length ++ bs) := by
  have hp : padTo bs pad = bs := by unfold padTo; simp; omega
  have hm : bs.length % 4294967296 = bs.length := Nat.mod_eq_of_lt (by omega)
  simp only [Enc.headerAndValue, hp, hm, enc_elementHeader e t vr bs.length (Or.inr ⟨he, hlt⟩) hs]
  exact ⟨_, rfl, (push_appended _ _ _).trans (push_appended _ _ _)⟩

/-- the binary path of `encode_primitive_element` -/
theorem enc_binary (e : Enc) (t : Tag) (vr : VR) (l0 len : Nat) (v : PValue) (bs : Bytes)
    (hv1 : ∀ s, v ≠ .str s) (hv2 : ∀ l, v ≠ .strs l) (hvr : ¬ (vr = .DS ∨ vr = .IS))
    (hcl : v.calculateByteLen = len) (henc : encodePrimitive e.ts.bigEndian v = (bs, len))
    (he : len % 2 = 0) (hlt : len < 4294967295)
    (hs : e.ts.explicit = true → short16 vr = true → len < 65536) :
    ∃ e', e.primitiveElement ⟨t, vr, l0⟩ v = .ok e' ∧ Appended e e' (header e.ts t vr len ++ bs) := by
  unfold Enc.primitiveElement
  split
  · exact absurd rfl (hv1 _)
  · exact absurd rfl (hv2 _)
  · have hm : len % 4294967296 = len := Nat.mod_eq_of_lt (by omega)
    simp only [hvr, if_false, hcl, hm]
    rw [enc_elementHeader e t vr len (Or.inr ⟨he, hlt⟩) hs]
    simp only [henc]
    have : ¬ (len % 2 ≠ 0) := by omega
    simp only [this, if_false]
    exact ⟨_, rfl, (push_appended _ _ _).trans (push_appended _ _ _)⟩

/-- `encode_primitive_element` on a canonical element writes the PS3.5 header and value field -/
theorem enc_primitive {ts : Syntax} {dict : Tag → Option VR} (e : Enc) (hts : e.ts = ts)
    {t : Tag} {vr : VR} {len : Nat} {v : PValue} (h : PrimOk ts dict t vr len v) :
    ∃ e', e.primitiveElement ⟨t, vr, len⟩ v = .ok e' ∧
      Appended e e' (header ts t vr len ++ value ts.bigEndian v) := by
  subst hts
  obtain ⟨_, _, hlen, hlt, hev, hsh, _, hfit⟩ := h
  by_cases hz : len = 0
  · -- an empty value: the header alone, by the text path under DS / IS and by the binary path otherwise
    have hv : v = .empty := by simpa [hz] using hfit
    subst hv hz
    by_cases hvr : vr = .DS ∨ vr = .IS
    · unfold Enc.primitiveElement
      simp only [hvr, if_true, Enc.elementAsText]
      rw [enc_elementHeader e t vr 0 (Or.inr ⟨rfl, by decide⟩) (fun _ _ => by decide)]
      exact ⟨_, rfl, by simpa [value] using push_appended e _ _⟩
    · exact enc_binary e t vr 0 0 .empty [] (by simp) (by simp) hvr rfl rfl rfl (by decide)
        (fun _ _ => by decide)
  · have hf : valueFits vr v = true := by simpa [hz] using hfit
    cases v with
    | strs l =>
      have hl : (joinBackslash l).length = len := by rw [hlen, value, join5C_eq]
      subst hl
      unfold Enc.primitiveElement Enc.textsElement
      simp only [textEncodeAll_id l (valueFits_inv hf).2, value, join5C_eq]
      exact enc_headerAndValue e t vr _ _ _ hev hlt hsh
    | str s =>
      have hl : s.length = len := by rw [hlen, value]
      subst hl
      unfold Enc.primitiveElement Enc.textElement
      simp only [textEncode_plain s (valueFits_inv hf).2, value]
      exact enc_headerAndValue e t vr _ _ _ hev hlt hsh
    | _ =>
      rw [hlen] at hev hlt hsh ⊢
      obtain ⟨h1, h2⟩ := encodePrimitive_ref e.ts.bigEndian hf (by simp) (by simp)
      exact enc_binary e t vr _ _ _ _ (by simp) (by simp) (not_text_vr hf (by simp)) h1 h2 hev hlt hsh

/-! ### the data set writer, token by token -/

/-- result of some `write` calls: what was appended to the output, the `seq_tokens` stack afterwards;
syntax and strategy never change. (`last_de` is deliberately not part of it.) -/
structure WStep (w w' : Writer) (bs : Bytes) (stack : List SeqTok) : Prop where
  out : w'.enc.out = w.enc.out ++ bs
  ts : w'.enc.ts = w.enc.ts
  stack : w'.seqTokens = stack
  strat : w'.strat = w.strat

/-- feeding `toks` succeeds, appends `bs` and leaves the stack as it was -/
def Writes (w : Writer) (toks : List Token) (bs : Bytes) : Prop :=
  ∃ w', w.writeAll toks = .ok w' ∧ WStep w w' bs w.seqTokens

theorem writeAll_append (w : Writer) (a b : List Token) :
    w.writeAll (a ++ b) = match w.writeAll a with
      | .ok w' => w'.writeAll b
      | .error x => .error x := by
  induction a generalizing w with
  | nil => simp [Writer.writeAll]
  | cons t r ih =>
    simp only [List.cons_append, Writer.writeAll]
    cases w.write t with
    | ok w1 => exact ih w1
    | error x => rfl

theorem Writes.nil (w : Writer) : Writes w [] [] :=
  ⟨w, rfl, ⟨by simp, rfl, rfl, rfl⟩⟩

/-- feeding `toks` succeeds, appends `bs`, leaves the stack `st` and a writer with `P` (what is known of
`last_de`, which decides the item-length rule of the set-undefined strategy inside pixel data) -/
def WritesTo (P : Writer → Prop) (w : Writer) (toks : List Token) (bs : Bytes) (st : List SeqTok) : Prop :=
  ∃ w', w.writeAll toks = .ok w' ∧ WStep w w' bs st ∧ P w'

theorem WritesTo.of_write {P : Writer → Prop} {w : Writer} {t : Token} {bs : Bytes} {st : List SeqTok}
    (h : ∃ w', w.write t = .ok w' ∧ WStep w w' bs st ∧ P w') : WritesTo P w [t] bs st := by
  obtain ⟨w', e, s⟩ := h
  exact ⟨w', by simp only [Writer.writeAll, e], s⟩

theorem WritesTo.nil {P : Writer → Prop} {w : Writer} (hp : P w) : WritesTo P w [] [] w.seqTokens :=
  ⟨w, rfl, ⟨by simp, rfl, rfl, rfl⟩, hp⟩

theorem WritesTo.stack {P : Writer → Prop} {w : Writer} {toks : List Token} {bs : Bytes} {st : List SeqTok}
    (h : WritesTo P w toks bs w.seqTokens) (e : w.seqTokens = st) : WritesTo P w toks bs st := e ▸ h

theorem Writes.to {w : Writer} {toks : List Token} {bs : Bytes} (h : Writes w toks bs) :
    WritesTo (fun _ => True) w toks bs w.seqTokens :=
  h.imp fun _ h => ⟨h.1, h.2, trivial⟩

theorem WritesTo.writes {P : Writer → Prop} {w : Writer} {toks : List Token} {bs : Bytes}
    (h : WritesTo P w toks bs w.seqTokens) : Writes w toks bs :=
  h.imp fun _ h => ⟨h.1, h.2.1⟩

/-- sequential composition; the second part runs on whatever writer the first part leaves -/
theorem WritesTo.append {P Q : Writer → Prop} {w : Writer} {a b : List Token} {x y : Bytes} {st st2 : List SeqTok}
    (h1 : WritesTo P w a x st) (h2 : ∀ w1 : Writer, WStep w w1 x st → P w1 → WritesTo Q w1 b y st2) :
    WritesTo Q w (a ++ b) (x ++ y) st2 := by
  obtain ⟨w1, e1, s1, p1⟩ := h1
  obtain ⟨w2, e2, s2, p2⟩ := h2 w1 s1 p1
  refine ⟨w2, by rw [writeAll_append, e1]; exact e2, ⟨?_, s2.ts.trans s1.ts, s2.stack, s2.strat.trans s1.strat⟩, p2⟩
  rw [s2.out, s1.out, List.append_assoc]

/-- the second part must hold for whatever writer the first part leaves (same syntax, strategy and stack) -/
theorem Writes.append {w : Writer} {a b : List Token} {x y : Bytes} (h1 : Writes w a x)
    (h2 : ∀ w' : Writer, w'.enc.ts = w.enc.ts → w'.strat = w.strat → w'.seqTokens = w.seqTokens → Writes w' b y) :
    Writes w (a ++ b) (x ++ y) :=
  (h1.to.append fun w1 s1 _ => (h2 w1 s1.ts s1.strat s1.stack).to.stack s1.stack).writes

theorem writeAll_single (w : Writer) (t : Token) : w.writeAll [t] = match w.write t with
    | .ok w' => .ok w'
    | .error x => .error x := by
  simp only [Writer.writeAll]
  cases w.write t <;> rfl

theorem short16_SQ : short16 .SQ = false := rfl
theorem short16_OB : short16 .OB = false := rfl

/-- `SequenceStart` (kept length, or undefined anyway) -/
theorem write_seqStart {ts : Syntax} (w : Writer) (hts : w.enc.ts = ts) (tag : Tag) (len : Nat)
    (hs : w.strat = .noChange ∨ len = undefinedLen) (hl : LenOk len) :
    WritesTo (fun _ => True) w [.sequenceStart tag len] (header ts tag .SQ len) (⟨false, len⟩ :: w.seqTokens) := by
  subst hts
  obtain ⟨enc, st, lde, strat⟩ := w
  have hh := enc_elementHeader enc tag .SQ len hl (by simp [short16_SQ])
  apply WritesTo.of_write
  cases strat
  · have : len = undefinedLen := by simpa using hs
    subst this
    simp only [Writer.write, Writer.writeImpl, hh]
    exact ⟨_, rfl, ⟨rfl, rfl, rfl, rfl⟩, trivial⟩
  · simp only [Writer.write, Writer.writeImpl, hh]
    exact ⟨_, rfl, ⟨rfl, rfl, rfl, rfl⟩, trivial⟩

/-- `SequenceEnd` -/
theorem write_seqEnd {ts : Syntax} (w : Writer) (hts : w.enc.ts = ts) (len : Nat) (rest : List SeqTok)
    (hst : w.seqTokens = ⟨false, len⟩ :: rest) :
    WritesTo (fun _ => True) w [.sequenceEnd] (if len = undefinedLen then seqDelim ts.bigEndian else []) rest := by
  subst hts
  obtain ⟨enc, st, lde, strat⟩ := w
  simp only at hst
  subst hst
  apply WritesTo.of_write
  by_cases h : len = undefinedLen
  · simp only [Writer.write, Writer.writeImpl, h, Bool.false_eq_true, not_false_eq_true, and_self, if_true]
    refine ⟨_, rfl, ⟨?_, rfl, rfl, rfl⟩, trivial⟩
    simp [Enc.seqDelimiter, Enc.push, seqDelim_eq]
  · simp only [Writer.write, h, and_false, if_false]
    exact ⟨_, rfl, ⟨by simp, rfl, rfl, rfl⟩, trivial⟩

/-- `ItemStart` of a data set item (kept length, or undefined anyway) -/
theorem write_itemStart {ts : Syntax} (w : Writer) (hts : w.enc.ts = ts) (len : Nat)
    (hs : w.strat = .noChange ∨ len = undefinedLen) (hl : LenOk len) :
    WritesTo (fun _ => True) w [.itemStart len] (itemHdr ts.bigEndian len) (⟨true, len⟩ :: w.seqTokens) := by
  subst hts
  obtain ⟨enc, st, lde, strat⟩ := w
  have hh := enc_itemHeader enc len hl
  apply WritesTo.of_write
  cases strat
  · have : len = undefinedLen := by simpa using hs
    subst this
    simp only [Writer.write, Writer.writeImpl, ite_self, hh]
    exact ⟨_, rfl, ⟨rfl, rfl, rfl, rfl⟩, trivial⟩
  · simp only [Writer.write, Writer.writeImpl, hh]
    exact ⟨_, rfl, ⟨rfl, rfl, rfl, rfl⟩, trivial⟩

/-- `ItemEnd` (keeps `last_de`) -/
theorem write_itemEnd {ts : Syntax} {P : Writer → Prop} (w : Writer) (hts : w.enc.ts = ts) (len : Nat)
    (rest : List SeqTok) (hst : w.seqTokens = ⟨true, len⟩ :: rest) (hp : ∀ w', w'.lastDe = w.lastDe → P w') :
    WritesTo P w [.itemEnd] (if len = undefinedLen then itemDelim ts.bigEndian else []) rest := by
  subst hts
  obtain ⟨enc, st, lde, strat⟩ := w
  simp only at hst
  subst hst
  apply WritesTo.of_write
  by_cases h : len = undefinedLen
  · simp only [Writer.write, Writer.writeImpl, h, and_self, if_true]
    refine ⟨_, rfl, ⟨?_, rfl, rfl, rfl⟩, hp _ rfl⟩
    simp [Enc.itemDelimiter, Enc.push, itemDelim_eq]
  · simp only [Writer.write, h, and_false, if_false]
    exact ⟨_, rfl, ⟨by simp, rfl, rfl, rfl⟩, hp _ rfl⟩

end Dicom.Ref
