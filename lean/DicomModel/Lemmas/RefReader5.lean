import DicomModel.Lemmas.RefReader4
/-
C02, reader side: runs of the reader over sequences, items and data sets (mutual induction on the tree).
-/
namespace Dicom.Ref

def itemsNil : Items → Bool
  | .nil => true
  | _ => false
def elemsNil : Elems → Bool
  | .nil => true
  | _ => false

theorem encItems_nil_of_len {ts : Syntax} {its : Items} (h : (encItems ts its).length = 0) : itemsNil its = true := by
  cases its with
  | nil => rfl
  | cons l es r => simp [encItems, itemHdr_length] at h
theorem encElem_pos (ts : Syntax) (e : Elem) : 0 < (encElem ts e).length := by
  cases e with
  | prim t vr len v => have := header_ge8 ts t vr len; simp only [encElem, List.length_append]; omega
  | seq t len its => have := header_ge8 ts t .SQ len; simp only [encElem, List.length_append]; omega
  | pix b f => have := header_ge8 ts Tag.pixelData .OB undefinedLen; simp only [encElem, List.length_append]; omega

theorem encElems_nil_of_len {ts : Syntax} {es : Elems} (h : (encElems ts es).length = 0) : elemsNil es = true := by
  cases es with
  | nil => rfl
  | cons e r =>
    exfalso
    have := encElem_pos ts e
    simp only [encElems, List.length_append] at h
    omega

theorem readVr_seq {ts : Syntax} {dict : Tag → Option VR} {tag : Tag} {len : Nat} {items : Items}
    (ok : SeqOk ts dict tag len items) :
    readVr ts dict tag .SQ = .SQ ∨ len = undefinedLen := by
  unfold readVr
  cases h : ts.explicit
  · rcases ok.len with h1 | ⟨_, _, h3⟩
    · exact Or.inr h1
    · left; simpa using h3 h
  · left; simp

/-- the item delimitation item met inside an item (read by the element header decoder) -/
theorem step_itemEndDelim (ts : Syntax) (dict : Tag → Option VR) (hdk : dictOk ts dict = true)
    (rest : Bytes) (pos : Nat) (p : Bool) (it : RSeqTok) (stack : List RSeqTok)
    (hpl : Plain (it :: stack)) (hu : it.len = undefinedLen) :
    StepTo (stE ts dict (itemDelim ts.bigEndian ++ rest) pos p (it :: stack)) .itemEnd
      (stI ts dict rest (pos + 8) true stack) := by
  obtain ⟨vr, hdec, he, hi⟩ := decodeHeader_delim ts dict 0xE00D (by decide) rest
  have hvr : vr ≠ .SQ := by
    cases hx : ts.explicit
    · rw [hi hx]
      simp only [dictOk, hx, Bool.false_or, bne_iff_ne, ne_eq] at hdk
      unfold implicitVr
      have h1 : (Tag.mk 0xFFFE 0xE00D) ≠ Tag.pixelData := by decide
      have h2 : ¬ ((Tag.mk 0xFFFE 0xE00D).group / 256 = 0x60 ∧ (Tag.mk 0xFFFE 0xE00D).elem = 0x3000) := by decide
      simp only [h1, h2, if_false]
      cases hd : dict ⟨0xFFFE, 0xE00D⟩ with
      | none => simp
      | some v =>
        simp only
        intro hv; subst hv; exact hdk hd
    · rw [he hx]; decide
  have hd : (Dec.mk ts dict (itemDelim ts.bigEndian ++ rest) pos).decodeHeader =
      .ok (⟨⟨0xFFFE, 0xE00D⟩, vr, 0⟩, ⟨ts, dict, rest, pos + 8⟩) := by
    have : itemDelim ts.bigEndian ++ rest = tagBytes ts.bigEndian ⟨0xFFFE, 0xE00D⟩ ++ enc32 ts.bigEndian 0 ++ rest := by
      simp [itemDelim, List.append_assoc]
    rw [this]
    simp only [Dec.decodeHeader, hdec]
  exact .of_body rfl (fun _ => Or.inl hu) (body_itemEndDelim _ _ false it stack _ hpl.noPixTop hd hvr rfl)

theorem Plain.cons {st : List RSeqTok} (h : Plain st) (isItem : Bool) (len base : Nat) :
    Plain (⟨isItem, len, false, base⟩ :: st) := by
  intro f hf
  rcases List.mem_cons.mp hf with rfl | hf
  · rfl
  · exact h f hf

/-- content of the defined length `len` has been read: a delimiter check is pending (an empty content
leaves the flag as the start token set it, `len == 0`) -/
theorem pending_items {ts : Syntax} {its : Items} {len : Nat} (h : len = (encItems ts its).length) :
    (if itemsNil its then (len == 0) else true) = true := by
  cases its with
  | nil => simp [itemsNil, h, encItems]
  | cons a b c => rfl
theorem pending_elems {ts : Syntax} {es : Elems} {len : Nat} (h : len = (encElems ts es).length) :
    (if elemsNil es then (len == 0) else true) = true := by
  cases es with
  | nil => simp [elemsNil, h, encElems]
  | cons a b => rfl

abbrev ItemsRun (ts : Syntax) (dict : Tag → Option VR) (its : Items) : Prop :=
  ∀ (rest : Bytes) (pos : Nat) (p : Bool) (sq : RSeqTok) (stack : List RSeqTok), Plain (sq :: stack) →
    Room (sq :: stack) pos (encItems ts its).length →
    Run (stI ts dict (encItems ts its ++ rest) pos p (sq :: stack)) its.tokens
      (stI ts dict rest (pos + (encItems ts its).length) (if itemsNil its then p else true) (sq :: stack))

abbrev ElemRun (ts : Syntax) (dict : Tag → Option VR) (e : Elem) : Prop :=
  ∀ (rest : Bytes) (pos : Nat) (p : Bool) (stack : List RSeqTok), Plain stack →
    Room stack pos (encElem ts e).length →
    Run (stE ts dict (encElem ts e ++ rest) pos p stack) e.tokens
      (stE ts dict rest (pos + (encElem ts e).length) true stack)

abbrev ElemsRun (ts : Syntax) (dict : Tag → Option VR) (es : Elems) : Prop :=
  ∀ (rest : Bytes) (pos : Nat) (p : Bool) (stack : List RSeqTok), Plain stack →
    Room stack pos (encElems ts es).length →
    Run (stE ts dict (encElems ts es ++ rest) pos p stack) es.tokens
      (stE ts dict rest (pos + (encElems ts es).length) (if elemsNil es then p else true) stack)

theorem run_seq {ts : Syntax} {dict : Tag → Option VR} {tag : Tag} {len : Nat} {items : Items}
    (ok : SeqOk ts dict tag len items) (ih : ItemsRun ts dict items) : ElemRun ts dict (.seq tag len items) := by
  intro rest pos p stack hpl hroom
  have hlen := encElem_seq_length ts tag len items
  have h8 := header_ge8 ts tag .SQ len
  have hl32 : len < 4294967296 := by
    rcases ok.len with h | ⟨_, h, _⟩
    · rw [h]; decide
    · omega
  let sq : RSeqTok := ⟨false, len, false, pos + (header ts tag .SQ len).length⟩
  -- SequenceEnd: the delimitation item, or the end of the defined length
  have s3 : StepTo (stI ts dict (seqTail ts.bigEndian len ++ rest) (pos + (header ts tag .SQ len).length + (encItems ts items).length)
      (if itemsNil items then (len == 0) else true) (sq :: stack)) .sequenceEnd
      (stE ts dict rest (pos + (header ts tag .SQ len).length + (encItems ts items).length + (seqTail ts.bigEndian len).length) true stack) := by
    by_cases hu : len = undefinedLen
    · simp only [seqTail, hu, if_true, seqDelim_length]
      exact step_seqEndDelim ts dict rest _ _ sq stack hu
    · have hle : len = (encItems ts items).length := (ok.len.resolve_left hu).1
      simp only [seqTail, hu, if_false, List.nil_append, List.length_nil, Nat.add_zero, pending_items hle]
      exact step_end ts dict rest _ true sq stack hu (by simp only [sq]; omega)
  have henc : encElem ts (.seq tag len items) ++ rest =
      header ts tag .SQ len ++ (encItems ts items ++ (seqTail ts.bigEndian len ++ rest)) := by
    simp [encElem, seqTail]
  have htok : Elem.tokens (.seq tag len items) = (.sequenceStart tag len :: items.tokens) ++ [.sequenceEnd] := by
    simp [Elem.tokens]
  rw [htok, henc]
  exact ((Run.cons
    (.of_body rfl (fun _ => hroom.open (by omega))
      (body_seqStart _ _ false stack ⟨tag, readVr ts dict tag .SQ, len⟩ hpl.noPixTop
        (dec_decodeHeader ts dict tag .SQ len ok.tagok hl32 (fun _ h => by simp [short16_SQ] at h) _ pos)
        ((readVr_seq ok).imp id fun h => ⟨h, tagOk_ne_delim ok.tagok, encaps_false_of_tag ok.notPix⟩)))
    (ih _ _ _ sq stack (hpl.cons _ _ _) (ok.len.imp id fun h => by simp only [sq]; omega))).append
      (Run.single s3)).at_pos (by omega)

theorem run_item {ts : Syntax} {dict : Tag → Option VR} (hdk : dictOk ts dict = true) {len : Nat} {es : Elems}
    {more : Items} (ok : ItemOk ts dict len es) (ih1 : ElemsRun ts dict es) (ih2 : ItemsRun ts dict more) :
    ItemsRun ts dict (.cons len es more) := by
  intro rest pos p sq stack hpl hroom
  have hlen := encItems_cons_length ts len es more
  have hl32 : len < 4294967296 := by
    rcases ok.len with h | ⟨_, h⟩
    · rw [h]; decide
    · omega
  let it : RSeqTok := ⟨true, len, false, pos + 8⟩
  have s1 : StepTo (stI ts dict (itemHdr ts.bigEndian len ++ (encElems ts es ++ (itemTail ts.bigEndian len ++ (encItems ts more ++ rest)))) pos p (sq :: stack))
      (.itemStart len) (stE ts dict (encElems ts es ++ (itemTail ts.bigEndian len ++ (encItems ts more ++ rest))) (pos + 8)
        (len == 0) (it :: sq :: stack)) := by
    have := body_itemStart _ _ false sq stack none len (dec_itemHeader ts dict len hl32
      (encElems ts es ++ (itemTail ts.bigEndian len ++ (encItems ts more ++ rest))) pos)
    rw [hpl sq (by simp)] at this
    exact .of_body rfl (fun _ => hroom.open (by omega)) this
  have hpl2 : Plain (it :: sq :: stack) := hpl.cons _ _ _
  -- ItemEnd: the delimitation item, or the end of the defined length
  have s3 : StepTo (stE ts dict (itemTail ts.bigEndian len ++ (encItems ts more ++ rest)) (pos + 8 + (encElems ts es).length)
      (if elemsNil es then (len == 0) else true) (it :: sq :: stack)) .itemEnd
      (stI ts dict (encItems ts more ++ rest) (pos + 8 + (encElems ts es).length + (itemTail ts.bigEndian len).length) true (sq :: stack)) := by
    by_cases hu : len = undefinedLen
    · simp only [itemTail, hu, if_true, itemDelim_length]
      exact step_itemEndDelim ts dict hdk _ _ _ it (sq :: stack) hpl2 hu
    · have hle : len = (encElems ts es).length := (ok.len.resolve_left hu).1
      simp only [itemTail, hu, if_false, List.nil_append, List.length_nil, Nat.add_zero, pending_elems hle]
      exact step_end ts dict _ _ false it (sq :: stack) hu (by simp only [it]; omega)
  have r4 := ih2 rest (pos + 8 + (encElems ts es).length + (itemTail ts.bigEndian len).length) true sq stack
    hpl (hroom.mono (by omega))
  have henc : encItems ts (.cons len es more) ++ rest = itemHdr ts.bigEndian len ++
      (encElems ts es ++ (itemTail ts.bigEndian len ++ (encItems ts more ++ rest))) := by
    simp [encItems, itemTail]
  have htok : Items.tokens (.cons len es more) = (.itemStart len :: es.tokens) ++ (.itemEnd :: more.tokens) := by
    simp [Items.tokens]
  rw [ite_self] at r4
  rw [htok, henc]
  exact ((Run.cons s1 (ih1 _ _ _ _ hpl2 (ok.len.imp id fun h => by simp only [it]; omega))).append
    (Run.cons s3 r4)).at_pos (by omega)

theorem run_cons {ts : Syntax} {dict : Tag → Option VR} {e : Elem} {more : Elems}
    (ih1 : ElemRun ts dict e) (ih2 : ElemsRun ts dict more) : ElemsRun ts dict (.cons e more) := by
  intro rest pos p stack hpl hroom
  have hlen := encElems_cons_length ts e more
  have r1 := ih1 (encElems ts more ++ rest) pos p stack hpl (hroom.mono (by rw [hlen]; omega))
  have r2 := ih2 rest (pos + (encElem ts e).length) true stack hpl (hroom.mono (by rw [hlen]; omega))
  have all := r1.append r2
  rw [ite_self] at all
  simp only [elemsNil, Bool.false_eq_true, if_false, Elems.tokens, encElems, List.append_assoc]
  exact all.at_pos (by rw [List.length_append, Nat.add_assoc])

mutual
theorem run_elem (ts : Syntax) (dict : Tag → Option VR) (hdk : dictOk ts dict = true) :
    ∀ (e : Elem), canonElem ts dict e = true →
    ∀ (rest : Bytes) (pos : Nat) (p : Bool) (stack : List RSeqTok), Plain stack →
      Room stack pos (encElem ts e).length →
      Run (stE ts dict (encElem ts e ++ rest) pos p stack) e.tokens
        (stE ts dict rest (pos + (encElem ts e).length) true stack)
  | .prim _ _ _ _, hc => run_prim (primOk_of_canon hc)
  | .pix _ _, hc => run_pix (pixOk_of_canon hc)
  | .seq _ _ items, hc => run_seq (seqOk_of_canon hc) (run_items ts dict hdk items (seqOk_of_canon hc).items)
theorem run_items (ts : Syntax) (dict : Tag → Option VR) (hdk : dictOk ts dict = true) :
    ∀ (its : Items), canonItems ts dict its = true →
    ∀ (rest : Bytes) (pos : Nat) (p : Bool) (sq : RSeqTok) (stack : List RSeqTok), Plain (sq :: stack) →
      Room (sq :: stack) pos (encItems ts its).length →
      Run (stI ts dict (encItems ts its ++ rest) pos p (sq :: stack)) its.tokens
        (stI ts dict rest (pos + (encItems ts its).length) (if itemsNil its then p else true) (sq :: stack))
  | .nil, _ => fun rest pos p sq stack _ _ => by simpa [encItems, Items.tokens, itemsNil] using Run.nil _
  | .cons _ es more, hc =>
    run_item hdk (itemOk_of_canon hc).1 (run_elems ts dict hdk es (itemOk_of_canon hc).1.elems)
      (run_items ts dict hdk more (itemOk_of_canon hc).2)
theorem run_elems (ts : Syntax) (dict : Tag → Option VR) (hdk : dictOk ts dict = true) :
    ∀ (es : Elems), canonElems ts dict es = true →
    ∀ (rest : Bytes) (pos : Nat) (p : Bool) (stack : List RSeqTok), Plain stack →
      Room stack pos (encElems ts es).length →
      Run (stE ts dict (encElems ts es ++ rest) pos p stack) es.tokens
        (stE ts dict rest (pos + (encElems ts es).length) (if elemsNil es then p else true) stack)
  | .nil, _ => fun rest pos p stack _ _ => by simpa [encElems, Elems.tokens, elemsNil] using Run.nil _
  | .cons e more, hc =>
    run_cons (run_elem ts dict hdk e (canonElems_cons hc).1) (run_elems ts dict hdk more (canonElems_cons hc).2)
end

end Dicom.Ref
