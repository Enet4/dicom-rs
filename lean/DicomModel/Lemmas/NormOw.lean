import DicomModel.Lemmas.NormKeepCanon
/-
Bytes held as `U8` under OW (8-bit samples in a word VR): `encode_primitive_element` re-packs them into
16-bit words first (`owWords`, dicom-rs fix 457c39a). `owElems t` is the data set after that re-packing;
the writer writes `t` and `owElems t` identically (by definition of `Enc.encodePrimitiveElement` and
idempotence of `owWords`), so every theorem about well-formed trees applies to `owElems t`.
-/
namespace Dicom.Norm
open Dicom.C04 Dicom.Ref

mutual
def owElem : Elem → Elem
  | .prim tag vr len v => .prim tag vr len (owWords vr v)
  | .seq tag len items => .seq tag len (owItems items)
  | .pix bot frags => .pix bot frags
def owItems : Items → Items
  | .nil => .nil
  | .cons len es r => .cons len (owElems es) (owItems r)
def owElems : Elems → Elems
  | .nil => .nil
  | .cons e r => .cons (owElem e) (owElems r)
end

theorem owWords_idem (vr : VR) (v : PValue) : owWords vr (owWords vr v) = owWords vr v := by
  cases v with
  | u8 b => by_cases h : vr = .OW <;> simp [owWords, h]
  | _ => rfl

mutual
theorem rec_ow_elem : ∀ (el : Elem) (e : Enc), recElem e (owElem el) = recElem e el
  | .prim tag vr len v, e => by
    simp only [owElem, recElem, Enc.encodePrimitiveElement, owWords_idem]
  | .seq tag len items, e => by
    simp only [owElem, recElem]
    exact exBind_congr fun e1 _ => by rw [rec_ow_items items e1]
  | .pix bot frags, e => rfl
theorem rec_ow_items : ∀ (its : Items) (e : Enc), recItems e (owItems its) = recItems e its
  | .nil, _ => rfl
  | .cons len es r, e => by
    simp only [owItems, recItems, rec_ow_elems es]
    exact exBind_congr fun e1 _ => rec_ow_items r _
theorem rec_ow_elems : ∀ (es : Elems) (e : Enc), recElems e (owElems es) = recElems e es
  | .nil, _ => rfl
  | .cons el r, e => by
    simp only [owElems, recElems, rec_ow_elem el]
    exact exBind_congr fun e1 _ => rec_ow_elems r e1
end

mutual
theorem wf_ow_elem : ∀ e : Elem, (owElem e).WF → e.WF
  | .prim _ _ _ _, h => h
  | .seq _ _ items, h => wf_ow_items items h
  | .pix _ _, h => h
theorem wf_ow_items : ∀ its : Items, (owItems its).WF → its.WF
  | .nil, _ => trivial
  | .cons _ es r, h => ⟨wf_ow_elems es h.1, wf_ow_items r h.2⟩
theorem wf_ow_elems : ∀ es : Elems, (owElems es).WF → es.WF
  | .nil, _ => trivial
  | .cons e r, h => ⟨wf_ow_elem e h.1, wf_ow_elems r h.2⟩
end

theorem sortedElems_ow (es : Elems) : sortedElems (owElems es) = sortedElems es :=
  sortedElems_map rfl (fun _ _ => rfl) (fun e => by cases e <;> rfl) es

/-- the data set writer writes `t` and its re-packed form to the same bytes (default strategy) -/
theorem write_ow (ts : Syntax) (t : Elems) (h : (owElems t).WF) :
    writeDataset ts .setUndefined (owElems t) = writeDataset ts .setUndefined t := by
  rw [writeDataset_eq_rec ts _ h, writeDataset_eq_rec ts t (wf_ow_elems t h), rec_ow_elems]

theorem packWords_lt : ∀ (b : Bytes), (∀ x ∈ b, x < 256) → ∀ w ∈ packWords b, w < 65536
  | [], _, w, hw => by simp [packWords] at hw
  | [a], h, w, hw => by
    simp only [packWords, List.mem_cons, List.mem_nil_iff, or_false] at hw
    rw [hw]; have := h a (by simp); omega
  | a :: c :: r, h, w, hw => by
    simp only [packWords, List.mem_cons] at hw
    rcases hw with hw | hw
    · subst hw; have h1 := h a (by simp); have h2 := h c (by simp); omega
    · exact packWords_lt r (fun x hx => h x (by simp [hx])) w hw

/-- bytes (each < 256) under OW are a valid value once re-packed -/
theorem validFor_ow_u8 (be : Bool) (b : Bytes) (hb : ∀ x ∈ b, x < 256) :
    ValidFor be .OW (owWords .OW (.u8 b)) := by
  refine And.intro (by decide) (And.intro trivial (And.intro ?_ ?_))
  · intro hx; rcases hx with hx | hx <;> cases hx
  · right; right; right
    exact packWords_lt b hb

end Dicom.Norm
