import DicomModel.Model.NumConv
/-
`collectOpt f` (Rust's `collect::<Result<Vec<_>, _>>()`): convert every element, in order, or fail.
`Page.encode`, `Charset.mapM'` and `Transcode.mapM'` are the same traversal written out
monomorphically; `Props/C10.lean` reduces the first two to `collectOpt`.
-/
namespace Dicom.NumConv

variable {α β : Type} {f : α → Option β}

theorem collectOpt_cons_eq_some {x : α} {xs : List α} {r : List β} :
    collectOpt f (x :: xs) = some r ↔
      ∃ y ys, f x = some y ∧ collectOpt f xs = some ys ∧ r = y :: ys := by
  rw [collectOpt]
  cases f x with
  | none => simp
  | some y => cases collectOpt f xs <;> simp [eq_comm]

theorem collectOpt_eq_some (f : α → Option β) :
    ∀ (l : List α) (r : List β), collectOpt f l = some r ↔ l.map f = r.map some
  | [], r => by cases r <;> simp [collectOpt]
  | x :: xs, r => by
    rw [collectOpt_cons_eq_some]
    cases r with
    | nil => simp
    | cons y ys => simp [collectOpt_eq_some f xs]

theorem collectOpt_length {l : List α} {r : List β} (h : collectOpt f l = some r) :
    r.length = l.length := by
  have := congrArg List.length ((collectOpt_eq_some f l r).mp h)
  simpa using this.symm

theorem collectOpt_mem_result {l : List α} {r : List β} (h : collectOpt f l = some r) {y : β}
    (hy : y ∈ r) : ∃ x ∈ l, f x = some y := by
  have : some y ∈ l.map f := (collectOpt_eq_some f l r).mp h ▸ List.mem_map_of_mem hy
  exact List.mem_map.mp this

theorem collectOpt_mem_source {l : List α} {r : List β} (h : collectOpt f l = some r) {x : α}
    (hx : x ∈ l) : ∃ y ∈ r, f x = some y := by
  have : f x ∈ r.map some := (collectOpt_eq_some f l r).mp h ▸ List.mem_map_of_mem hx
  obtain ⟨y, hy, e⟩ := List.mem_map.mp this
  exact ⟨y, hy, e.symm⟩

theorem collectOpt_head {x : α} {xs : List α} {y : β} {ys : List β}
    (h : collectOpt f (x :: xs) = some (y :: ys)) : f x = some y := by
  obtain ⟨_, _, hy, _, e⟩ := collectOpt_cons_eq_some.mp h
  cases e
  exact hy

theorem collectOpt_map_eq {g : α → Option β} {l : List α} {r : List β}
    (h : collectOpt f l = some r) (hg : ∀ x ∈ l, ∀ y, f x = some y → g x = some y) :
    l.map g = r.map some := by
  rw [← (collectOpt_eq_some f l r).mp h]
  refine List.map_congr_left fun x hx => ?_
  obtain ⟨y, _, hy⟩ := collectOpt_mem_source h hx
  rw [hy, hg x hx y hy]

theorem collectOpt_map {γ : Type} (f : β → Option γ) (g : α → β) (l : List α) :
    collectOpt f (l.map g) = collectOpt (fun x => f (g x)) l := by
  induction l with
  | nil => rfl
  | cons x xs ih => rw [List.map_cons, collectOpt, collectOpt, ih]

theorem collectOpt_append (f : α → Option β) (a b : List α) :
    collectOpt f (a ++ b) =
      (collectOpt f a).bind fun ra => (collectOpt f b).map fun rb => ra ++ rb := by
  induction a with
  | nil => simp [collectOpt]
  | cons x xs ih =>
    rw [List.cons_append, collectOpt, collectOpt, ih]
    cases f x <;> cases collectOpt f xs <;> cases collectOpt f b <;> rfl

theorem collectOpt_map_some (f : α → Option β) (g : α → β) (l : List α)
    (h : ∀ x ∈ l, f x = some (g x)) : collectOpt f l = some (l.map g) := by
  rw [collectOpt_eq_some]
  simp only [List.map_map]
  exact List.map_congr_left fun x hx => by simp [h x hx]

end Dicom.NumConv
