import DicomModel.Model.PData
import DicomModel.Lemmas.Bytes
/-
Lemmas for C26: header set-up, the wire form `pdu`, the invariant `Taken` of the synchronous writer,
the independent parser on emitted streams.
-/
namespace Dicom.PData
open Dicom.Gen.Ul

theorem pduHeaderSize_eq : pduHeaderSize = 6 := rfl
theorem pduPdvHeaderSize_eq : pduPdvHeaderSize = 12 := rfl
theorem maximumPduSize_eq : maximumPduSize = 4294967288 := rfl
theorem minimumPduSize_eq : minimumPduSize = 1018 := rfl

/-- wire form of one P-DATA-TF PDU carrying one presentation data value -/
def pdu (ctx : Nat) (last : Bool) (data : Bytes) : Bytes :=
  [4, 0] ++ be32 (data.length + 6) ++ be32 (data.length + 2) ++ [ctx, if last then 2 else 0] ++ data

/-- the 12 header bytes kept in the writer's buffer: type, reserved, stale lengths, context id,
stale control byte -/
def Hdr (ctx : Nat) (h : Bytes) : Prop :=
  ∃ a b c d e f g i x, h = [4, 0, a, b, c, d, e, f, g, i, ctx, x]

theorem Hdr.length {ctx : Nat} {h : Bytes} (hh : Hdr ctx h) : h.length = 12 := by
  obtain ⟨a, b, c, d, e, f, g, i, x, rfl⟩ := hh; rfl

theorem hdr_init (ctx : Nat) : Hdr ctx (initBuf ctx) := ⟨255, 255, 255, 255, 255, 255, 255, 255, 255, rfl⟩

theorem pdu_length (ctx : Nat) (last : Bool) (data : Bytes) : (pdu ctx last data).length = data.length + 12 := by
  simp only [pdu, List.length_append, be32_length, List.length_cons, List.length_nil]; omega

theorem hdr_pdu_take (ctx : Nat) (last : Bool) (data : Bytes) : Hdr ctx ((pdu ctx last data).take 12) :=
  ⟨_, _, _, _, _, _, _, _, _, rfl⟩

theorem setupHeader_eq {ctx : Nat} {h : Bytes} (hh : Hdr ctx h) (t : Bytes) (last : Bool)
    (ht : t.length + 6 < u32) : setupHeader (h ++ t) last = some (pdu ctx last t) := by
  obtain ⟨a, b, c, d, e, f, g, i, x, rfl⟩ := hh
  have hlen : ([4, 0, a, b, c, d, e, f, g, i, ctx, x] ++ t).length = t.length + 12 := by
    rw [List.length_append, Nat.add_comm]; rfl
  have ht0 : t.length < u32 := by omega
  have ht2 : t.length + 2 < u32 := by omega
  have h1 : ((t.length + 12 - 12) % u32 + 4 + 2) % u32 = t.length + 6 := by
    rw [Nat.add_sub_cancel, Nat.mod_eq_of_lt ht0, Nat.mod_eq_of_lt ht]
  have h2 : ((t.length + 12 - 12) % u32 + 2) % u32 = t.length + 2 := by
    rw [Nat.add_sub_cancel, Nat.mod_eq_of_lt ht0, Nat.mod_eq_of_lt ht2]
  rw [setupHeader, hlen, pduPdvHeaderSize_eq, if_neg (by omega)]
  simp only [h1, h2]
  rfl

/-! ### the synchronous writer -/

theorem maximumPduSize_lt : maximumPduSize + 6 < u32 := by decide

theorem totalLen_eq {max : Nat} (hM : max ≤ maximumPduSize) : totalLen max = max + 6 :=
  Nat.mod_eq_of_lt (Nat.lt_of_le_of_lt (Nat.add_le_add_right hM 6) maximumPduSize_lt)

theorem dispatch_eq {ctx : Nat} {h : Bytes} (hh : Hdr ctx h) (t out : Bytes) (ht : t.length + 6 < u32) :
    dispatch ⟨h ++ t, out⟩ = some ⟨(pdu ctx false t).take 12, out ++ pdu ctx false t⟩ := by
  simp only [dispatch, setupHeader_eq hh t false ht, pduPdvHeaderSize_eq]

/-- what `write_all` does after a `write` that returned `k` and left state `s1` -/
def syncCont (max : Nat) (s1 : SW) (k : Nat) (chunk : Bytes) : SW × Res :=
  match k with
  | 0 => (s1, .writeZero)
  | k' + 1 => writeAll max s1 (chunk.drop (k' + 1))

theorem writeAll_nil (max : Nat) (s : SW) : writeAll max s [] = (s, .ok) := by
  rw [writeAll]; rfl

theorem writeAll_none {max : Nat} {s : SW} {chunk : Bytes} (hc : chunk ≠ [])
    (hw : write max s chunk = none) : writeAll max s chunk = (s, .panic) := by
  rw [writeAll, dif_neg hc, hw]

theorem writeAll_some {max : Nat} {s s' : SW} {k : Nat} {chunk : Bytes} (hc : chunk ≠ [])
    (hw : write max s chunk = some (s', k)) : writeAll max s chunk = syncCont max s' k chunk := by
  rw [writeAll, dif_neg hc, hw]
  cases k <;> rfl

/-- The writer's invariant: it has taken `payload` so far; all of it but a tail of at most
`max - 6` bytes has gone out as full non-last PDUs, the tail waits in the buffer behind the header. -/
def Taken (max ctx : Nat) (payload : Bytes) (s : SW) : Prop :=
  ∃ (h tail : Bytes) (blocks : List Bytes), Hdr ctx h ∧ tail.length ≤ max - 6 ∧
    (∀ b ∈ blocks, List.length b = max - 6) ∧
    blocks.flatten ++ tail = payload ∧ s = ⟨h ++ tail, (blocks.map (pdu ctx false)).flatten⟩

theorem taken_init (max ctx : Nat) : Taken max ctx [] ⟨initBuf ctx, []⟩ :=
  ⟨initBuf ctx, [], [], hdr_init ctx, Nat.zero_le _, nofun, rfl, rfl⟩

/-- One `write` takes at least one byte: the chunk fits; or it fills the buffer, whose PDU goes out;
or the buffer was full already, its PDU goes out and the next one is begun (the repaired case). -/
theorem write_step {max ctx : Nat} (hm : 6 < max) (hM : max ≤ maximumPduSize) {p : Bytes} {s : SW}
    (hs : Taken max ctx p s) {chunk : Bytes} (hc : chunk ≠ []) :
    ∃ s' k, 0 < k ∧ write max s chunk = some (s', k) ∧ Taken max ctx (p ++ chunk.take k) s' := by
  obtain ⟨h, tail, blocks, hh, hl, hb, rfl, rfl⟩ := hs
  have hpos : 0 < chunk.length := List.length_pos_iff.mpr hc
  have hbuf : (h ++ tail).length = tail.length + 12 := by
    rw [List.length_append, hh.length, Nat.add_comm]
  have htot : totalLen max = max - 6 + 12 := by rw [totalLen_eq hM]; omega
  have hd : 0 < max - 6 := by omega
  have hu : max - 6 + 6 < u32 := by have := maximumPduSize_lt; omega
  rw [write]
  simp only [Taken, refill, hbuf, htot]
  -- from here on only `d`, the data bytes per PDU, matters
  generalize max - 6 = d at *
  clear hm hM htot hbuf hc
  by_cases hfit : tail.length + chunk.length ≤ d
  · rw [if_pos (by omega)]
    refine ⟨_, _, hpos, rfl, h, tail ++ chunk, blocks, hh, ?_, hb, ?_, ?_⟩
    · rw [List.length_append]; exact hfit
    · rw [List.take_length, List.append_assoc]
    · rw [List.append_assoc]
  · -- the PDU that goes out carries `tail` and `n` bytes of `chunk`
    generalize hn : d + 12 - (tail.length + 12) = n
    have hblk : (tail ++ chunk.take n).length = d := by
      rw [List.length_append, List.length_take]; omega
    have hb' : ∀ b ∈ blocks ++ [tail ++ chunk.take n], List.length b = d :=
      List.forall_mem_append.mpr ⟨hb, List.forall_mem_singleton.mpr hblk⟩
    have hout : (blocks.map (pdu ctx false)).flatten ++ pdu ctx false (tail ++ chunk.take n)
        = ((blocks ++ [tail ++ chunk.take n]).map (pdu ctx false)).flatten := by simp
    rw [if_neg (by omega), if_neg (by omega), List.append_assoc,
      dispatch_eq hh _ _ (by rw [hblk]; exact hu), hout]
    have hh' := hdr_pdu_take ctx false (tail ++ chunk.take n)
    simp only [hh'.length, Nat.add_sub_cancel]
    by_cases hn0 : n > 0
    · rw [if_pos hn0]
      exact ⟨_, _, hn0, rfl, _, [], _, hh', Nat.zero_le _, hb', by simp, by simp⟩
    · have hn0 : n = 0 := by omega
      subst hn0
      rw [if_neg (Nat.lt_irrefl 0)]
      refine ⟨_, _, by omega, rfl, _, _, _, hh', ?_, hb', by simp, rfl⟩
      rw [List.length_take]; omega

theorem writeAll_spec {max ctx : Nat} (hm : 6 < max) (hM : max ≤ maximumPduSize) :
    ∀ (n : Nat) (chunk : Bytes), chunk.length = n → ∀ (p : Bytes) (s : SW), Taken max ctx p s →
      ∃ s', writeAll max s chunk = (s', .ok) ∧ Taken max ctx (p ++ chunk) s' := by
  intro n
  induction n using Nat.strongRecOn with
  | ind n ih =>
    intro chunk hn p s hs
    by_cases hc : chunk = []
    · subst hc
      exact ⟨s, writeAll_nil max s, by rwa [List.append_nil]⟩
    · obtain ⟨s1, k, hk, hw, hs1⟩ := write_step hm hM hs hc
      obtain ⟨k', rfl⟩ : ∃ k', k = k' + 1 := ⟨k - 1, by omega⟩
      have hpos : 0 < chunk.length := List.length_pos_iff.mpr hc
      obtain ⟨s', hw', hs'⟩ := ih (chunk.drop (k' + 1)).length (by rw [List.length_drop]; omega)
        _ rfl _ s1 hs1
      rw [List.append_assoc, List.take_append_drop] at hs'
      exact ⟨s', by rw [writeAll_some hc hw]; exact hw', hs'⟩

theorem writeChunks_spec {max ctx : Nat} (hm : 6 < max) (hM : max ≤ maximumPduSize) :
    ∀ (chunks : List Bytes) (p : Bytes) (s : SW), Taken max ctx p s →
      ∃ s', writeChunks max s chunks = (s', .ok) ∧ Taken max ctx (p ++ chunks.flatten) s' := by
  intro chunks
  induction chunks with
  | nil => intro p s hs; exact ⟨s, rfl, by rwa [List.flatten_nil, List.append_nil]⟩
  | cons c cs ih =>
    intro p s hs
    obtain ⟨s1, hw1, hs1⟩ := writeAll_spec hm hM _ c rfl p s hs
    obtain ⟨s', hw, hs'⟩ := ih _ s1 hs1
    rw [List.append_assoc] at hs'
    exact ⟨s', by rw [writeChunks, hw1]; exact hw, hs'⟩

theorem finishImpl_eq {ctx : Nat} {h : Bytes} (hh : Hdr ctx h) (tail out : Bytes)
    (ht : tail.length + 6 < u32) :
    finishImpl ⟨h ++ tail, out⟩ = some ⟨[], out ++ pdu ctx true tail⟩ := by
  have hne : (h ++ tail).isEmpty = false := by
    obtain ⟨a, b, c, d, e, f, g, i, x, rfl⟩ := hh; rfl
  simp only [finishImpl, hne, setupHeader_eq hh tail true ht, Bool.false_eq_true, if_false]

/-- Closed form of a whole synchronous session, for every chunking: full non-last PDUs of
`max - 6` data bytes each, then the last PDU with what remains. -/
theorem runSync_form {max ctx : Nat} (hm : 6 < max) (hM : max ≤ maximumPduSize)
    (chunks : List Bytes) :
    ∃ (blocks : List Bytes) (tail : Bytes), (∀ b ∈ blocks, List.length b = max - 6) ∧
      tail.length ≤ max - 6 ∧ blocks.flatten ++ tail = chunks.flatten ∧
      runSync max ctx chunks = ((blocks.map (pdu ctx false)).flatten ++ pdu ctx true tail, .ok) := by
  obtain ⟨s', hw, h, tail, blocks, hh, hl, hb, hcat, rfl⟩ :=
    writeChunks_spec hm hM chunks [] _ (taken_init max ctx)
  have ht : tail.length + 6 < u32 := by have := maximumPduSize_lt; omega
  refine ⟨blocks, tail, hb, hl, hcat, ?_⟩
  simp only [runSync, hw, finishImpl_eq hh tail _ ht]

/-! ### the independent parser on emitted streams -/

/-- what the parser reads back from `pdu ctx last data` -/
def fragOf (ctx : Nat) (last : Bool) (data : Bytes) : Frag :=
  ⟨data.length + 6, ctx, if last then 2 else 0, data⟩

/-- `rdBe32 (be32 n ++ [])` computes to this sum -/
theorem be_val (n : Nat) (hn : n < u32) :
    16777216 * (n / 16777216 % 256) + 65536 * (n / 65536 % 256) + 256 * (n / 256 % 256) + n % 256 = n :=
  (Prod.mk.inj (Option.some.inj (rdBe32_be32 n hn []))).1

theorem parseFrag_pdu (ctx : Nat) (last : Bool) (data rest : Bytes) (hd : data.length + 6 < u32) :
    parseFrag (pdu ctx last data ++ rest)
      = some (fragOf ctx last data, data.length + 12) := by
  have h1 := be_val (data.length + 6) hd
  have h2 := be_val (data.length + 2) (by omega)
  simp only [pdu, be32, List.cons_append, List.nil_append, parseFrag, h1, h2, fragOf]
  simp

theorem parseFrags_nil : parseFrags [] = some [] := by
  rw [parseFrags]; rfl

theorem parseFrags_pdu (ctx : Nat) (last : Bool) (data rest : Bytes) (hd : data.length + 6 < u32) :
    parseFrags (pdu ctx last data ++ rest)
      = (parseFrags rest).map (fragOf ctx last data :: ·) := by
  have hdrop : (pdu ctx last data ++ rest).drop (data.length + 12 - 1 + 1) = rest := by
    rw [Nat.sub_add_cancel (by omega), ← pdu_length ctx last data, List.drop_left]
  rw [parseFrags, if_neg (by simp [pdu]), parseFrag_pdu ctx last data rest hd]
  simp only [hdrop]
  cases parseFrags rest <;> rfl

theorem parseFrags_stream (ctx : Nat) (blocks : List Bytes) (tail : Bytes)
    (hb : ∀ b ∈ blocks, List.length b + 6 < u32) (ht : tail.length + 6 < u32) :
    parseFrags ((blocks.map (pdu ctx false)).flatten ++ pdu ctx true tail)
      = some (blocks.map (fragOf ctx false) ++ [fragOf ctx true tail]) := by
  induction blocks with
  | nil =>
    have := parseFrags_pdu ctx true tail [] ht
    rw [List.append_nil, parseFrags_nil] at this
    exact this
  | cons b bs ih =>
    rw [List.map_cons, List.flatten_cons, List.append_assoc,
      parseFrags_pdu ctx false b _ (hb b List.mem_cons_self),
      ih (fun x hx => hb x (List.mem_cons_of_mem _ hx))]
    rfl

theorem flatMap_fragOf_data (ctx : Nat) (last : Bool) (blocks : List Bytes) :
    (blocks.map (fragOf ctx last)).flatMap (·.data) = blocks.flatten := by
  induction blocks with
  | nil => rfl
  | cons b bs ih => rw [List.map_cons, List.flatMap_cons, ih]; rfl

theorem specOk_stream (max ctx : Nat) (blocks : List Bytes) (tail : Bytes)
    (hb : ∀ b ∈ blocks, List.length b + 6 ≤ max) (ht : tail.length + 6 ≤ max) :
    specOk max ctx (blocks.flatten ++ tail) (blocks.map (fragOf ctx false) ++ [fragOf ctx true tail])
      = true := by
  have h2 : ∀ f ∈ blocks.map (fragOf ctx false) ++ [fragOf ctx true tail],
      (decide (f.pduLen ≤ max) && f.ctx == ctx) = true := by
    refine List.forall_mem_append.mpr ⟨List.forall_mem_map.mpr fun b hb' => ?_,
      List.forall_mem_singleton.mpr ?_⟩
    · simp [fragOf, hb b hb']
    · simp [fragOf, ht]
  have h3 : ∀ f ∈ blocks.map (fragOf ctx false), (f.ctrl == 0) = true :=
    List.forall_mem_map.mpr fun _ _ => rfl
  have h5 : (blocks.map (fragOf ctx false) ++ [fragOf ctx true tail]).flatMap (·.data)
      = blocks.flatten ++ tail := by
    rw [List.flatMap_append, flatMap_fragOf_data]; simp [fragOf]
  simp only [specOk, List.dropLast_concat, List.getLast?_concat, h5, List.all_eq_true.mpr h2,
    List.all_eq_true.mpr h3]
  simp [fragOf]

end Dicom.PData
