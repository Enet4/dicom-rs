import DicomModel.Lemmas.NormTree
/-
The normal form of a well-formed data set is canonical (Model/RefEncode.lean) with all sequence / item
lengths undefined — hence the reader / builder theorems proved for canonical trees (Props/C02,
Lemmas/Ref*.lean) apply to what the writer wrote for the ORIGINAL data set.
-/
namespace Dicom.Norm
open Dicom.C04 Dicom.Ref

theorem short16_iff (vr : VR) : Ref.short16 vr = true ↔ vr ∈ C03.ps35 := by cases vr <;> decide

theorem sortedFrom_map {F : Elems → Elems} {f : Elem → Elem} (hnil : F .nil = .nil)
    (hcons : ∀ e r, F (.cons e r) = .cons (f e) (F r)) (htag : ∀ e, Ref.tagOf (f e) = Ref.tagOf e) :
    ∀ (es : Elems) (prev : Tag), Ref.sortedFrom prev (F es) = Ref.sortedFrom prev es
  | .nil, _ => by rw [hnil]
  | .cons e r, prev => by
    rw [hcons]; simp only [Ref.sortedFrom, htag, sortedFrom_map hnil hcons htag r]

theorem sortedElems_map {F : Elems → Elems} {f : Elem → Elem} (hnil : F .nil = .nil)
    (hcons : ∀ e r, F (.cons e r) = .cons (f e) (F r)) (htag : ∀ e, Ref.tagOf (f e) = Ref.tagOf e) :
    ∀ (es : Elems), Ref.sortedElems (F es) = Ref.sortedElems es
  | .nil => by rw [hnil]
  | .cons e r => by
    rw [hcons]; simp only [Ref.sortedElems, htag, sortedFrom_map hnil hcons htag]

theorem sortedElems_norm (ts : Syntax) (es : Elems) : Ref.sortedElems (normElems ts es) = Ref.sortedElems es :=
  sortedElems_map rfl (fun _ _ => rfl) (fun e => by cases e <;> rfl) es

mutual
theorem canon_norm_elem (ts : Syntax) (dict : Tag → Option VR) : ∀ (e : Elem), WfElem ts dict e →
    Ref.canonElem ts dict (normElem ts e) = true ∧ Ref.allUndefElem (normElem ts e) = true
  | .prim tag vr len v, h => by
    obtain ⟨htag, _, hv, hf, himp⟩ := h
    have hrv := refValue_norm ts.bigEndian vr v hv
    have heven := paddedValue_length_even ts.bigEndian vr v
    refine ⟨?_, rfl⟩
    simp only [normElem, Ref.canonElem, Bool.and_eq_true]
    refine ⟨⟨⟨⟨⟨⟨htag, ?_⟩, ?_⟩, ?_⟩, ?_⟩, ?_⟩, ?_⟩
    · simp [hv.1]
    · unfold Ref.lenTrue; rw [hrv]; simp [hf.1]
    · simp [heven]
    · cases hx : ts.explicit && Ref.short16 vr with
      | false => rfl
      | true =>
        rw [Bool.and_eq_true] at hx
        exact decide_eq_true (Nat.lt_succ_of_le (hf.2 hx.1 ((short16_iff vr).mp hx.2)))
    · simpa using himp
    · by_cases h0 : paddedValue ts.bigEndian vr v = []
      · rw [norm_empty h0, h0]; rfl
      · have hl : (paddedValue ts.bigEndian vr v).length ≠ 0 := fun hh => h0 (List.length_eq_zero_iff.mp hh)
        rw [if_neg hl]
        exact valueFits_norm ts.bigEndian vr v hv h0
  | .seq tag len items, h => by
    obtain ⟨htag, hpx, hit⟩ := h
    obtain ⟨c, u⟩ := canon_norm_items ts dict items hit
    refine ⟨?_, by simp [normElem, Ref.allUndefElem, u]⟩
    simp only [normElem, Ref.canonElem, Bool.and_eq_true]
    refine ⟨⟨⟨htag, by simp [hpx]⟩, by simp⟩, c⟩
  | .pix bot frags, h => by
    obtain ⟨hb, ho, hf⟩ := h
    refine ⟨?_, rfl⟩
    simp only [normElem, Ref.canonElem, Bool.and_eq_true]
    refine ⟨⟨by simp [hb], List.all_eq_true.mpr (fun o ho' => by simpa using ho o ho')⟩, ?_⟩
    apply List.all_eq_true.mpr
    intro f hfm
    obtain ⟨g, hg, rfl⟩ := List.mem_map.mp hfm
    obtain ⟨hl, hbytes⟩ := hf g hg
    have h1 := padTo_even g 0
    have h2 : (padTo g 0).length < 4294967295 := by rw [padTo_length]; unfold evenUp; omega
    have h3 := padTo_lt hbytes (p := 0) (by decide)
    simp only [Bool.and_eq_true]
    exact ⟨⟨by simp [h1], by simp [h2]⟩, List.all_eq_true.mpr (fun b hb' => by simpa using h3 b hb')⟩
theorem canon_norm_items (ts : Syntax) (dict : Tag → Option VR) : ∀ (its : Items), WfItems ts dict its →
    Ref.canonItems ts dict (normItems ts its) = true ∧ Ref.allUndefItems (normItems ts its) = true
  | .nil, _ => ⟨rfl, rfl⟩
  | .cons len es r, h => by
    obtain ⟨c1, u1⟩ := canon_norm_elems ts dict es h.1
    obtain ⟨c2, u2⟩ := canon_norm_items ts dict r h.2.2
    have hs : Ref.sortedElems (normElems ts es) = true := by rw [sortedElems_norm]; exact h.2.1
    exact ⟨by simp [normItems, Ref.canonItems, c1, c2, hs], by simp [normItems, Ref.allUndefItems, u1, u2]⟩
theorem canon_norm_elems (ts : Syntax) (dict : Tag → Option VR) : ∀ (es : Elems), WfElems ts dict es →
    Ref.canonElems ts dict (normElems ts es) = true ∧ Ref.allUndefElems (normElems ts es) = true
  | .nil, _ => ⟨rfl, rfl⟩
  | .cons e r, h => by
    obtain ⟨c1, u1⟩ := canon_norm_elem ts dict e h.1
    obtain ⟨c2, u2⟩ := canon_norm_elems ts dict r h.2
    exact ⟨by simp [normElems, Ref.canonElems, c1, c2], by simp [normElems, Ref.allUndefElems, u1, u2]⟩
end

theorem readDataset_ref (ts : Syntax) (dict : Tag → Option VR) (c : Elems) (hd : Ref.dictOk ts dict = true)
    (hc : Ref.canonElems ts dict c = true) (hs : Ref.sortedElems c = true) :
    readDataset ts dict (Ref.encElems ts c) = .ok c := by
  unfold readDataset
  have htok := tokens_le_elems ts c
  rw [readTokens_ref ts dict _ hd hc _ (by omega)]
  simp only
  rw [buildObject_ref ts dict _ hc hs _ (Nat.lt_succ_self _)]
  simp [elemsOfList_toList]

/-- **write then read**: for every well-formed data set of any nesting depth, in each of the three
uncompressed syntaxes, the default writer succeeds and reading its output back yields exactly the
normal form of the data set. -/
theorem write_read_norm (ts : Syntax) (dict : Tag → Option VR) (t : Elems)
    (hd : Ref.dictOk ts dict = true) (hwf : WfElems ts dict t) (hsorted : Ref.sortedElems t = true) :
    ∃ bs, writeDataset ts .setUndefined t = .ok bs ∧ readDataset ts dict bs = .ok (normElems ts t) := by
  obtain ⟨hc, hu⟩ := canon_norm_elems ts dict t hwf
  refine ⟨Ref.encElems ts (normElems ts t), ?_, readDataset_ref ts dict _ hd hc ((sortedElems_norm ts t).trans hsorted)⟩
  rw [← write_norm ts dict t hwf]
  exact writeDataset_ref ts dict .setUndefined _ hc (Or.inr hu)

end Dicom.Norm
