import DicomModel.Model.LazyReader
import DicomModel.Lemmas.Drops
/-
C06 (`LE` = "lazy / eager"): the lazy reader (`LState`) simulates the eager reader (`RState` of Model/Reader.lean, not
C07/C08's `Rd.RSt`), step by step, on EVERY input — except at three places where the two deliberately differ (`Anom`).
-/
namespace Dicom.LE

/-- the lazy reader's view of an eager reader state (it has no `offset_table_next`) -/
def toLazy (s : RState) : LState :=
  ⟨s.dec, s.inSequence, s.delimiterCheckPending, s.seqDelimiters, s.hardBreak, s.lastHeader, none⟩

/-- an offset table token and the item value token of the same item compare by their bytes -/
def normTok (be : Bool) : Token → Token
  | .offsetTable vs => .itemValue (vs.flatMap (enc32 be))
  | t => t

/-- errors correspond (since fix b2f95f8 the lazy reader reports `UnexpectedItemHeader` where it used to
panic, like the eager reader) -/
def errRel (e : RErr) (le : LErr) : Prop := le = .err e

/-- the value of a pixel data item as both readers see it: the eager reader needs the declared number of
bytes, the lazy consumer takes what is there; an offset table is re-encoded from the numbers read -/
def itemValueAgrees (s : RState) (len : Nat) : Bool :=
  if s.offsetTableNext then
    match rdMany (rd32 s.dec.ts.bigEndian) (len / 4) s.dec.rest with
    | some (vs, r) => decide (len % 4 = 0 ∧ takeN len s.dec.rest = some (vs.flatMap (enc32 s.dec.ts.bigEndian), r))
    | none => false
  else true

/-- the places where the two readers differ by design (state after the delimiter check):
 * an item delimitation item outside any sequence (eager: ignored; lazy: `ItemEnd`),
 * the input ends inside a pixel data sequence (eager: graceful end; lazy: error),
 * an offset table item that is cut short or whose length is not a multiple of 4 -/
def Anom (s : RState) : Bool :=
  if s.inSequence then
    match s.dec.decodeItemHeader with
    | .error .eof => (match s.seqDelimiters with | t :: _ => t.pixelData | [] => false)
    | _ => false
  else
    match s.seqDelimiters with
    | ⟨true, len, true, _⟩ :: _ => len != undefinedLen && !itemValueAgrees s len
    | _ =>
      match s.lastHeader with
      | some _ => false
      | none =>
        match s.dec.decodeHeader with
        | .ok (h, _) => h.vr != .SQ && h.tag == Tag.itemDelim && s.seqDelimiters.isEmpty
        | .error _ => false

def bodyOwned (l : LState) : Option (Except LErr Token) × LState :=
  match l.advanceBody with
  | (none, l') => (none, l')
  | (some (.error e), l') => (some (.error e), l')
  | (some (.ok t), l') =>
    match t.intoOwned l'.dec with
    | .ok (tok, d) => (some (.ok tok), { l' with dec := d })
    | .error e => (some (.error (.err e)), l')

/-- outcome of one eager `next()` vs one lazy `advance` + `into_owned` -/
def StepRes (be : Bool) : Option (Except RErr Token) × RState → Option (Except LErr Token) × LState → Prop
  | (none, _), (none, _) => True
  | (some (.error e), _), (some (.error le), _) => errRel e le
  | (some (.ok t), s'), (some (.ok t'), l') => t' = normTok be t ∧ l' = toLazy s'
  | _, _ => False

def SimRes (be : Bool) : Option (Option (Except RErr Token)) × RState → Option (Except LErr Token) × LState → Prop
  | (some r, s'), x => StepRes be (r, s') x
  | (none, _), _ => False

section
/- the closing step of every branch below -/
attribute [local simp] SimRes StepRes errRel LTok.intoOwned Dec.readToVec normTok toLazy RState.push LState.push

theorem body_sim (s : RState) (h : Anom s = false) :
    SimRes s.dec.ts.bigEndian s.nextBody (bodyOwned (toLazy s)) := by
  unfold RState.nextBody bodyOwned LState.advanceBody Anom at *
  cases hs : s.inSequence
  · simp only [toLazy, hs, Bool.false_eq_true, if_false] at *
    by_cases hp : ∃ len b tl, s.seqDelimiters = ⟨true, len, true, b⟩ :: tl
    · obtain ⟨len, base, rest, hst⟩ := hp
      simp only [hst] at *
      by_cases hu : len = undefinedLen
      · simp [hu]
      · have hag : itemValueAgrees s len = true := by
          have hne : (len != undefinedLen) = true := by simp [hu]
          rw [hne] at h
          simpa using h
        unfold itemValueAgrees at hag
        simp only [hu, if_false]
        by_cases ho : s.offsetTableNext = true
        · simp only [ho, if_true] at hag ⊢
          rcases hr : rdMany (rd32 s.dec.ts.bigEndian) (len / 4) s.dec.rest with _ | ⟨vs, r⟩
          · simp [hr] at hag
          · simp only [hr, decide_eq_true_eq] at hag
            obtain ⟨h4, htk⟩ := hag
            obtain ⟨⟨t2, _⟩, t1⟩ := takeN_drops htk
            simp [h4, ← t1, ← t2]
        · simp only [ho, Bool.false_eq_true, if_false] at hag ⊢
          simp
    · have hpl : ∀ len b tl, s.seqDelimiters ≠ ⟨true, len, true, b⟩ :: tl := fun len b tl hst => hp ⟨len, b, tl, hst⟩
      -- `hpl` in the context lets `simp` take the last arm of the `match`es on the delimiter stack
      simp only at *
      cases hlh : s.lastHeader with
      | some header =>
        simp only [hlh] at h ⊢
        by_cases he : header.isEncapsulatedPixeldata = true
        · simp only [he, if_true, RState.push, LState.push]
          rcases hd : s.dec.decodeItemHeader with e | ⟨ih, d⟩
          · simp
          · cases ih with
            | item len => by_cases hz : len = 0 <;> simp [hz]
            | itemDelim => simp
            | seqDelim => simp
        · simp only [he, Bool.false_eq_true, if_false]
          rcases hv : s.dec.readValuePreserved header with e | ⟨v, d⟩
          · simp [hv]
          · simp [hv]
      | none =>
        simp only [hlh] at h ⊢
        rcases hd : s.dec.decodeHeader with e | ⟨hh, d⟩
        · by_cases h4 : s.dec.rest.length < 4 <;> simp [h4]
        · simp only [hd] at h ⊢
          by_cases hsq : hh.vr = .SQ
          · by_cases hz : hh.len = 0 <;>
              simp [hsq, hz]
          · by_cases hid : hh.tag = Tag.itemDelim
            · simp_all
            · by_cases hen : hh.isEncapsulatedPixeldata = true
              · simp [hsq, hid, hen]
              · by_cases hun : hh.len = undefinedLen
                · simp [hsq, hid, hen, hun]
                · simp [hsq, hid, hen, hun]
  · simp only [toLazy, hs, if_true] at *
    rcases hd : s.dec.decodeItemHeader with e | ⟨ih, d⟩
    · simp only [hd] at h ⊢
      cases e <;> simp_all
      all_goals (cases hsd : s.seqDelimiters <;> simp_all)
    · simp only [hd] at h ⊢
      cases ih with
      | item len =>
        cases hsd : s.seqDelimiters with
        | nil => simp
        | cons last rest =>
          by_cases hz : len = 0 <;>
            simp [hz]
      | itemDelim => simp
      | seqDelim => simp

end

theorem lupdate_cases (l : LState) :
    (∃ t l', l.updateSeqDelimiters = (.ok (some t), l') ∧ (t = .itemEnd ∨ t = .sequenceEnd) ∧ l'.dec = l.dec) ∨
    l.updateSeqDelimiters = (.error .inconsistentSequenceEnd, l) ∨
    l.updateSeqDelimiters = (.ok none, { l with delimiterCheckPending := false }) := by
  unfold LState.updateSeqDelimiters
  split
  · split
    · dsimp only
      split
      · split
        · exact .inl ⟨_, _, rfl, .inl rfl, rfl⟩
        · exact .inl ⟨_, _, rfl, .inr rfl, rfl⟩
      · split
        · exact .inr (.inl rfl)
        · exact .inr (.inr rfl)
    · exact .inr (.inr rfl)
  · exact .inr (.inr rfl)

theorem update_sim (s : RState) :
    (toLazy s).updateSeqDelimiters = (s.updateSeqDelimiters.1, toLazy s.updateSeqDelimiters.2) := by
  obtain ⟨dec, inSeq, ot, pend, stack, hb, last⟩ := s
  cases stack with
  | nil => rfl
  | cons sd rest =>
    dsimp only [LState.updateSeqDelimiters, RState.updateSeqDelimiters, toLazy]
    repeat' split
    all_goals rfl

/-- the anomaly test for one `next()` call: evaluated on the state in which the loop body runs -/
def AnomStep (s : RState) : Bool :=
  !s.hardBreak &&
    (if s.delimiterCheckPending then
      match s.updateSeqDelimiters with
      | (.ok none, s') => Anom s'
      | _ => false
    else Anom s)

def nextFromBody (fuel : Nat) (s : RState) : Option (Except RErr Token) × RState :=
  match s.nextBody with
  | (some r, s') => (r, s')
  | (none, s') => RState.next fuel s'

theorem next_eq (fuel : Nat) (s : RState) (hb : s.hardBreak = false) :
    s.next (fuel + 1) =
      if s.delimiterCheckPending then
        match s.updateSeqDelimiters with
        | (.error e, s') => (some (.error e), { s' with hardBreak := true })
        | (.ok (some tok), s') => (some (.ok tok), s')
        | (.ok none, s') => nextFromBody fuel s'
      else nextFromBody fuel s := by
  rw [RState.next]
  simp only [hb, Bool.false_eq_true, if_false]
  cases s.delimiterCheckPending
  · rfl
  · simp only [if_true]
    rcases s.updateSeqDelimiters with ⟨_ | _ | _, s1⟩ <;> rfl

theorem nextOwned_eq (l : LState) (hb : l.hardBreak = false) (hp : l.peeked = none) :
    l.nextOwned =
      if l.delimiterCheckPending then
        match l.updateSeqDelimiters with
        | (.error e, l') => (some (.error (.err e)), { l' with hardBreak := true })
        | (.ok (some tok), l') => (some (.ok tok), l')
        | (.ok none, l') => bodyOwned l'
      else bodyOwned l := by
  unfold LState.nextOwned LState.advance
  simp only [hb, hp, Bool.false_eq_true, if_false]
  cases l.delimiterCheckPending
  · rfl
  · simp only [if_true]
    rcases l.updateSeqDelimiters with ⟨_ | _ | _, l1⟩ <;> rfl

theorem stepRes_of_body {s : RState} {l : LState} {be : Bool} (fuel : Nat)
    (h : SimRes be s.nextBody (bodyOwned l)) : StepRes be (nextFromBody fuel s) (bodyOwned l) := by
  unfold nextFromBody
  split
  · rename_i hn; rw [hn] at h; exact h
  · rename_i hn; rw [hn] at h; exact h.elim

/-- Unless the step is one of the three designed differences, one `next()` of the eager
reader and one `advance()` + `into_owned()` of the lazy reader, started in corresponding states, end the
same way (both end / corresponding errors / the same token up to the offset-table representation) and
leave corresponding states. For every state, hence every input. -/
theorem step_sim (s : RState) (h : AnomStep s = false) (fuel : Nat) :
    StepRes s.dec.ts.bigEndian (s.next (fuel + 1)) (toLazy s).nextOwned := by
  unfold AnomStep at h
  cases hb : s.hardBreak
  · rw [next_eq fuel s hb, nextOwned_eq (toLazy s) hb rfl]
    simp only [hb, Bool.not_false, Bool.true_and] at h
    show StepRes _ _ (if s.delimiterCheckPending = true then _ else _)
    cases hp : s.delimiterCheckPending
    · -- no check pending: the loop body
      simp only [hp, Bool.false_eq_true, if_false] at h ⊢
      exact stepRes_of_body fuel (body_sim s h)
    · -- delimiter check first; it is the same function in both readers
      simp only [hp, if_true] at h ⊢
      rw [update_sim s]
      rcases lupdate_cases (toLazy s) with ⟨t, l', hu, ht, _⟩ | hu | hu
      all_goals
        rw [update_sim s] at hu
        rcases hus : s.updateSeqDelimiters with ⟨ur, s1⟩
        rw [hus] at hu h
        injection hu with hur hs1
        subst hur
      · rcases ht with rfl | rfl <;> exact ⟨rfl, rfl⟩
      · rfl
      · -- nothing to report: the loop body, from a state that differs in the pending flag only
        have hdec : s1.dec = s.dec := congrArg LState.dec hs1
        rw [← hdec]
        exact stepRes_of_body fuel (body_sim s1 h)
  · -- fused
    unfold RState.next LState.nextOwned LState.advance
    simp [hb, toLazy, StepRes]

theorem StepRes.inv {be : Bool} {r : Option (Except RErr Token)} {s' : RState}
    {lr : Option (Except LErr Token)} {l' : LState} (h : StepRes be (r, s') (lr, l')) :
    match r with
    | none => lr = none
    | some (.error e) => lr = some (.error (.err e))
    | some (.ok t) => lr = some (.ok (normTok be t)) ∧ l' = toLazy s' := by
  rcases r with _ | e | t <;> rcases lr with _ | le | t' <;> simp [StepRes, errRel] at h ⊢ <;> simp [h]

/-- the eager run of `readTokens`, instrumented: it stops and raises the flag when the next step is one of
the designed differences -/
def eagerRunA : Nat → RState → List Token × Option RErr × Bool
  | 0, _ => ([], none, false)
  | fuel + 1, s =>
    if AnomStep s then ([], none, true) else
    match s.next (s.dec.rest.length + 1) with
    | (none, _) => ([], none, false)
    | (some (.error e), _) => ([], some e, false)
    | (some (.ok t), s') =>
      let r := eagerRunA fuel s'
      (t :: r.1, r.2.1, r.2.2)

theorem eagerRunA_eq : ∀ (fuel : Nat) (s : RState), (eagerRunA fuel s).2.2 = false →
    readTokens fuel s = ((eagerRunA fuel s).1, (eagerRunA fuel s).2.1)
  | 0, _, _ => rfl
  | fuel + 1, s, h => by
    unfold eagerRunA at h ⊢
    unfold readTokens
    by_cases ha : AnomStep s = true
    · simp [ha] at h
    · simp only [ha, Bool.false_eq_true, if_false] at h ⊢
      rcases hn : s.next (s.dec.rest.length + 1) with ⟨r, s'⟩
      rw [hn] at h
      cases r with
      | none => rfl
      | some r =>
        cases r with
        | error e => rfl
        | ok t =>
          simp only at h ⊢
          rw [eagerRunA_eq fuel s' h]

/-- equal up to the offset-table representation, in either byte order -/
def TokRel (t t' : Token) : Prop := ∃ be, t' = normTok be t

def ToksRel : List Token → List Token → Prop
  | [], [] => True
  | t :: r, t' :: r' => TokRel t t' ∧ ToksRel r r'
  | _, _ => False

def EndRel : Option RErr → Option LErr → Prop
  | none, none => True
  | some e, some le => errRel e le
  | _, _ => False

/-- Materialising the lazy tokens gives the eager token run, for every starting state (hence every
byte string, valid or not), as long as the eager run does not reach one of the three designed differences:
same number of tokens, each the same up to the offset-table representation, same ending (end of data, or
corresponding errors) -/
theorem lazy_run_eq_eager_run : ∀ (fuel : Nat) (s : RState), (eagerRunA fuel s).2.2 = false →
    ToksRel (eagerRunA fuel s).1 (lazyTokens fuel (toLazy s)).1 ∧
    EndRel (eagerRunA fuel s).2.1 (lazyTokens fuel (toLazy s)).2
  | 0, _, _ => by simp [eagerRunA, lazyTokens, ToksRel, EndRel]
  | fuel + 1, s, h => by
    unfold eagerRunA at h ⊢
    unfold lazyTokens
    by_cases ha : AnomStep s = true
    · simp [ha] at h
    · simp only [ha, Bool.false_eq_true, if_false] at h ⊢
      have hst := step_sim s (by simpa using ha) s.dec.rest.length
      rcases hn : s.next (s.dec.rest.length + 1) with ⟨r, s'⟩
      rcases hl : (toLazy s).nextOwned with ⟨lr, l'⟩
      rw [hn, hl] at hst
      rw [hn] at h
      have hi := hst.inv
      rcases r with _ | e | t
      · rw [hi]; exact ⟨trivial, trivial⟩
      · rw [hi]; exact ⟨trivial, rfl⟩
      · obtain ⟨rfl, rfl⟩ := hi
        have ih := lazy_run_eq_eager_run fuel s' h
        exact ⟨⟨⟨_, rfl⟩, ih.1⟩, ih.2⟩

theorem not_anom_of_body (s : RState) (t : Token) (s' : RState) (hb : s.nextBody = (some (some (.ok t)), s'))
    (hne : ∀ vs, t ≠ .offsetTable vs) : Anom s = false := by
  cases ha : Anom s
  · rfl
  · exfalso
    unfold Anom at ha
    unfold RState.nextBody at hb
    cases hs : s.inSequence
    · simp only [hs, Bool.false_eq_true, if_false] at ha hb
      by_cases hp : ∃ len b tl, s.seqDelimiters = ⟨true, len, true, b⟩ :: tl
      · -- pixel data item: the values disagree only where the eager reader yields an offset table
        obtain ⟨l, b, tl, hst⟩ := hp
        simp only [hst, Bool.and_eq_true, bne_iff_ne, ne_eq, Bool.not_eq_true'] at ha hb
        obtain ⟨hu, hag⟩ := ha
        unfold itemValueAgrees at hag
        simp only [hu, if_false] at hb
        by_cases ho : s.offsetTableNext = true
        · simp only [ho, if_true] at hb
          split at hb
          · cases hb
            exact hne _ rfl
          · cases hb
        · simp [ho] at hag
      · -- the only other difference is the stray delimiter, which yields no token
        have hpl : ∀ len b tl, s.seqDelimiters ≠ ⟨true, len, true, b⟩ :: tl :=
          fun len b tl hst => hp ⟨len, b, tl, hst⟩
        simp only at ha hb
        cases hlh : s.lastHeader with
        | some header => simp [hlh] at ha
        | none =>
          simp only [hlh] at ha hb
          rcases hd : s.dec.decodeHeader with e | ⟨hh, d⟩
          · simp [hd] at ha
          · simp only [hd, Bool.and_eq_true, bne_iff_ne, ne_eq, beq_iff_eq, List.isEmpty_iff] at ha hb
            obtain ⟨⟨h1, h2⟩, h3⟩ := ha
            simp [h1, h2, h3] at hb
    · -- at sequence level: the end of input inside a pixel data sequence yields no token
      simp only [hs, if_true] at ha hb
      rcases hd : s.dec.decodeItemHeader with e | ⟨ih, d⟩
      · simp only [hd] at ha hb
        cases e <;> simp at ha
        rcases hst : s.seqDelimiters with _ | ⟨t0, rest⟩
        · simp [hst] at ha
        · simp only [hst] at ha hb
          simp [ha] at hb
      · simp [hd] at ha

/-- a successful eager step with no fuel for a second round of the loop, yielding anything but an offset
table, is none of the designed differences -/
theorem calm_of_next (s : RState) (t : Token) (s' : RState) (h : s.next 1 = (some (.ok t), s'))
    (hne : ∀ vs, t ≠ .offsetTable vs) : AnomStep s = false := by
  unfold AnomStep
  cases hb : s.hardBreak
  · rw [next_eq 0 s hb] at h
    -- with no fuel for another round, a token out of the loop is a token of the loop body
    have body : ∀ s1, nextFromBody 0 s1 = (some (.ok t), s') → Anom s1 = false := by
      intro s1 h1
      unfold nextFromBody at h1
      split at h1
      · rename_i hn
        cases h1
        exact not_anom_of_body s1 t _ hn hne
      · cases h1
    cases hp : s.delimiterCheckPending
    · rw [hp] at h
      exact body s h
    · rw [hp] at h
      simp only [if_true] at h
      generalize s.updateSeqDelimiters = u at h
      rcases u with ⟨_ | _ | _, s1⟩
      · rfl
      · exact body s1 h
      · rfl
  · rfl

end Dicom.LE
