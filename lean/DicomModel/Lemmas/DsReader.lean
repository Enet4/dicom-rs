import DicomModel.Model.Adaptive
import DicomModel.Lemmas.Drops
/-
Lemmas about the parametrised reader model of Model/DsReader.lean (state `Rd.RSt`, namespace `Rd` = "reader"; the
other model of `DataSetReader::next`, `RState` of Model/Reader.lean, is LazyEager.lean's) and the adaptive decoder,
for C07 and C08: the header branch of `next`, two header decoders under the same reader, and independence of the
run from `Dec.itemEofGraceful` up to the final record.
-/
namespace Dicom.Rd
variable {σ σ1 σ2 : Type}

def Step.st : Step → RSt
  | .ret _ s => s
  | .go s => s

def HdrRes.isOk : HdrRes → Bool
  | .ok _ _ _ => true
  | _ => false

theorem headerStep_st (cfg : Cfg) (h0 : ElemHeader) (n : Nat) (rest : Bytes) (s : RSt) :
    (headerStep cfg (.ok h0 n rest) s).st.src = rest ∧
    (headerStep cfg (.ok h0 n rest) s).st.pos = s.pos + n := by
  simp only [headerStep]
  generalize (if s.signedPix = some true ∧ cfg.isXs h0.tag = true then { h0 with vr := VR.SS } else h0) = h
  repeat' split
  all_goals exact ⟨rfl, rfl⟩

theorem headerStep_go {cfg : Cfg} {r : HdrRes} {s s' : RSt} (h : headerStep cfg r s = .go s') :
    ∃ h0 n rest, r = .ok h0 n rest ∧ h0.tag = Tag.itemDelim ∧ s.stack = [] ∧
      s' = { s with src := rest, pos := s.pos + n } := by
  cases r with
  | eofTag => cases h
  | err => cases h
  | ok h0 n rest =>
    simp only [headerStep] at h
    generalize hh : (if s.signedPix = some true ∧ cfg.isXs h0.tag = true then { h0 with vr := VR.SS } else h0)
      = hd at h
    have htag : hd.tag = h0.tag := by rw [← hh]; split <;> rfl
    repeat' split at h
    all_goals first
      | (cases h; done)
      | (rename_i hdelim hempty
         injection h with h
         exact ⟨h0, n, rest, rfl, htag ▸ hdelim, List.isEmpty_iff.mp hempty, h.symm⟩)

theorem headerStep_tok_isOk {cfg : Cfg} {r : HdrRes} {s s' : RSt} {t : Tok}
    (h : headerStep cfg r s = .ret (.tok t) s') : r.isOk = true := by
  cases r with
  | eofTag => cases h
  | err => cases h
  | ok h0 n rest => rfl

theorem preBody_idle {cfg : Cfg} {be g : Bool} {s : RSt} (hin : s.inSeq = false)
    (hl : s.last = none) (hp : ∀ len b tl, s.stack ≠ ⟨true, len, true, b⟩ :: tl) :
    preBody cfg be g s = .go s := by
  unfold preBody
  simp only [hin, Bool.false_eq_true, if_false]
  simp [hl]

theorem preHeader_idle {cfg : Cfg} {be g : Bool} {s : RSt} (hpd : s.pending = false) (hin : s.inSeq = false)
    (hl : s.last = none) (hp : ∀ len b tl, s.stack ≠ ⟨true, len, true, b⟩ :: tl) :
    preHeader cfg be g s = .go s := by
  unfold preHeader
  simp only [hpd, Bool.false_eq_true, if_false]
  exact preBody_idle hin hl hp

theorem next_of_go {cfg : Cfg} {D : Dec σ} {d : σ} {s s0 : RSt} {f : Nat} (hb : s.hardBreak = false)
    (hpre : preHeader cfg D.be D.itemEofGraceful s = .go s0) :
    next cfg D (f + 1) (d, s) =
      match headerStep cfg (D.header d s0.src).1 s0 with
      | .ret o s' => (o, ((D.header d s0.src).2, s'))
      | .go s' => next cfg D f ((D.header d s0.src).2, s') := by
  conv => lhs; unfold next
  rw [if_neg (by simp [hb]), hpre]
  rfl

theorem hdrOf_ok {bs rest : Bytes} {o : Option (ElemHeader × Nat × Bytes)} {h : ElemHeader} {n : Nat}
    (hh : hdrOf bs o = .ok h n rest) : o = some (h, n, rest) := by
  unfold hdrOf at hh
  split at hh
  · cases hh; rfl
  · split at hh <;> cases hh

theorem hdrOf_none_ne_ok {bs rest : Bytes} {h : ElemHeader} {n : Nat} : hdrOf bs none ≠ .ok h n rest :=
  fun hh => nomatch hdrOf_ok hh

theorem hdrOf_none_not_ok (bs : Bytes) : (hdrOf bs none).isOk = false := by
  simp only [hdrOf]; split <;> rfl

theorem hdrOf_none_of_tag {bs : Bytes} {t : Tag} {r : Bytes} (h : decodeTag false bs = some (t, r)) :
    hdrOf bs none = .err :=
  if_neg (Nat.not_lt.mpr (decodeTag_drops h).2)

theorem implicitRest_ok {dictV : Tag → Option VVr} {t : Tag} {bs r rest : Bytes} {h : ElemHeader} {n : Nat}
    {st : VrState} (hh : implicitRest dictV t bs r = (.ok h n rest, st)) :
    h.tag = t ∧ rest.length + n = r.length + 4 := by
  unfold implicitRest at hh
  split at hh
  · rename_i h32
    have := (rdLe32_drops h32).length
    cases hh
    exact ⟨rfl, by omega⟩
  · injection hh with h1 _
    exact absurd h1 hdrOf_none_ne_ok

theorem explicitLength_ok {t : Tag} {vr : VR} {bs r1 rest : Bytes} {h : ElemHeader} {n : Nat}
    (hh : explicitLength t vr bs r1 = .ok h n rest) : h.tag = t ∧ rest.length + n = r1.length + 6 := by
  unfold explicitLength at hh
  split at hh
  · split at hh
    · rename_i h16
      have := (rdLe16_drops h16).length
      cases hh
      exact ⟨rfl, by omega⟩
    · exact absurd hh hdrOf_none_ne_ok
  · split at hh
    · split at hh
      · rename_i h32
        have := (rdLe32_drops h32).length
        cases hh
        exact ⟨rfl, by simp only [List.length_cons]; omega⟩
      · exact absurd hh hdrOf_none_ne_ok
    · exact absurd hh hdrOf_none_ne_ok

theorem adaptiveHeader_ok {dictV : Tag → Option VVr} {st st' : VrState} {bs rest : Bytes}
    {h : ElemHeader} {n : Nat} (hh : adaptiveHeader dictV st bs = (.ok h n rest, st')) :
    ∃ r, decodeTag false bs = some (h.tag, r) ∧ rest.length + n = bs.length := by
  unfold adaptiveHeader at hh
  split at hh
  · injection hh with h1 _
    exact absurd h1 hdrOf_none_ne_ok
  · rename_i t r ht
    have hl := (decodeTag_drops ht).length
    suffices h.tag = t ∧ rest.length + n = bs.length from ⟨r, this.1 ▸ ht, this.2⟩
    -- after the tag: a 32-bit length (group FFFE), `implicitRest`, or two VR bytes and `explicitLength`
    repeat' split at hh
    all_goals first
      | (injection hh with h1 _; exact absurd h1 hdrOf_none_ne_ok)
      | (have := implicitRest_ok hh; exact ⟨this.1, by omega⟩)
      | (have := implicitRest_ok hh; simp only [List.length_cons] at this hl; exact ⟨this.1, by omega⟩)
      | (injection hh with h1 _; have := explicitLength_ok h1; simp only [List.length_cons] at hl
         exact ⟨this.1, by omega⟩)
      | (have := (rdLe32_drops ‹rdLe32 _ = some _›).length; cases hh; exact ⟨rfl, by omega⟩)

/-- relatedness of two steps: same continuation state, outputs related by `Q` -/
def StepRel (Q : Out → Out → Prop) : Step → Step → Prop
  | .ret o1 s1, .ret o2 s2 => Q o1 o2 ∧ s1 = s2
  | .go s1, .go s2 => s1 = s2
  | _, _ => False

/-- a relation on outputs that is reflexive and relates a token to itself only -/
structure GoodQ (Q : Out → Out → Prop) : Prop where
  refl : ∀ o, Q o o
  tokL : ∀ t o, Q (.tok t) o → o = .tok t
  tokR : ∀ t o, Q o (.tok t) → o = .tok t

theorem goodQ_eq : GoodQ (· = ·) := ⟨fun _ => rfl, fun _ _ h => h.symm, fun _ _ h => h⟩

theorem StepRel.refl {Q : Out → Out → Prop} (hQ : GoodQ Q) (x : Step) : StepRel Q x x := by
  cases x <;> simp [StepRel, hQ.refl]

def mapOut (f : Out → Out) (r : Rec) : Rec := { r with out := f r.out }

theorem mapOut_id : mapOut id = id := by funext r; cases r; rfl

section
variable (cfg : Cfg) (D1 : Dec σ1) (D2 : Dec σ2) (Q : Out → Out → Prop) (hQ : GoodQ Q) (R : σ1 → σ2 → Prop)
    (hpre : ∀ s, StepRel Q (preHeader cfg D1.be D1.itemEofGraceful s) (preHeader cfg D2.be D2.itemEofGraceful s))
    (hhdr : ∀ d1 d2 bs, R d1 d2 → (D1.header d1 bs).1 = (D2.header d2 bs).1 ∧
      R (D1.header d1 bs).2 (D2.header d2 bs).2)
include hQ hpre hhdr

theorem next_sim :
    ∀ fuel d1 d2 s, R d1 d2 →
      Q (next cfg D1 fuel (d1, s)).1 (next cfg D2 fuel (d2, s)).1 ∧
      (next cfg D1 fuel (d1, s)).2.2 = (next cfg D2 fuel (d2, s)).2.2 ∧
      R (next cfg D1 fuel (d1, s)).2.1 (next cfg D2 fuel (d2, s)).2.1 := by
  intro fuel
  induction fuel with
  | zero => intro d1 d2 s hR; simp [next, hQ.refl, hR]
  | succ fuel ih =>
    intro d1 d2 s hR
    unfold next
    by_cases hb : s.hardBreak = true
    · simp [hb, hQ.refl, hR]
    · simp only [hb, Bool.false_eq_true, if_false]
      have hp := hpre s
      cases h1 : preHeader cfg D1.be D1.itemEofGraceful s with
      | ret o1 s1 =>
        cases h2 : preHeader cfg D2.be D2.itemEofGraceful s with
        | ret o2 s2 =>
          rw [h1, h2] at hp
          simp only [StepRel] at hp
          simp [hp.1, hp.2, hR]
        | go s2 => rw [h1, h2] at hp; simp [StepRel] at hp
      | go s1 =>
        cases h2 : preHeader cfg D2.be D2.itemEofGraceful s with
        | ret o2 s2 => rw [h1, h2] at hp; simp [StepRel] at hp
        | go s2 =>
          rw [h1, h2] at hp
          simp only [StepRel] at hp
          subst hp
          have hh := hhdr d1 d2 s1.src hR
          simp only
          rw [← hh.1]
          cases hs : headerStep cfg (D1.header d1 s1.src).1 s1 with
          | ret o s' => simp [hQ.refl, hh.2]
          | go s' => simpa using ih _ _ s' hh.2

theorem run_sim (f : Out → Out) (hf : ∀ o1 o2, Q o1 o2 → f o1 = f o2) (total : Nat) :
    ∀ cap d1 d2 s, R d1 d2 →
      (run cfg D1 total cap (d1, s)).map (mapOut f) = (run cfg D2 total cap (d2, s)).map (mapOut f) := by
  intro cap
  induction cap with
  | zero => intro d1 d2 s _; simp [run]
  | succ cap ih =>
    intro d1 d2 s hR
    have hn := next_sim cfg D1 D2 Q hQ R hpre hhdr (s.src.length + 1) d1 d2 s hR
    unfold run
    simp only
    generalize next cfg D1 (s.src.length + 1) (d1, s) = x1 at hn
    generalize next cfg D2 (s.src.length + 1) (d2, s) = x2 at hn
    obtain ⟨o1, e1, s1⟩ := x1
    obtain ⟨o2, e2, s2⟩ := x2
    simp only at hn
    obtain ⟨hq, hs, hr⟩ := hn
    subst hs
    cases o1 with
    | tok t =>
      have := hQ.tokL t o2 hq
      subst this
      simp [mapOut, ih e1 e2 s1 hr]
    | err e =>
      cases o2 with
      | tok t => have := hQ.tokR t _ hq; simp at this
      | err e' => simp [mapOut, hf _ _ hq]
      | done => simp [mapOut, hf _ _ hq]
    | done =>
      cases o2 with
      | tok t => have := hQ.tokR t _ hq; simp at this
      | err e' => simp [mapOut, hf _ _ hq]
      | done => simp [mapOut]

end

/-- the two ways the end of input inside an item header is reported -/
def OutEq (o1 o2 : Out) : Prop :=
  o1 = o2 ∨ ((o1 = .done ∨ o1 = .err .readItemHeader) ∧ (o2 = .done ∨ o2 = .err .readItemHeader))

/-- an end-of-input error in an item header and the graceful end are identified -/
def normOut : Out → Out
  | .err .readItemHeader => .done
  | o => o

theorem OutEq.norm {o1 o2 : Out} (h : OutEq o1 o2) : normOut o1 = normOut o2 := by
  rcases h with h | ⟨h1, h2⟩
  · rw [h]
  · rcases h1 with h1 | h1 <;> rcases h2 with h2 | h2 <;> simp [h1, h2, normOut]

theorem goodQ_outEq : GoodQ OutEq := by
  refine ⟨fun _ => Or.inl rfl, ?_, ?_⟩
  · intro t o h
    rcases h with h | ⟨h1, _⟩
    · exact h.symm
    · rcases h1 with h1 | h1 <;> simp at h1
  · intro t o h
    rcases h with h | ⟨_, h2⟩
    · exact h
    · rcases h2 with h2 | h2 <;> simp at h2

theorem nextInSeq_graceful (cfg : Cfg) (be g1 g2 : Bool) (s : RSt) :
    OutEq (nextInSeq cfg be g1 s).1 (nextInSeq cfg be g2 s).1 ∧
    (nextInSeq cfg be g1 s).2 = (nextInSeq cfg be g2 s).2 := by
  unfold nextInSeq
  split
  · simp [OutEq]
  · simp [OutEq]
  · simp [OutEq]
  · simp only [and_true]; split <;> split <;> simp [OutEq]
  · simp [OutEq]

theorem preBody_graceful (cfg : Cfg) (be g1 g2 : Bool) (s : RSt) :
    StepRel OutEq (preBody cfg be g1 s) (preBody cfg be g2 s) := by
  unfold preBody
  by_cases hin : s.inSeq = true
  · have := nextInSeq_graceful cfg be g1 g2 s
    simp only [hin, if_true]
    exact ⟨this.1, this.2⟩
  · simp only [hin]
    exact StepRel.refl goodQ_outEq _

theorem preHeader_graceful (cfg : Cfg) (be g1 g2 : Bool) (s : RSt) :
    StepRel OutEq (preHeader cfg be g1 s) (preHeader cfg be g2 s) := by
  unfold preHeader
  split
  · split
    · exact StepRel.refl goodQ_outEq _
    · exact StepRel.refl goodQ_outEq _
    · exact preBody_graceful cfg be g1 g2 _
  · exact preBody_graceful cfg be g1 g2 _

end Dicom.Rd
