/-
When `List.dropWhile` leaves a list alone: idempotence of the trimming functions.
-/

theorem List.dropWhile_of_prefix_dropWhile {α : Type} (p : α → Bool) {l t : List α}
    (ht : t <+: l.dropWhile p) : t.dropWhile p = t := by
  cases t with
  | nil => rfl
  | cons a t' =>
    obtain ⟨r, hr⟩ := ht
    have := List.head?_dropWhile_not p l
    rw [← hr] at this
    exact List.dropWhile_cons_of_neg (by simpa using this)

theorem List.dropWhile_idem {α : Type} (p : α → Bool) (l : List α) :
    (l.dropWhile p).dropWhile p = l.dropWhile p :=
  List.dropWhile_of_prefix_dropWhile p (List.prefix_refl _)
