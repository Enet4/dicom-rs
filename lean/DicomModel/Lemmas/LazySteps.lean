import DicomModel.Lemmas.LazyEager
import DicomModel.Lemmas.DecConsume
/-
Annotated steps of the lazy reader `LState` of Model/LazyReader.lean (namespace `LS` = "lazy steps"): what `advance` yields and where the decoder stands once the announced
value has been consumed — by `into_owned`, by `skip`, by `read_to_vec` or by `read_value_preserved` alike.
-/
namespace Dicom.LS
open Dicom.LE Dicom.DC
variable {l l' : LState} {t : Token} {lt : LTok}

/-- tokens that carry no value -/
def structural : Token → Bool
  | .elementHeader _ | .sequenceStart _ _ | .pixelSequenceStart | .sequenceEnd | .itemStart _ | .itemEnd => true
  | _ => false

theorem advanceBody_ok (h : l.advanceBody = (some (.ok lt), l')) :
    (∃ n, l'.dec = after l.dec n ∧ n ≤ l.dec.rest.length) ∧ ∀ t, lt = .tok t → structural t = true := by
  unfold LState.advanceBody at h
  repeat' (first | split at h | dsimp only at h)
  all_goals first
    | (cases h; done)
    | (cases h
       exact ⟨⟨0, rfl, Nat.zero_le _⟩, fun _ e => by cases e <;> rfl⟩)
    | (cases h
       exact ⟨⟨8, decodeItemHeader_after ‹Dec.decodeItemHeader _ = .ok _›⟩, fun _ e => by cases e <;> rfl⟩)
    | (cases h
       exact ⟨decodeHeader_after ‹Dec.decodeHeader _ = .ok _›, fun _ e => by cases e <;> rfl⟩)

theorem advance_ok (h : l.advance = (some (.ok lt), l')) :
    (∃ n, l'.dec = after l.dec n ∧ n ≤ l.dec.rest.length) ∧
      (l.peeked = none → ∀ t, lt = .tok t → structural t = true) := by
  unfold LState.advance at h
  split at h
  · cases h
  · split at h
    · rename_i hpk
      cases h
      exact ⟨⟨0, rfl, Nat.zero_le _⟩, fun hp => by rw [hp] at hpk; cases hpk⟩
    · have body : ∀ {x : LState}, x.advanceBody = (some (.ok lt), l') → x.dec = l.dec →
          (∃ n, l'.dec = after l.dec n ∧ n ≤ l.dec.rest.length) ∧
            (l.peeked = none → ∀ t, lt = .tok t → structural t = true) :=
        fun hb hx => ⟨hx ▸ (advanceBody_ok hb).1, fun _ => (advanceBody_ok hb).2⟩
      split at h
      · rcases lupdate_cases l with ⟨t, l1, hu, ht, hd⟩ | hu | hu <;> rw [hu] at h <;> dsimp only at h
        · cases h
          refine ⟨⟨0, hd, Nat.zero_le _⟩, fun _ t0 e => ?_⟩
          cases e
          rcases ht with rfl | rfl <;> rfl
        · cases h
        · exact body h rfl
      · exact body h rfl

/-- with nothing peeked, a plain token out of `advance` is a structural one -/
theorem advance_tok_structural (hp : l.peeked = none)
    (h : l.advance = (some (.ok (.tok t)), l')) : structural t = true :=
  (advance_ok h).2 hp t rfl

/-- what consuming the announced value amounts to -/
def Consumes (lt : LTok) (d0 : Dec) (t : Token) (d : Dec) : Prop :=
  match lt with
  | .tok t0 => t = t0 ∧ d = d0
  | .lazyValue h => ∃ v, t = .primitiveValue v ∧ d0.readValuePreserved h = .ok (v, d) ∧ d = after d0 h.len
  | .lazyItemValue len => t = .itemValue (d0.rest.take len) ∧ d = after d0 len

/-- one annotated step: from `l` (nothing peeked) `advance` announces a token whose materialised form is `t`;
after the value has been consumed the reader is `l'` (nothing peeked, not fused) -/
def LStep (l : LState) (t : Token) (l' : LState) : Prop :=
  l.peeked = none ∧ l'.peeked = none ∧ l'.hardBreak = false ∧ l'.dec.ts = l.dec.ts ∧
  ∃ lt l0, l.advance = (some (.ok lt), l0) ∧ Consumes lt l0.dec t l'.dec ∧ l' = { l0 with dec := l'.dec }

theorem lstep_of_nextOwned {L : LState} (hp : l.peeked = none) (hq : L.peeked = none)
    (hb : L.hardBreak = false) (hts : L.dec.ts = l.dec.ts) (h : l.nextOwned = (some (.ok t), L)) : LStep l t L := by
  refine ⟨hp, hq, hb, hts, ?_⟩
  unfold LState.nextOwned at h
  split at h
  · cases h
  · cases h
  · rename_i lt l0 ha
    refine ⟨lt, l0, ha, ?_⟩
    split at h
    · rename_i hi
      cases h
      cases lt with
      | tok t0 => cases hi; exact ⟨⟨rfl, rfl⟩, rfl⟩
      | lazyValue hh =>
        simp only [LTok.intoOwned] at hi
        split at hi
        · rename_i hv
          cases hi
          exact ⟨⟨_, rfl, hv, (readValuePreserved_after hv).1⟩, rfl⟩
        · cases hi
      | lazyItemValue len => cases hi; exact ⟨⟨rfl, rfl⟩, rfl⟩
    · cases h

/-- a structural token: `advance` returns it and nothing else happens -/
theorem LStep.tok_inv (h : LStep l t l') (hs : structural t = true) :
    l.advance = (some (.ok (.tok t)), l') := by
  obtain ⟨_, _, _, _, lt, l0, ha, hc, hl⟩ := h
  cases lt with
  | tok t0 =>
    obtain ⟨h1, h2⟩ := hc
    subst h1
    rw [ha, hl, h2]
  | lazyValue hh => obtain ⟨v, h1, _⟩ := hc; subst h1; cases hs
  | lazyItemValue len => obtain ⟨h1, _⟩ := hc; subst h1; cases hs

/-- an element value: `advance` announces `LazyValue`, reading it gives `v` and leaves `l'` -/
theorem LStep.value_inv {v : PValue} (h : LStep l (.primitiveValue v) l') :
    ∃ hh l0, l.advance = (some (.ok (.lazyValue hh)), l0) ∧ l0.dec.readValuePreserved hh = .ok (v, l'.dec) ∧
      l'.dec = after l0.dec hh.len ∧ l' = { l0 with dec := l'.dec } := by
  obtain ⟨hp, _, _, _, lt, l0, ha, hc, hl⟩ := h
  cases lt with
  | tok t0 =>
    obtain ⟨h1, _⟩ := hc
    subst h1
    have := advance_tok_structural hp ha
    cases this
  | lazyValue hh =>
    obtain ⟨v', h1, h2, h3⟩ := hc
    injection h1 with h1; subst h1
    exact ⟨hh, l0, ha, h2, h3, hl⟩
  | lazyItemValue len => obtain ⟨h1, _⟩ := hc; cases h1

/-- an item value: `advance` announces `LazyItemValue len`, the value is the next `len` bytes -/
theorem LStep.item_inv {b : Bytes} (h : LStep l (.itemValue b) l') :
    ∃ len l0, l.advance = (some (.ok (.lazyItemValue len)), l0) ∧ b = l0.dec.rest.take len ∧
      l'.dec = after l0.dec len ∧ l' = { l0 with dec := l'.dec } := by
  obtain ⟨hp, _, _, _, lt, l0, ha, hc, hl⟩ := h
  cases lt with
  | tok t0 =>
    obtain ⟨h1, _⟩ := hc
    subst h1
    have := advance_tok_structural hp ha
    cases this
  | lazyValue hh => obtain ⟨v', h1, _⟩ := hc; cases h1
  | lazyItemValue len =>
    obtain ⟨h1, h2⟩ := hc
    injection h1 with h1
    exact ⟨len, l0, ha, h1, h2, hl⟩

/-- successive annotated steps -/
inductive LRun : LState → List Token → LState → Prop
  | nil (l : LState) : LRun l [] l
  | cons {l l1 l2 : LState} {t : Token} {ts : List Token} : LStep l t l1 → LRun l1 ts l2 → LRun l (t :: ts) l2

theorem LStep.ts (h : LStep l t l') : l'.dec.ts = l.dec.ts := h.2.2.2.1

theorem LRun.split {l l' : LState} : ∀ (a : List Token) {b : List Token}, LRun l (a ++ b) l' →
    ∃ m, LRun l a m ∧ LRun m b l'
  | [], _, h => ⟨l, .nil l, h⟩
  | t :: a, b, h => by
    cases h with
    | cons st r =>
      obtain ⟨m, r1, r2⟩ := LRun.split a r
      exact ⟨m, .cons st r1, r2⟩

theorem LRun.head {ts : List Token} (h : LRun l (t :: ts) l') :
    ∃ m, LStep l t m ∧ LRun m ts l' := by
  cases h with
  | cons st r => exact ⟨_, st, r⟩

end Dicom.LS
