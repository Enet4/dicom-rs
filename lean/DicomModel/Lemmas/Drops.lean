import DicomModel.Model.Header
/- What a successful decoder leaves of its input: a fixed or reported number of bytes gone from the front. -/
namespace Dicom

/-- `r` is `bs` without its first `n` bytes, and these are there -/
def Drops (n : Nat) (bs r : Bytes) : Prop := r = bs.drop n ∧ n ≤ bs.length

namespace Drops

theorem refl (bs : Bytes) : Drops 0 bs bs := ⟨rfl, Nat.zero_le _⟩

theorem trans {n m : Nat} {bs r r' : Bytes} (h1 : Drops n bs r) (h2 : Drops m r r') : Drops (n + m) bs r' := by
  obtain ⟨rfl, l1⟩ := h1
  obtain ⟨rfl, l2⟩ := h2
  rw [List.length_drop] at l2
  exact ⟨List.drop_drop .., by omega⟩

theorem length {n : Nat} {bs r : Bytes} (h : Drops n bs r) : r.length + n = bs.length := by
  rw [h.1, List.length_drop]
  have := h.2
  omega

theorem cast {n m : Nat} {bs r : Bytes} (h : Drops n bs r) (e : n = m) : Drops m bs r := e ▸ h

end Drops

theorem takeN_drops {n : Nat} {bs a r : Bytes} (h : takeN n bs = some (a, r)) : Drops n bs r ∧ a = bs.take n := by
  unfold takeN at h
  split at h
  · cases h; exact ⟨⟨rfl, by assumption⟩, rfl⟩
  · cases h

theorem rdLe16_drops {bs r : Bytes} {v : Nat} (h : rdLe16 bs = some (v, r)) : Drops 2 bs r :=
  match bs, h with
  | _ :: _ :: _, h => by cases h; exact ⟨rfl, by simp⟩
theorem rdBe16_drops {bs r : Bytes} {v : Nat} (h : rdBe16 bs = some (v, r)) : Drops 2 bs r :=
  match bs, h with
  | _ :: _ :: _, h => by cases h; exact ⟨rfl, by simp⟩
theorem rdLe32_drops {bs r : Bytes} {v : Nat} (h : rdLe32 bs = some (v, r)) : Drops 4 bs r :=
  match bs, h with
  | _ :: _ :: _ :: _ :: _, h => by cases h; exact ⟨rfl, by simp⟩
theorem rdBe32_drops {bs r : Bytes} {v : Nat} (h : rdBe32 bs = some (v, r)) : Drops 4 bs r :=
  match bs, h with
  | _ :: _ :: _ :: _ :: _, h => by cases h; exact ⟨rfl, by simp⟩

theorem rd16_drops {be : Bool} {bs r : Bytes} {v : Nat} (h : rd16 be bs = some (v, r)) : Drops 2 bs r := by
  cases be
  · exact rdLe16_drops h
  · exact rdBe16_drops h

theorem rd32_drops {be : Bool} {bs r : Bytes} {v : Nat} (h : rd32 be bs = some (v, r)) : Drops 4 bs r := by
  cases be
  · exact rdLe32_drops h
  · exact rdBe32_drops h

theorem rd64_drops {be : Bool} {bs r : Bytes} {v : Nat} (h : rd64 be bs = some (v, r)) : Drops 8 bs r := by
  cases be
  · simp only [rd64, Bool.false_eq_true, if_false, rdLe64] at h
    split at h
    · rename_i h1
      split at h
      · rename_i h2; cases h; exact (rdLe32_drops h1).trans (rdLe32_drops h2)
      · cases h
    · cases h
  · simp only [rd64, if_true, rdBe64] at h
    split at h
    · rename_i h1
      split at h
      · rename_i h2; cases h; exact (rdBe32_drops h1).trans (rdBe32_drops h2)
      · cases h
    · cases h

theorem decodeTag_drops {be : Bool} {bs r : Bytes} {t : Tag} (h : decodeTag be bs = some (t, r)) : Drops 4 bs r := by
  unfold decodeTag at h
  split at h
  · rename_i h1
    split at h
    · rename_i h2; cases h; exact (rd16_drops h1).trans (rd16_drops h2)
    · cases h
  · cases h

theorem decodeItemHeader_drops {be : Bool} {bs r : Bytes} {ih : ItemHeader}
    (h : decodeItemHeader be bs = .ok (ih, r)) : Drops 8 bs r := by
  unfold decodeItemHeader at h
  split at h
  · cases h
  · rename_i h1
    split at h
    · cases h
    · rename_i h2
      split at h
      · cases h; exact (decodeTag_drops h1).trans (rd32_drops h2)
      · cases h

theorem decodeExplicitWith_drops {short : List VR} {be : Bool} {bs rest : Bytes} {h : ElemHeader} {n : Nat}
    (hd : decodeExplicitWith short be bs = some (h, n, rest)) : Drops n bs rest := by
  unfold decodeExplicitWith at hd
  split at hd
  · cases hd
  · rename_i ht
    have ht := decodeTag_drops ht
    have two : ∀ (a b : Nat) (r : Bytes), Drops 2 (a :: b :: r) r := fun _ _ _ => ⟨rfl, by simp⟩
    split at hd
    · split at hd
      · rename_i h32; cases hd; exact ht.trans (rd32_drops h32)
      · cases hd
    · split at hd
      · rename_i a b r1 _
        dsimp only at hd
        by_cases hs : short.contains ((VR.fromBinary a b).getD .UN) = true
        · rw [if_pos hs] at hd
          split at hd
          · rename_i h16; cases hd; exact (ht.trans (two ..)).trans (rd16_drops h16)
          · cases hd
        · rw [if_neg hs] at hd
          split at hd
          · split at hd
            · rename_i h32; cases hd; exact ((ht.trans (two ..)).trans (two ..)).trans (rd32_drops h32)
            · cases hd
          · cases hd
      · cases hd

theorem decodeHeader_drops {ts : Syntax} {dict : Tag → Option VR} {bs rest : Bytes} {h : ElemHeader} {n : Nat}
    (hd : decodeHeader ts dict bs = some (h, n, rest)) : Drops n bs rest := by
  cases ts with
  | implicitLE =>
    simp only [decodeHeader] at hd
    split at hd
    · cases hd
    · rename_i ht
      split at hd
      · rename_i h32; cases hd; exact (decodeTag_drops ht).trans (rdLe32_drops h32)
      · cases hd
  | explicitLE => exact decodeExplicitWith_drops hd
  | explicitBE => exact decodeExplicitWith_drops hd

end Dicom
