import DicomModel.Model.Pdu
import DicomModel.Lemmas.Pdu
/-
How the PDU readers of `Model/Pdu.lean` can end without a value. Each reader is walked once with
`Res.EndsIn E`: the item readers and `read_pdu` with `noPanic` (every unguarded `Buf` access follows a
sufficient length test), the readers of a complete body with `settled` ("not enough bytes" is an
error there, never `Ok(None)`). The closing section restates the results with C05's `NP`.
-/
namespace Dicom.Pdu

/-- `r` is a value, or ends in a way `E` allows: `E none` stands for `Ok(None)`, `E (some e)` for
the error `e` -/
def Res.EndsIn {α : Type} (E : Option RErr → Prop) : Res α → Prop
  | .ok _ => True
  | .inc => E none
  | .err e => E (some e)

abbrev noPanic : Option RErr → Prop := (· ≠ some .panic)

abbrev settled : Option RErr → Prop := fun o => o ≠ none ∧ o ≠ some .panic

namespace Res.EndsIn
variable {α β : Type} {E : Option RErr → Prop}

theorem ok (a : α) : (Res.ok a).EndsIn E := trivial
theorem inc (h : E none) : (Res.inc : Res α).EndsIn E := h
theorem err {e : RErr} (h : E (some e)) : (Res.err e : Res α).EndsIn E := h

theorem mono {E' : Option RErr → Prop} {r : Res α} (h : r.EndsIn E) (hE : ∀ o, E o → E' o) :
    r.EndsIn E' := by
  cases r with
  | ok a => trivial
  | inc => exact hE _ h
  | err e => exact hE _ h

theorem bind {x : Res α} {f : α → Res β} (hx : x.EndsIn E) (hf : ∀ a, x = .ok a → (f a).EndsIn E) :
    (x >>= f).EndsIn E := by
  cases x with
  | ok a => exact hf a rfl
  | inc => exact hx
  | err e => exact hx

theorem ite {c : Prop} [Decidable c] {a b : Res α} (ha : c → a.EndsIn E) (hb : ¬ c → b.EndsIn E) :
    (if c then a else b).EndsIn E := by
  split
  · exact ha ‹_›
  · exact hb ‹_›

end Res.EndsIn

variable {β : Type} {E : Option RErr → Prop}

theorem Res.EndsIn.bind_u8P {bs : Bytes} {f : Nat × Bytes → Res β} (h : 1 ≤ bs.length)
    (hf : ∀ v, (f (v, bs.drop 1)).EndsIn E) : (u8P bs >>= f).EndsIn E := by
  match bs, h with
  | b :: r, _ => exact hf b

theorem Res.EndsIn.bind_u16P {bs : Bytes} {f : Nat × Bytes → Res β} (h : 2 ≤ bs.length)
    (hf : ∀ v, (f (v, bs.drop 2)).EndsIn E) : (u16P bs >>= f).EndsIn E := by
  match bs, h with
  | a :: b :: r, _ => exact hf _
  | [_], h => simp at h

theorem Res.EndsIn.bind_u32P {bs : Bytes} {f : Nat × Bytes → Res β} (h : 4 ≤ bs.length)
    (hf : ∀ v, (f (v, bs.drop 4)).EndsIn E) : (u32P bs >>= f).EndsIn E := by
  match bs, h with
  | a :: b :: c :: d :: r, _ => exact hf _
  | [_], h | [_, _], h | [_, _, _], h => simp at h

theorem Res.EndsIn.bind_takeP {n : Nat} {bs : Bytes} {f : Bytes × Bytes → Res β} (h : n ≤ bs.length)
    (hf : (f (bs.take n, bs.drop n)).EndsIn E) : (takeP n bs >>= f).EndsIn E := by
  unfold takeP
  rw [if_neg (by omega)]
  exact hf

theorem u8I_noPanic (bs : Bytes) : (u8I bs).EndsIn noPanic := by
  unfold u8I
  split <;> simp [Res.EndsIn]

theorem u16I_noPanic (bs : Bytes) : (u16I bs).EndsIn noPanic := by
  unfold u16I
  split <;> simp [Res.EndsIn]

theorem u32I_noPanic (bs : Bytes) : (u32I bs).EndsIn noPanic := by
  unfold u32I
  split <;> simp [Res.EndsIn]

theorem takeI_noPanic (n : Nat) (bs : Bytes) : (takeI n bs).EndsIn noPanic :=
  .ite (fun _ => .inc (by decide)) fun _ => .ok _

theorem subHeader_noPanic (bs : Bytes) : (subHeader bs).EndsIn noPanic :=
  .bind (u8I_noPanic _) fun _ _ => .bind (u8I_noPanic _) fun _ _ => .bind (u16I_noPanic _) fun _ _ => .ok _

theorem readPcProposedSubs_noPanic : ∀ (f : Nat) (bs : Bytes) (a : Option Str) (ts : List Str),
    (readPcProposedSubs f bs a ts).EndsIn noPanic
  | 0, [], _, _ | _ + 1, [], _, _ => .ok _
  | 0, _ :: _, _, _ => .err (by decide)
  | f + 1, _ :: _, _, _ =>
    .bind (subHeader_noPanic _) fun _ _ =>
      .ite (fun _ => .bind (takeI_noPanic _ _) fun _ _ => readPcProposedSubs_noPanic f _ _ _) fun _ =>
        .ite (fun _ => .bind (takeI_noPanic _ _) fun _ _ => readPcProposedSubs_noPanic f _ _ _) fun _ =>
          .err (by decide)

theorem readPcResultSubs_noPanic : ∀ (f : Nat) (bs : Bytes) (ts : Option Str),
    (readPcResultSubs f bs ts).EndsIn noPanic
  | 0, [], _ | _ + 1, [], _ => .ok _
  | 0, _ :: _, _ => .err (by decide)
  | f + 1, _ :: _, ts =>
    .bind (subHeader_noPanic _) fun _ _ =>
      .ite (fun _ => by
        cases ts with
        | some _ => exact .err (by decide)
        | none => exact .bind (takeI_noPanic _ _) fun _ _ => readPcResultSubs_noPanic f _ _)
      fun _ => .err (by decide)

theorem readUserVarBody_noPanic (t len : Nat) (bs : Bytes) : (readUserVarBody t len bs).EndsIn noPanic := by
  unfold readUserVarBody
  refine .ite (fun _ => ?maxLength) fun _ => .ite (fun _ => ?classUid) fun _ => .ite (fun _ => ?role) fun _ =>
    .ite (fun _ => ?versionName) fun _ => .ite (fun _ => ?sopClassExt) fun _ => .ite (fun _ => ?identity) fun _ =>
      ?unknown
  case maxLength => exact .bind (u32I_noPanic _) fun _ _ => .ok _
  case classUid | versionName | unknown => exact .bind (takeI_noPanic _ _) fun _ _ => .ok _
  case role =>
    exact .bind (u16I_noPanic _) fun _ _ => .bind (takeI_noPanic _ _) fun _ _ =>
      .bind (u8I_noPanic _) fun _ _ => .bind (u8I_noPanic _) fun _ _ => .ok _
  case sopClassExt =>
    -- the one unguarded access of the item readers: `copy_to_bytes(ul)` after `remaining() < ul`
    exact .bind (u16I_noPanic _) fun _ _ =>
      .ite (fun _ => .inc (by decide)) fun hlen => .ite (fun _ => .err (by decide)) fun _ =>
        .bind_takeP (by omega) (.bind (takeI_noPanic _ _) fun _ _ => .ok _)
  case identity =>
    refine .bind (u8I_noPanic _) fun ⟨ty, _⟩ _ => .bind (u8I_noPanic _) fun _ _ =>
      .bind (u16I_noPanic _) fun _ _ => .bind (takeI_noPanic _ _) fun _ _ =>
      .bind (u16I_noPanic _) fun _ _ => .bind (takeI_noPanic _ _) fun _ _ => ?_
    dsimp only
    cases IdType.ofCode ty <;> exact .ok _

theorem readUserVarLoop_noPanic : ∀ (f : Nat) (bs : Bytes) (acc : List UserVar),
    (readUserVarLoop f bs acc).EndsIn noPanic
  | 0, [], _ | _ + 1, [], _ => .ok _
  | 0, _ :: _, _ => .err (by decide)
  | f + 1, _ :: _, _ =>
    .bind (.bind (subHeader_noPanic _) fun _ _ => readUserVarBody_noPanic _ _ _) fun ⟨v, _⟩ _ => by
      cases v <;> exact readUserVarLoop_noPanic f _ _

theorem readVarBody_noPanic (t : Nat) (body rest : Bytes) : (readVarBody t body rest).EndsIn noPanic := by
  unfold readVarBody
  refine .ite (fun _ => .ok _) fun _ => .ite (fun _ => ?pcProposed) fun _ => .ite (fun _ => ?pcResult) fun _ =>
    .ite (fun _ => .bind (readUserVarLoop_noPanic _ _ _) fun _ _ => .ok _) fun _ => .ok _
  case pcProposed =>
    refine .bind (u8I_noPanic _) fun _ _ => .bind (u8I_noPanic _) fun _ _ => .bind (u8I_noPanic _) fun _ _ =>
      .bind (u8I_noPanic _) fun _ _ => .bind (readPcProposedSubs_noPanic _ _ _ _) fun ⟨a, _⟩ _ => ?_
    dsimp only
    cases a
    · exact .err (by decide)
    · exact .ok _
  case pcResult =>
    refine .bind (u8I_noPanic _) fun _ _ => .bind (u8I_noPanic _) fun _ _ =>
      .bind (u8I_noPanic _) fun ⟨rc, _⟩ _ => ?_
    dsimp only
    cases PcReason.ofCode rc with
    | none => exact .err (by decide)
    | some _ =>
      refine .bind (u8I_noPanic _) fun _ _ => .bind (readPcResultSubs_noPanic _ _ _) fun ts _ => ?_
      cases ts
      · exact .err (by decide)
      · exact .ok _

theorem readPduVariable_noPanic (bs : Bytes) : (readPduVariable bs).EndsIn noPanic :=
  .bind (subHeader_noPanic _) fun _ _ => .bind (takeI_noPanic _ _) fun _ _ => readVarBody_noPanic _ _ _

/-! From here on nothing ends in `Ok(None)` either: `read_pdu` turns the `None` of
`read_pdu_variable` into an error, and every other access is unguarded behind an `ensure!`. -/

theorem readPduVariable'_settled (bs : Bytes) : (readPduVariable' bs).EndsIn settled := by
  unfold readPduVariable'
  have h := readPduVariable_noPanic bs
  revert h
  cases readPduVariable bs with
  | ok x => exact fun _ => .ok x
  | inc => exact fun _ => .err (by decide)
  | err e => exact fun h => .err ⟨Option.some_ne_none e, h⟩

theorem readRqVars_settled : ∀ (f : Nat) (bs : Bytes) (acn : Option Str) (pcs : List PcProposed)
    (uvs : List UserVar), (readRqVars f bs acn pcs uvs).EndsIn settled
  | 0, [], _, _, _ | _ + 1, [], _, _, _ => .ok _
  | 0, _ :: _, _, _, _ => .err (by decide)
  | f + 1, _ :: _, _, _, _ =>
    .bind (readPduVariable'_settled _) fun ⟨it, _⟩ _ => by
      cases it <;> first | exact readRqVars_settled f _ _ _ _ | exact .err (by decide)

theorem readAcVars_settled : ∀ (f : Nat) (bs : Bytes) (acn : Option Str) (pcs : List PcResult)
    (uvs : List UserVar), (readAcVars f bs acn pcs uvs).EndsIn settled
  | 0, [], _, _, _ | _ + 1, [], _, _, _ => .ok _
  | 0, _ :: _, _, _, _ => .err (by decide)
  | f + 1, _ :: _, _, _, _ =>
    .bind (readPduVariable'_settled _) fun ⟨it, _⟩ _ => by
      cases it <;> first | exact readAcVars_settled f _ _ _ _ | exact .err (by decide)

theorem readAssocFixed_settled (body : Bytes) : (readAssocFixed body).EndsIn settled :=
  .ite (fun _ => .err (by decide)) fun _ =>
    .bind_u16P (by omega) fun _ => .bind_u16P (by simp only [List.length_drop]; omega) fun _ =>
      .bind_takeP (by simp only [List.length_drop]; omega) <|
        .bind_takeP (by simp only [List.length_drop]; omega) <|
          .bind_takeP (by simp only [List.length_drop]; omega) (.ok _)

/-- with its input length as fuel the loop never runs dry: every round consumes at least 6 bytes -/
theorem readPdvs_settled : ∀ (f : Nat) (bs : Bytes) (acc : List Pdv), bs.length ≤ f →
    (readPdvs f bs acc).EndsIn fun o => settled o ∧ o ≠ some .fuel
  | 0, [], _, _ | _ + 1, [], _, _ => .ok _
  | 0, _ :: _, _, h => by simp at h
  | f + 1, b :: bs', _, h =>
    .ite (fun _ => .err (by decide)) fun _ => .bind_u32P (by omega) fun len =>
      .ite (fun _ => .err (by decide)) fun _ => .bind_u8P (by simp only [List.length_drop]; omega) fun _ =>
        .bind_u8P (by simp only [List.length_drop]; omega) fun _ => .ite (fun _ => .err (by decide)) fun _ =>
          .bind_takeP (by omega) (readPdvs_settled f _ _ (by simp at h ⊢; omega))

theorem readBody_settled (t : Nat) (body : Bytes) : (readBody t body).EndsIn settled := by
  unfold readBody
  refine .ite (fun _ => ?rq) fun _ => .ite (fun _ => ?ac) fun _ => .ite (fun _ => ?rj) fun _ =>
    .ite (fun _ => ?pData) fun _ => .ite (fun _ => ?releaseRQ) fun _ => .ite (fun _ => ?releaseRP) fun _ =>
      .ite (fun _ => ?abort) fun _ => .ok _
  case rq =>
    refine .bind (readAssocFixed_settled _) fun _ _ => .bind (readRqVars_settled _ _ _ _ _) fun ⟨acn, _⟩ _ => ?_
    dsimp only
    cases acn
    · exact .err (by decide)
    · exact .ok _
  case ac =>
    refine .bind (readAssocFixed_settled _) fun _ _ => .bind (readAcVars_settled _ _ _ _ _) fun ⟨acn, _⟩ _ => ?_
    dsimp only
    cases acn
    · exact .err (by decide)
    · exact .ok _
  case rj =>
    refine .ite (fun _ => .err (by decide)) fun _ => .bind_u8P (by omega) fun _ =>
      .bind_u8P (by simp only [List.length_drop]; omega) fun r => ?_
    dsimp only
    cases RjResult.ofCode r with
    | none => exact .err (by decide)
    | some _ =>
      refine .bind_u8P (by simp only [List.length_drop]; omega) fun s =>
        .bind_u8P (by simp only [List.length_drop]; omega) fun q => ?_
      dsimp only
      cases RjSource.ofCodes s q
      · exact .err (by decide)
      · exact .ok _
  case pData =>
    exact .bind ((readPdvs_settled _ _ _ (Nat.le_refl _)).mono fun _ h => h.1) fun _ _ => .ok _
  case releaseRQ | releaseRP => exact .ite (fun _ => .err (by decide)) fun _ => .ok _
  case abort =>
    refine .ite (fun _ => .err (by decide)) fun _ => .bind_takeP (by omega) <|
      .bind_u8P (by simp only [List.length_drop]; omega) fun s =>
        .bind_u8P (by simp only [List.length_drop]; omega) fun q => ?_
    dsimp only
    cases AbortSource.ofCodes s q
    · exact .err (by decide)
    · exact .ok _

theorem readPdu_noPanic (mx : Nat) (strict : Bool) (bs : Bytes) : (readPdu mx strict bs).EndsIn noPanic := by
  unfold readPdu
  exact .ite (fun _ => .err (by decide)) fun _ => .ite (fun _ => .inc (by decide)) fun _ =>
    .bind_takeP (by omega) <| .ite (fun _ => .inc (by decide)) fun _ => .bind_u32P (by omega) fun _ =>
      .ite (fun _ => .err (by decide)) fun _ => .ite (fun _ => .inc (by decide)) fun _ =>
        .bind_takeP (by omega) <| .bind ((readBody_settled _ _).mono fun _ h => h.2) fun _ _ => .ok _

theorem readBody_ne_inc (t : Nat) (body : Bytes) : readBody t body ≠ .inc := by
  have h := readBody_settled t body
  intro e
  rw [e] at h
  exact h.1 rfl

end Dicom.Pdu

namespace Dicom.C05
open Pdu

/-- the unguarded-`Buf`-access panic is not the outcome -/
def NP {α : Type} (r : Res α) : Prop := r ≠ .err .panic

theorem NP_of_endsIn {α : Type} {r : Res α} (h : r.EndsIn noPanic) : NP r := by
  rintro rfl
  exact h rfl

theorem takeP_eq {n : Nat} {bs : Bytes} {x : Bytes × Bytes} (h : takeP n bs = .ok x) :
    x = (bs.take n, bs.drop n) := by
  unfold takeP at h
  split at h
  · cases h
  · cases h; rfl

theorem readPdvs_np : ∀ (f : Nat) (bs : Bytes) (acc : List Pdv), bs.length ≤ f →
    NP (readPdvs f bs acc) ∧ readPdvs f bs acc ≠ .err .fuel := by
  intro f bs acc h
  have hs := readPdvs_settled f bs acc h
  refine ⟨NP_of_endsIn (hs.mono fun _ h => h.1.2), fun e => ?_⟩
  rw [e] at hs
  exact hs.2 rfl

end Dicom.C05
