import DicomModel.Model.Json
import DicomModel.Lemmas.Digits
/-
Lemmas about the DICOM JSON model shared by C23 and C24: outcomes, tag keys, base64, decimal
strings, and the admissible pairs of a VR and a value (`Kind`).
-/
namespace Dicom.Json

@[simp] theorem Outcome.bind_ok {α β : Type} (a : α) (f : α → Outcome β) : (Outcome.ok a).bind f = f a := rfl
@[simp] theorem Outcome.bind_err {α β : Type} (f : α → Outcome β) : (Outcome.err : Outcome α).bind f = .err := rfl
@[simp] theorem Outcome.bind_panic {α β : Type} (f : α → Outcome β) : (Outcome.panic : Outcome α).bind f = .panic := rfl
@[simp] theorem Outcome.map_ok {α β : Type} (a : α) (f : α → β) : (Outcome.ok a).map f = .ok (f a) := rfl
@[simp] theorem Outcome.map_err {α β : Type} (f : α → β) : (Outcome.err : Outcome α).map f = .err := rfl
@[simp] theorem Outcome.map_panic {α β : Type} (f : α → β) : (Outcome.panic : Outcome α).map f = .panic := rfl

theorem parseVR_vrName (vr : VR) : parseVR (vrName vr) = some vr := by
  cases vr <;> decide

theorem hexUp_upper {x : Nat} (h : x < 16) : isUpperHex (hexUp x) = true := by
  unfold isUpperHex hexUp
  split <;> simp <;> omega

/-- the upper-case hex digits are in the order of their values -/
theorem hexUp_cmp {x y : Nat} (hx : x < 16) (hy : y < 16) :
    (hexUp x < hexUp y ↔ x < y) ∧ (hexUp x = hexUp y ↔ x = y) := by
  unfold hexUp; split <;> split <;> omega

theorem mod16_lt (n : Nat) : n % 16 < 16 := Nat.mod_lt _ (by decide)

/-- the four digits by repeated division by 16 -/
theorem hex4_eq (n : Nat) : hex4 n =
    [hexUp (n / 16 / 16 / 16 % 16), hexUp (n / 16 / 16 % 16), hexUp (n / 16 % 16),
      hexUp (n % 16)] := by
  simp only [hex4, Nat.div_div_eq_div_mul, Nat.reduceMul]

theorem isTagKey_tagKey (t : Nat) : isTagKey (tagKey t) = true := by
  simp [isTagKey, tagKey, hex4, hexUp_upper, mod16_lt]

theorem hex4_lt {x y : Nat} (hxy : x < y) (hy : y < 65536) (r s : Bytes) :
    bytesLt (hex4 x ++ r) (hex4 y ++ s) = true := by
  simp only [hex4_eq, List.cons_append, List.nil_append, bytesLt, Bool.or_eq_true,
    Bool.and_eq_true, decide_eq_true_eq, beq_iff_eq, hexUp_cmp (mod16_lt _) (mod16_lt _)]
  omega

theorem hex4_same (x : Nat) (r s : Bytes) :
    bytesLt (hex4 x ++ r) (hex4 x ++ s) = bytesLt r s := by
  simp [hex4, bytesLt]

theorem bytesLt_tagKey {a b : Nat} (hab : a < b) (hb : b < 4294967296) :
    bytesLt (tagKey a) (tagKey b) = true := by
  unfold tagKey
  by_cases h : a / 65536 % 65536 = b / 65536 % 65536
  · rw [h, hex4_same]
    exact hex4_lt (x := a % 65536) (y := b % 65536) (by omega) (by omega) [] []
  · exact hex4_lt (by omega) (by omega) _ _

/-- a sextet's character decodes to the sextet and is not the padding character -/
theorem b64char_spec {n : Nat} (h : n < 64) : b64val (b64char n) = some n ∧ b64char n ≠ 61 := by
  have : ∀ m : Fin 64, b64val (b64char m.val) = some m.val ∧ b64char m.val ≠ 61 := by decide
  exact this ⟨n, h⟩

theorem b64enc_eq_nil {bs : Bytes} : b64enc bs = [] ↔ bs = [] := by
  constructor
  · intro h
    match bs with
    | [] => rfl
    | [_] => simp [b64enc] at h
    | [_, _] => simp [b64enc] at h
    | _ :: _ :: _ :: _ => simp [b64enc] at h
  · intro h; subst h; rfl

/-- the sextets are below 64 because the bytes are below 256 (`omega` as side-goal discharger); what
is left after decoding them is the arithmetic of regrouping 3 × 8 bits as 4 × 6 -/
theorem b64dec_enc : ∀ (bs : Bytes), IsBytes bs → b64dec (b64enc bs) = some bs
  | [], _ => rfl
  | [a], h => by
    have ha : a < 256 := h a (by simp)
    simp (disch := omega) [b64enc, b64dec, b64last, b64char_spec]
    omega
  | [a, b], h => by
    have ha : a < 256 := h a (by simp)
    have hb : b < 256 := h b (by simp)
    simp (disch := omega) [b64enc, b64dec, b64last, b64char_spec]
    omega
  | a :: b :: c :: r, h => by
    have ha : a < 256 := h a (by simp)
    have hb : b < 256 := h b (by simp)
    have hc : c < 256 := h c (by simp)
    have ih := b64dec_enc r fun x hx => h x (by simp [hx])
    by_cases hn : r = []
    · subst hn
      simp (disch := omega) [b64enc, b64dec, b64last, b64char_spec]
      omega
    · have hne : b64enc r ≠ [] := fun e => hn (b64enc_eq_nil.mp e)
      simp (disch := omega) [b64enc, b64dec, hne, ih, b64char_spec]
      omega

open Dicom.Flt

theorem isInf_of_not_finite {F : Fmt} {x : Nat} (h1 : isFinite F x = false) (h2 : isNaN F x = false) :
    isInf F x = true := by
  unfold isFinite isNaN at *
  unfold isInf
  cases he : expo F x == F.emax <;> cases hm : mant F x == 0 <;> simp_all [bne]

/-- the last branch of `floatItem` (`null`) is not reached: what is neither finite nor a NaN is an
infinity -/
theorem floatItem_eq (F : Fmt) (w : Nat → Nat) (x : Nat) :
    floatItem F w x =
      if isFinite F x then .num (.flt (w x)) else if isNaN F x then .str sNaN
      else if sign F x then .str sNegInf else .str sInf := by
  unfold floatItem
  cases h1 : isFinite F x with
  | true => rfl
  | false =>
    cases h2 : isNaN F x with
    | true => rfl
    | false => rw [isInf_of_not_finite h1 h2]; cases sign F x <;> rfl

/-! `Flt.toDec` is `Digits.toDec`, written down twice in the model; its facts are in Lemmas/Digits. -/

theorem toDecAux_eq : ∀ (f n : Nat), toDecAux f n = Digits.toDecAux f n
  | 0, _ => rfl
  | f + 1, n => by rw [toDecAux, Digits.toDecAux, toDecAux_eq f]

theorem toDec_digits (n : Nat) : (toDec n).all isDig = true := by
  rw [toDec, toDecAux_eq]
  exact List.all_eq_true.mpr (Digits.toDec_isDigit n)

theorem toDec_ne_nil (n : Nat) : toDec n ≠ [] := by
  rw [toDec, toDecAux_eq]
  exact Digits.toDec_ne_nil n

theorem digitsVal_toDec (n : Nat) : digitsVal (toDec n) = n := by
  rw [toDec, toDecAux_eq]
  exact Digits.foldl_toDec n

/-- the admissible pairs of a VR and a value with items, grouped by the path they take through the
serialiser, the Annex F validator and the deserialiser.  `text` and `pn` hold of more values than
`kindOk` admits: whatever the value, those paths only see its `to_multi_str()`. -/
inductive Kind : VR → Prim → Prop
  | text {vr p} (hs : serClass vr = .strings) (hf : fClass vr = .text) (hd : deClass vr = .text)
      (hp : ∀ l, p ≠ .tags l) : Kind vr p
  | at (l) : Kind .AT (.tags l)
  | pn (p) : Kind .PN p
  | binary {vr p} (hs : serClass vr = .binary) (hf : fClass vr = .binary) (hb : p.binKind = true) :
      Kind vr p
  | numStrs {vr} (hs : serClass vr = .numbers) (hf : fClass vr = .numstr) (hd : deClass vr = .numstr)
      (l) : Kind vr (.strs l)
  | numStr {vr} (hs : serClass vr = .numbers) (hf : fClass vr = .numstr) (hd : deClass vr = .numstr)
      (s) : Kind vr (.str s)
  | isI32 (l) : Kind .IS (.i32 l)
  | dsF64 (l) : Kind .DS (.f64 l)
  | ss (l) : Kind .SS (.i16 l)
  | us (l) : Kind .US (.u16 l)
  | sl (l) : Kind .SL (.i32 l)
  | ul (l) : Kind .UL (.u32 l)
  | sv (l) : Kind .SV (.i64 l)
  | uv (l) : Kind .UV (.u64 l)
  | fl (l) : Kind .FL (.f32 l)
  | fd (l) : Kind .FD (.f64 l)

theorem kindOk_kind {vr : VR} {p : Prim} (hk : kindOk vr p = true) (hne : p.nonEmpty = true) :
    Kind vr p := by
  have dead : false = true → Kind vr p := fun h => nomatch h
  cases p with
  | empty => exact dead hne
  | strs l =>
    cases vr <;> first
      | exact dead hk | exact .text rfl rfl rfl nofun | exact .pn _ | exact .numStrs rfl rfl rfl l
  | str s =>
    cases vr <;> first
      | exact dead hk | exact .text rfl rfl rfl nofun | exact .pn _ | exact .numStr rfl rfl rfl s
  | tags l => cases vr <;> first | exact dead hk | exact .at l
  | u8 l => cases vr <;> first | exact dead hk | exact .binary rfl rfl rfl
  | i16 l => cases vr <;> first | exact dead hk | exact .ss l
  | u16 l => cases vr <;> first | exact dead hk | exact .binary rfl rfl rfl | exact .us l
  | i32 l => cases vr <;> first | exact dead hk | exact .sl l | exact .isI32 l
  | u32 l => cases vr <;> first | exact dead hk | exact .binary rfl rfl rfl | exact .ul l
  | i64 l => cases vr <;> first | exact dead hk | exact .sv l
  | u64 l => cases vr <;> first | exact dead hk | exact .binary rfl rfl rfl | exact .uv l
  | f32 l => cases vr <;> first | exact dead hk | exact .binary rfl rfl rfl | exact .fl l
  | f64 l => cases vr <;> first | exact dead hk | exact .binary rfl rfl rfl | exact .fd l | exact .dsF64 l
  | date l => cases vr <;> first | exact dead hk | exact .text rfl rfl rfl nofun
  | dateTime l => cases vr <;> first | exact dead hk | exact .text rfl rfl rfl nofun
  | time l => cases vr <;> first | exact dead hk | exact .text rfl rfl rfl nofun
end Dicom.Json
