import DicomModel.Lemmas.NormKeep
/-
Implicit VR Little Endian with the dictionary as a parameter function `dict : Tag → Option VR`:
attributes the dictionary does not know (private / unknown tags: `implicitVr dict tag = UN`) are written
without their VR and come back as UN with the value field as bytes. `dictElems dict t` is the data set with
those elements replaced by what Implicit VR can represent; the writer cannot tell the two apart, and
`dictElems dict t` is well-formed in the sense of `WfElems` (VR = the dictionary's), so the round trip
theorem applies to it.
-/
namespace Dicom.Norm
open Dicom.C04 Dicom.Ref

mutual
/-- the data set as Implicit VR LE can carry it: an element whose VR is not the dictionary's becomes
(dictionary VR, value field as bytes) -/
def dictElem (dict : Tag → Option VR) : Elem → Elem
  | .prim tag vr len v =>
    if implicitVr dict tag = vr then .prim tag vr len v
    else .prim tag (implicitVr dict tag) len (.u8 (paddedValue false vr v))
  | .seq tag len items => .seq tag len (dictItems dict items)
  | .pix bot frags => .pix bot frags
def dictItems (dict : Tag → Option VR) : Items → Items
  | .nil => .nil
  | .cons len elems rest => .cons len (dictElems dict elems) (dictItems dict rest)
def dictElems (dict : Tag → Option VR) : Elems → Elems
  | .nil => .nil
  | .cons e rest => .cons (dictElem dict e) (dictElems dict rest)
end

mutual
/-- well-formed in-memory data set for Implicit VR LE: as `WfElem`, but an element may also carry a VR the
dictionary does not confirm, provided the dictionary's answer for its tag is UN (unknown attribute) -/
def WfImp (dict : Tag → Option VR) : Elem → Prop
  | .prim tag vr len v =>
    tagOk tag = true ∧ ¬ (vr = .OB ∧ tag = Tag.pixelData ∧ len = undefinedLen)
      ∧ ValidFor false vr v ∧ (paddedValue false vr v).length < 4294967295
      ∧ (implicitVr dict tag = vr ∨
          (implicitVr dict tag = .UN ∧ ∀ b ∈ paddedValue false vr v, b < 256))
  | .seq tag _ items => tagOk tag = true ∧ tag ≠ Tag.pixelData ∧ WfImpItems dict items
  | .pix bot frags =>
    4 * bot.length < 4294967295 ∧ (∀ o ∈ bot, o < 4294967296)
      ∧ ∀ f ∈ frags, f.length < 4294967294 ∧ ∀ b ∈ f, b < 256
def WfImpItems (dict : Tag → Option VR) : Items → Prop
  | .nil => True
  | .cons _ elems rest => WfImpElems dict elems ∧ sortedElems elems = true ∧ WfImpItems dict rest
def WfImpElems (dict : Tag → Option VR) : Elems → Prop
  | .nil => True
  | .cons e rest => WfImp dict e ∧ WfImpElems dict rest
end

theorem sortedElems_dict (dict : Tag → Option VR) (es : Elems) : sortedElems (dictElems dict es) = sortedElems es :=
  sortedElems_map rfl (fun _ _ => rfl) (fun e => by
    cases e with
    | prim tag vr len v => simp only [dictElem]; split <;> rfl
    | seq _ _ _ => rfl
    | pix _ _ => rfl) es

mutual
/-- the transformed data set is well-formed with the dictionary's VRs -/
theorem wf_dict_elem (dict : Tag → Option VR) : ∀ e, WfImp dict e → WfElem .implicitLE dict (dictElem dict e)
  | .prim tag vr len v, h => by
    obtain ⟨htag, hweird, hv, hsz, hcase⟩ := h
    by_cases heq : implicitVr dict tag = vr
    · simp only [dictElem, heq, if_true]
      exact ⟨htag, hweird, hv, ⟨hsz, fun hx => by cases hx⟩, Or.inr heq⟩
    · obtain ⟨h1, hb⟩ := hcase.resolve_left heq
      have hpv := paddedValue_u8 (be := false) (.inr rfl) (paddedValue_length_even false vr v)
      simp only [dictElem, heq, if_false]
      rw [h1]
      refine ⟨htag, (fun hx => by cases hx.1),
        ⟨by decide, trivial, (fun hx => by rcases hx with hx | hx <;> cases hx),
          .inr (.inr (.inl ⟨.inr rfl, fun b hm => hb b (hpv ▸ hm)⟩))⟩, ?_, Or.inr h1⟩
      show FitsHeader .implicitLE .UN (paddedValue false .UN (.u8 (paddedValue false vr v))).length
      rw [hpv]; exact ⟨hsz, fun hx => by cases hx⟩
  | .seq tag len items, h => ⟨h.1, h.2.1, wf_dict_items dict items h.2.2⟩
  | .pix bot frags, h => h
theorem wf_dict_items (dict : Tag → Option VR) : ∀ its, WfImpItems dict its → WfItems .implicitLE dict (dictItems dict its)
  | .nil, _ => trivial
  | .cons len es r, h =>
    ⟨wf_dict_elems dict es h.1, by rw [sortedElems_dict]; exact h.2.1, wf_dict_items dict r h.2.2⟩
theorem wf_dict_elems (dict : Tag → Option VR) : ∀ es, WfImpElems dict es → WfElems .implicitLE dict (dictElems dict es)
  | .nil, _ => trivial
  | .cons e r, h => ⟨wf_dict_elem dict e h.1, wf_dict_elems dict r h.2⟩
end

/-- one element whose VR Implicit VR cannot carry: written exactly like (UN, value field bytes); the header
of Implicit VR does not carry the VR -/
theorem primitiveElement_un (e : Enc) (hts : e.ts = .implicitLE) (tag : Tag) (vr : VR)
    (len : Nat) (v : PValue) (hv : ValidFor false vr v) (hsz : (paddedValue false vr v).length < 4294967295) :
    e.primitiveElement ⟨tag, .UN, len⟩ (.u8 (paddedValue false vr v)) = e.primitiveElement ⟨tag, vr, len⟩ v := by
  have hbe : e.ts.bigEndian = false := by rw [hts]; rfl
  have hpv := paddedValue_u8 (be := false) (.inr rfl) (paddedValue_length_even false vr v)
  exact primitiveElement_congr e ⟨tag, vr, len⟩ ⟨tag, .UN, len⟩ v _ (fun _ => by rw [hts]; rfl)
    (by rw [hbe]; exact hpv) hv.2.1 hv.2.2.1 (by rw [hbe]; exact hsz) trivial
    (fun hx => by rcases hx with hx | hx <;> cases hx)

mutual
/-- the recursive writer treats `t` and `dictElems dict t` alike (Implicit VR LE) -/
theorem rec_dict_elem (dict : Tag → Option VR) : ∀ (el : Elem), WfImp dict el →
    ∀ (e : Enc), e.ts = .implicitLE → Enc.Exact e → recElem e (dictElem dict el) = recElem e el
  | .prim tag vr len v, h, e, hts, hex => by
    obtain ⟨_, _, hv, hsz, hcase⟩ := h
    by_cases heq : implicitVr dict tag = vr
    · simp only [dictElem, heq, if_true]
    · simp only [dictElem, heq, if_false, recElem]
      rw [(hcase.resolve_left heq).1, encodePrimitiveElement_valid e tag vr len v false hv]
      unfold Enc.encodePrimitiveElement
      rw [owWords_ne_ow (vr := .UN) (by decide)]
      exact primitiveElement_un e hts tag vr len v hv hsz
  | .seq tag len items, h, e, hts, hex => by
    simp only [dictElem, recElem]
    exact exBind_congr fun e1 h1 => by
      rw [rec_dict_items dict items h.2.2 e1 ((elementHeader_ts h1).trans hts) (elementHeader_exact hex _ h1)]
  | .pix bot frags, _, e, _, _ => rfl
theorem rec_dict_items (dict : Tag → Option VR) : ∀ (its : Items), WfImpItems dict its →
    ∀ (e : Enc), e.ts = .implicitLE → Enc.Exact e → recItems e (dictItems dict its) = recItems e its
  | .nil, _, _, _, _ => rfl
  | .cons len es r, h, e, hts, hex => by
    have hx0 := itemHeader_exact hex undefinedLen
    have heq := rec_dict_elems dict es h.1 (e.itemHeader undefinedLen) hts hx0
    simp only [dictItems, recItems, heq]
    -- the state after the item's elements satisfies the invariant because `dictElems dict es` is well-formed
    exact exBind_congr fun e1 h1 => by
      obtain ⟨t1, x1⟩ := (rec_norm_elems .implicitLE dict _ (wf_dict_elems dict es h.1) (e.itemHeader undefinedLen) hts hx0).2 e1
        (heq.trans h1)
      exact rec_dict_items dict r h.2.2 e1.itemDelimiter t1 (itemDelimiter_exact x1)
theorem rec_dict_elems (dict : Tag → Option VR) : ∀ (es : Elems), WfImpElems dict es →
    ∀ (e : Enc), e.ts = .implicitLE → Enc.Exact e → recElems e (dictElems dict es) = recElems e es
  | .nil, _, _, _, _ => rfl
  | .cons el r, h, e, hts, hex => by
    have heq := rec_dict_elem dict el h.1 e hts hex
    simp only [dictElems, recElems, heq]
    exact exBind_congr fun e1 h1 => by
      obtain ⟨t1, x1⟩ := (rec_norm_elem .implicitLE dict _ (wf_dict_elem dict el h.1) e hts hex).2 e1
        (heq.trans h1)
      exact rec_dict_elems dict r h.2 e1 t1 x1
end

mutual
theorem tokwf_imp_elem (dict : Tag → Option VR) : ∀ e, WfImp dict e → e.WF
  | .prim tag vr len v, h => ⟨h.2.2.1.1, h.2.1⟩
  | .seq tag _ items, h => tokwf_imp_items dict items h.2.2
  | .pix bot frags, h => fun f hf => by have := (h.2.2 f hf).1; omega
theorem tokwf_imp_items (dict : Tag → Option VR) : ∀ its, WfImpItems dict its → its.WF
  | .nil, _ => trivial
  | .cons _ es r, h => ⟨tokwf_imp_elems dict es h.1, tokwf_imp_items dict r h.2.2⟩
theorem tokwf_imp_elems (dict : Tag → Option VR) : ∀ es, WfImpElems dict es → es.WF
  | .nil, _ => trivial
  | .cons e r, h => ⟨tokwf_imp_elem dict e h.1, tokwf_imp_elems dict r h.2⟩
end

end Dicom.Norm
