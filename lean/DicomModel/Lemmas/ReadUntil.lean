import DicomModel.Lemmas.RefBuild
import DicomModel.Model.Collector
/-
C06: `build_object` with `read_until` / `read_to` on the token stream of a canonical (tag-sorted) data set
returns exactly the top-level elements the stop rule lets through.
-/
namespace Dicom.Ref

theorem le_iff (a b : Tag) : Tag.le a b = true ↔ (a.group < b.group ∨ (a.group = b.group ∧ a.elem ≤ b.elem)) := by
  simp only [Tag.le, Bool.not_eq_true', Tag.lt, Bool.or_eq_false_iff, Bool.and_eq_false_imp,
    decide_eq_false_iff_not, beq_iff_eq, Nat.not_lt]
  omega

theorem stop_mono (ru rt : Option Tag) {a b : Tag} (h : stopAt ru rt a = true) (hab : Tag.lt a b = true) :
    stopAt ru rt b = true := by
  simp only [stopAt, Bool.or_eq_true] at h ⊢
  rw [lt_iff] at hab
  rcases h with h | h
  · left
    cases ru with
    | none => simp at h
    | some t => simp only [le_iff] at h ⊢; omega
  · right
    cases rt with
    | none => simp at h
    | some t => simp only [lt_iff] at h ⊢; omega

theorem filter_stopped (ru rt : Option Tag) (e : Elem) (hs : stopAt ru rt e.tag = true) :
    ∀ l : List Elem, (∀ x ∈ l, ELt e x) → l.filter (fun x => !stopAt ru rt x.tag) = []
  | [], _ => rfl
  | x :: r, h => by
    have hx := stop_mono ru rt hs (h x (by simp))
    simp [hx, filter_stopped ru rt e hs r (fun y hy => h y (by simp [hy]))]

variable {ts : Syntax} {dict : Tag → Option VR} {e : Elem}

theorem buildS_stop (ru rt : Option Tag) (hc : canonElem ts dict e = true) (hs : stopAt ru rt e.tag = true)
    (f : Nat) (rest : List Token) (acc : List Elem) :
    buildObjectS ru rt (f + 1) (e.tokens ++ rest) acc = .ok acc := by
  cases e <;> simp only [Elem.tag] at hs
  case prim t vr len v => rw [prim_tokens (primOk_of_canon hc)]; simp [buildObjectS, hs]
  case seq tag len items => simp [Elem.tokens, buildObjectS, hs]
  case pix bot frags => simp [Elem.tokens, buildObjectS, hs]

theorem buildS_go (ru rt : Option Tag) (hc : canonElem ts dict e = true) (hs : stopAt ru rt e.tag = false)
    (f : Nat) (hf : e.tokens.length ≤ f) (rest : List Token) (acc : List Elem) :
    buildObjectS ru rt (f + 1) (e.tokens ++ rest) acc = buildObjectS ru rt f rest (insertElem e acc) := by
  cases e <;> simp only [Elem.tag] at hs
  case prim t vr len v => rw [prim_tokens (primOk_of_canon hc)]; simp [buildObjectS, hs]
  case pix bot frags => simp [Elem.tokens, buildObjectS, hs, List.append_assoc, build_pix (pixOk_of_canon hc)]
  case seq tag len items =>
    have hb := build_items ts dict items (seqOk_of_canon hc).items f rest []
      (by simp [Elem.tokens] at hf; omega)
    simp [Elem.tokens, buildObjectS, hs, List.append_assoc, hb, itemsOfList_toList]

theorem buildS_elems (ts : Syntax) (dict : Tag → Option VR) (ru rt : Option Tag) :
    ∀ (es : Elems), canonElems ts dict es = true →
    ∀ (fuel : Nat) (acc : List Elem), es.tokens.length < fuel → (acc ++ toList es).Pairwise ELt →
    buildObjectS ru rt fuel es.tokens acc = .ok (acc ++ (toList es).filter (fun e => !stopAt ru rt e.tag))
  | .nil, _, fuel, acc, hf, _ => by
    cases fuel with
    | zero => simp at hf
    | succ f => simp [Elems.tokens, toList, buildObjectS]
  | .cons e more, hc, fuel, acc, hf, hs => by
    simp only [canonElems, Bool.and_eq_true] at hc
    simp only [Elems.tokens, List.length_append] at hf ⊢
    obtain ⟨f, rfl⟩ : ∃ f, fuel = f + 1 := ⟨fuel - 1, by omega⟩
    have he := tokens_pos hc.1
    have hpw := List.pairwise_append.mp hs
    cases hstop : stopAt ru rt e.tag
    · have hall : ∀ x ∈ acc, ELt x e := fun x hx => hpw.2.2 x hx _ (by simp [toList])
      rw [buildS_go ru rt hc.1 hstop f (by omega), insert_last _ acc hall,
        buildS_elems ts dict ru rt more hc.2 f (acc ++ [e]) (by omega) (by simpa [toList, List.append_assoc] using hs)]
      simp [toList, hstop, List.append_assoc]
    · have hmore : ∀ x ∈ toList more, ELt e x := (List.pairwise_cons.mp hpw.2.1).1
      rw [buildS_stop ru rt hc.1 hstop]
      simp [toList, hstop, filter_stopped ru rt e hstop (toList more) hmore]

end Dicom.Ref
