import DicomModel.Lemmas.Pdu
/-
Lemmas about the independent PS3.8 structure check (`validPS38`): written items tile their container
and each passes its own check.
-/
namespace Dicom.Pdu

theorem tile16_nil (f : Nat) : tile16 f [] = some [] := by cases f <;> rfl

theorem tile16_fuel : ∀ (f1 f2 : Nat) (a : Bytes), a.length ≤ f1 → a.length ≤ f2 →
    tile16 f1 a = tile16 f2 a
  | 0, _, a, h, _ | _, 0, a, _, h => by
    rw [List.eq_nil_of_length_eq_zero (Nat.le_zero.1 h), tile16_nil, tile16_nil]
  | _ + 1, _ + 1, [], _, _ | _ + 1, _ + 1, [_], _, _ | _ + 1, _ + 1, [_, _], _, _
  | _ + 1, _ + 1, [_, _, _], _, _ => rfl
  | f1 + 1, f2 + 1, _ :: _ :: p :: q :: r, h1, h2 => by
    simp only [tile16]
    split
    · rfl
    · rw [tile16_fuel f1 f2 (r.drop (256 * p + q)) (by simp at h1 ⊢; omega) (by simp at h2 ⊢; omega)]

theorem tile16_item (f : Nat) (t : Nat) (c rest : Bytes) (hl : c.length ≤ 65535)
    (hf : (item t c ++ rest).length ≤ f) :
    tile16 f (item t c ++ rest) =
      (tile16 rest.length rest).map (fun its => (t, c) :: its) := by
  cases f with
  | zero => simp at hf
  | succ f =>
    have hlen : ¬ ((c ++ rest).length < c.length) := by simp
    simp only [be16, List.cons_append, List.nil_append, tile16, be16_val _ (Nat.lt_succ_of_le hl), hlen, if_false, List.drop_left,
      List.take_left]
    rw [tile16_fuel f rest.length rest (by simp [be16] at hf; omega) (Nat.le_refl _)]
    cases tile16 rest.length rest <;> simp

theorem tile16_single (f t : Nat) (c : Bytes) (hl : c.length ≤ 65535) (hf : (item t c).length ≤ f) :
    tile16 f (item t c) = some [(t, c)] := by
  simpa [tile16_nil] using tile16_item f t c [] hl (by simpa using hf)

theorem WritesEach.tile {α : Type} {f : α → W} {w : List α → W} (h : WritesEach f w) {Q : Nat × Bytes → Prop} :
    ∀ vs b, w vs = .ok b →
      (∀ v ∈ vs, ∀ x, f v = .ok x → ∃ t c, x = item t c ∧ c.length ≤ 65535 ∧ Q (t, c)) →
      ∃ its, (∀ rest, tile16 (b ++ rest).length (b ++ rest) = (tile16 rest.length rest).map (its ++ ·)) ∧
        ∀ it ∈ its, Q it :=
  h.ok_induction (fun _ => ⟨[], fun rest => by cases h : tile16 rest.length rest <;> simp [h], nofun⟩)
    fun v vs x y hx _ ih hf => by
    obtain ⟨t, c, rfl, hl, hv⟩ := hf v (by simp) x hx
    obtain ⟨its, h1, h2⟩ := ih fun u hu => hf u (by simp [hu])
    refine ⟨(t, c) :: its, fun rest => ?_, List.forall_mem_cons.2 ⟨hv, h2⟩⟩
    rw [List.append_assoc, tile16_item _ _ _ _ hl (Nat.le_refl _), h1, Option.map_map]
    rfl

theorem WritesEach.tile_self {b : Bytes} {its : List (Nat × Bytes)}
    (h : ∀ rest, tile16 (b ++ rest).length (b ++ rest) = (tile16 rest.length rest).map (its ++ ·)) :
    tile16 b.length b = some its := by
  simpa [tile16_nil] using h []

theorem tile_tsList (tss : List Str) (b : Bytes) (hw : writeTsList tss = .ok b) :
    ∃ its, tile16 b.length b = some its ∧ ∀ it ∈ its, it.1 = 0x40 := by
  obtain ⟨its, h1, h2⟩ := writeTsList_each.tile (Q := fun it => it.1 = 0x40) tss b hw fun _ _ x hx => by
    obtain ⟨c, -, hl, rfl⟩ := item16_ok.1 hx
    exact ⟨_, c, rfl, hl, rfl⟩
  exact ⟨its, WritesEach.tile_self h1, h2⟩

theorem be16At_be16 (n : Nat) (h : n ≤ 65535) (r : Bytes) : be16At (be16 n ++ r) = some n := by
  simp [be16At, be16]; omega

theorem valid_pcProposed {pc : PcProposed} {b : Bytes} (hw : writePcProposed pc = .ok b) :
    ∃ c, b = item 0x20 c ∧ c.length ≤ 65535 ∧ validVarItem true (0x20, c) = true := by
  obtain ⟨q, -, hal, hq, hl, rfl⟩ := writePcProposed_ok.1 hw
  refine ⟨_, rfl, hl, ?_⟩
  obtain ⟨its, h1, h2⟩ := tile_tsList _ q hq
  have hall : its.all (fun s => s.1 = 0x30 || s.1 = 0x40) = true := by
    simp only [List.all_eq_true]; intro it hit; simp [h2 it hit]
  have hf : its.filter (fun s => decide (s.1 = 0x30)) = [] := by
    simp only [List.filter_eq_nil_iff]; intro it hit; simp [h2 it hit]
  simp only [validVarItem]
  rw [if_neg (by decide), if_pos trivial]
  have hd : List.drop 4 ([pc.id, 0, 0, 0] ++ (item 0x30 pc.abstractSyntax ++ q))
      = item 0x30 pc.abstractSyntax ++ q := rfl
  rw [hd, tile16_item _ _ _ _ hal (by simp), h1]
  simp [hall, hf]

theorem valid_pcResult {pc : PcResult} {b : Bytes} (hw : writePcResult pc = .ok b) :
    ∃ c, b = item 0x21 c ∧ c.length ≤ 65535 ∧ validVarItem false (0x21, c) = true := by
  obtain ⟨-, hal, hl, rfl⟩ := writePcResult_ok.1 hw
  refine ⟨_, rfl, hl, ?_⟩
  simp only [validVarItem]
  rw [if_neg (by decide), if_neg (by decide), if_pos trivial]
  have hd : List.drop 4 ([pc.id, 0, pc.reason.code, 0] ++ item 0x40 pc.transferSyntax)
      = item 0x40 pc.transferSyntax := rfl
  rw [hd, tile16_single _ _ _ hal (by simp)]
  simp
theorem valid_userVar (v : UserVar) (hl : (uvContent v).length ≤ 65535) (hwf : wfUserVar v = true) :
    validUserSub (uvType v, uvContent v) = true := by
  cases v <;> simp only [uvContent, uvType, List.length_append, be16_length, List.length_cons] at hl ⊢
  case maxLength | implClassUid | implVersionName => simp [validUserSub]
  case unknown =>
    simp [wfUserVar, knownUserVarCode] at hwf
    simp [validUserSub, hwf]
  case roleSelection uid _ _ =>
    simp only [validUserSub, List.append_assoc, be16At_be16 _ (show uid.length ≤ 65535 by omega)]
    simp
    omega
  case sopClassExt uid d =>
    simp only [validUserSub, List.append_assoc, be16At_be16 _ (show uid.length ≤ 65535 by omega)]
    simp
  case userIdentity u =>
    have hp : u.primary.length ≤ 65535 := by omega
    have hs : u.secondary.length ≤ 65535 := by omega
    have h2 : List.drop (4 + u.primary.length) (u.type.code :: b2n u.positiveResponseRequested ::
        (be16 u.primary.length ++ (u.primary ++ (be16 u.secondary.length ++ u.secondary)))) =
        be16 u.secondary.length ++ u.secondary :=
      List.drop_left' (l₁ := u.type.code :: b2n u.positiveResponseRequested :: (be16 u.primary.length ++ u.primary))
        (by simp; omega)
    simp [validUserSub, be16At_be16 _ hp, h2, be16At_be16 _ hs]
    omega

theorem tile_userVarList (vs : List UserVar) (b : Bytes) (hw : writeUserVarList vs = .ok b)
    (hwf : ∀ v ∈ vs, wfUserVar v = true) :
    ∃ its, tile16 b.length b = some its ∧ ∀ it ∈ its, validUserSub it = true := by
  obtain ⟨its, h1, h2⟩ := writeUserVarList_each.tile (Q := fun it => validUserSub it = true) vs b hw
      fun v hv _ hx => by
    obtain ⟨-, hl, rfl⟩ := writeUserVar_ok.1 hx
    exact ⟨_, _, rfl, hl, valid_userVar v hl (hwf v hv)⟩
  exact ⟨its, WritesEach.tile_self h1, h2⟩

/-- the user-information item, or nothing for an empty list -/
theorem valid_userVars {vs : List UserVar} {b : Bytes} (hw : writeUserVars vs = .ok b)
    (hwf : ∀ v ∈ vs, wfUserVar v = true) (rq : Bool) :
    ∃ its, tile16 b.length b = some its ∧ ∀ it ∈ its, validVarItem rq it = true ∧ it.1 = 0x50 := by
  cases hvs : vs.isEmpty with
  | true =>
    rw [List.isEmpty_iff.1 hvs] at hw
    cases hw
    exact ⟨[], rfl, nofun⟩
  | false =>
    simp only [writeUserVars, hvs] at hw
    obtain ⟨c, hc, hl, rfl⟩ := item16_ok.1 hw
    obtain ⟨its, h1, h2⟩ := tile_userVarList vs c hc hwf
    refine ⟨[(0x50, c)], tile16_single _ _ _ hl (Nat.le_refl _), ?_⟩
    intro it hit
    simp at hit; subst hit
    refine ⟨?_, rfl⟩
    simp only [validVarItem]
    rw [if_neg (by decide), if_neg (by decide), if_neg (by decide), if_pos trivial, h1]
    simp only [List.all_eq_true]
    exact h2
theorem tile_pcProposedList (pcs : List PcProposed) (b : Bytes) (hw : writePcProposedList pcs = .ok b) :
    ∃ its, (∀ rest, tile16 (b ++ rest).length (b ++ rest) = (tile16 rest.length rest).map (its ++ ·)) ∧
      ∀ it ∈ its, validVarItem true it = true ∧ it.1 = 0x20 :=
  writePcProposedList_each.tile pcs b hw fun _ _ _ hx => by
    obtain ⟨c, rfl, hl, hv⟩ := valid_pcProposed hx
    exact ⟨_, c, rfl, hl, hv, rfl⟩

theorem tile_pcResultList (pcs : List PcResult) (b : Bytes) (hw : writePcResultList pcs = .ok b) :
    ∃ its, (∀ rest, tile16 (b ++ rest).length (b ++ rest) = (tile16 rest.length rest).map (its ++ ·)) ∧
      ∀ it ∈ its, validVarItem false it = true ∧ it.1 = 0x21 :=
  writePcResultList_each.tile pcs b hw fun _ _ _ hx => by
    obtain ⟨c, rfl, hl, hv⟩ := valid_pcResult hx
    exact ⟨_, c, rfl, hl, hv, rfl⟩

/-- variable items of an association body: the application context item, then items of type `pt`
(presentation contexts), then at most the user information item -/
theorem valid_assocVars {γ : Type} {writePcs : List γ → W} {a : Assoc γ} {body : Bytes} (rq : Bool) (pt : Nat)
    (hpt : pt ≠ 0x10)
    (hpcs : ∀ b, writePcs a.pcs = .ok b →
      ∃ its, (∀ rest, tile16 (b ++ rest).length (b ++ rest) = (tile16 rest.length rest).map (its ++ ·)) ∧
        ∀ it ∈ its, validVarItem rq it = true ∧ it.1 = pt)
    (hw : writeAssocBody writePcs a = .ok body) (huv : ∀ v ∈ a.uvs, wfUserVar v = true) :
    68 ≤ body.length ∧ ∃ items, tile16 body.length (body.drop 68) = some items ∧
      items.all (validVarItem rq) = true ∧ (items.filter (fun s => s.1 = 0x10)).length = 1 := by
  obtain ⟨ae1, ae2, x, y, z, h1, h2, hx, hy, hz, rfl⟩ := writeAssocBody_ok.1 hw
  have l1 := writeAe_length h1
  have l2 := writeAe_length h2
  obtain ⟨-, hl, rfl⟩ := writeAcn_ok.1 hx
  obtain ⟨ys, hy1, hy2⟩ := hpcs y hy
  obtain ⟨zs, hz1, hz2⟩ := valid_userVars hz huv rq
  have hd (rest : Bytes) : List.drop 68
      (be16 a.protocolVersion ++ [0, 0] ++ (ae1 ++ (ae2 ++ (List.replicate 32 0 ++ rest)))) = rest := by
    simp [be16, List.drop_append, List.drop_eq_nil_of_le, l1, l2]
  refine ⟨by simp [l1, l2]; omega, (0x10, a.acn) :: (ys ++ zs), ?_, ?_, ?_⟩
  · rw [hd, tile16_item _ _ _ _ hl (by simp; omega), hy1, hz1]; rfl
  · simp only [List.all_cons, List.all_append, Bool.and_eq_true, List.all_eq_true]
    refine ⟨by simp [validVarItem], fun it hit => (hy2 it hit).1, fun it hit => (hz2 it hit).1⟩
  · have e1 : ys.filter (fun s => decide (s.1 = 0x10)) = [] := by
      simp only [List.filter_eq_nil_iff]; intro it hit; simp [(hy2 it hit).2, hpt]
    have e2 : zs.filter (fun s => decide (s.1 = 0x10)) = [] := by
      simp only [List.filter_eq_nil_iff]; intro it hit; simp [(hz2 it hit).2]
    simp [e1, e2]
theorem tile32_nil (f : Nat) : tile32 f [] = some [] := by cases f <;> rfl

theorem tile32_fuel : ∀ (f1 f2 : Nat) (a : Bytes), a.length ≤ f1 → a.length ≤ f2 →
    tile32 f1 a = tile32 f2 a
  | 0, _, a, h, _ | _, 0, a, _, h => by
    rw [List.eq_nil_of_length_eq_zero (Nat.le_zero.1 h), tile32_nil, tile32_nil]
  | _ + 1, _ + 1, [], _, _ | _ + 1, _ + 1, [_], _, _ | _ + 1, _ + 1, [_, _], _, _
  | _ + 1, _ + 1, [_, _, _], _, _ => rfl
  | f1 + 1, f2 + 1, p :: q :: s :: u :: r, h1, h2 => by
    simp only [tile32]
    split
    · rfl
    · rw [tile32_fuel f1 f2 (r.drop _) (by simp at h1 ⊢; omega) (by simp at h2 ⊢; omega)]
theorem tile32_pdvList : ∀ (vs : List Pdv) (b : Bytes), writePdvList vs = .ok b →
    (tile32 b.length b).isSome = true := by
  refine writePdvList_each.ok_induction rfl ?_
  intro v vs x y hx _ ih
  obtain ⟨c, hc, hl, rfl⟩ := chunk32_ok.1 hx
  cases hc
  simp only [List.length_cons] at hl
  have hc : ¬ (v.data.length + 2 < 2 ∨ v.data.length + y.length + 1 + 1 < v.data.length + 2) := by
    omega
  have hd : List.drop (v.data.length + 2) (v.pcid :: pdvHeader v :: (v.data ++ y)) = y :=
    List.drop_left' (l₁ := v.pcid :: pdvHeader v :: v.data) (by simp)
  simp only [be32, List.length_cons, List.cons_append, List.nil_append, List.length_append, tile32]
  rw [be32_val _ (by omega), if_neg hc, hd, tile32_fuel _ y.length y (by omega) (Nat.le_refl _)]
  cases h : tile32 y.length y with
  | none => simp [h] at ih
  | some its => rfl
end Dicom.Pdu
