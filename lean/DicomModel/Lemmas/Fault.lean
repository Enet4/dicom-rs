import DicomModel.Model.Fault
/-
Lemmas for C34: the layer specifications `Honest`, `Faithful`, `NoPanic`, proved for the sink,
`BufWriter`, the deflate adapter and `PDataWriter`; on the reading side every reader passes on a
read error that is not of kind `UnexpectedEof`.
-/
namespace Dicom.Fault

/-! ### the `drain` loop (write_all / flush_buf / dump) -/

theorem drain_no_panic (w : σ → Bytes → Res Nat × σ) (Inv : σ → Prop)
    (hstep : ∀ s b, Inv s → (w s b).1 ≠ .panic ∧ Inv (w s b).2) :
    ∀ s buf, Inv s → (drain w s buf).1 ≠ .panic ∧ Inv (drain w s buf).2.1 := by
  intro s buf
  fun_induction drain w s buf with
  | case1 s => exact fun h => ⟨nofun, h⟩
  | case3 s buf _ n s' hw ih => intro h; have := (hstep s buf h).2; rw [hw] at this; exact ih this
  | case5 s buf _ s' hw => intro h; exact absurd (by rw [hw]) (hstep s buf h).1
  | _ s buf _ s' hw => intro h; have := (hstep s buf h).2; rw [hw] at this; exact ⟨nofun, this⟩

theorem drain_no_panic_of (w : σ → Bytes → Res Nat × σ) (hw : ∀ s b, (w s b).1 ≠ .panic)
    (s : σ) (buf : Bytes) : (drain w s buf).1 ≠ .panic :=
  (drain_no_panic w (fun _ => True) (fun s b _ => ⟨hw s b, trivial⟩) s buf trivial).1

theorem drain_fails_mono (w : σ → Bytes → Res Nat × σ) (fails : σ → Nat)
    (hm : ∀ s b, fails s ≤ fails (w s b).2) (s : σ) (buf : Bytes) :
    fails s ≤ fails (drain w s buf).2.1 := by
  fun_induction drain w s buf with
  | case1 s => exact Nat.le_refl _
  | case3 s buf _ n s' hw ih => have := hm s buf; rw [hw] at this; exact Nat.le_trans this ih
  | _ s buf _ s' hw => have := hm s buf; rwa [hw] at this

theorem drain_ok (w : σ → Bytes → Res Nat × σ) (f : σ → α)
    (hok : ∀ s b n, (w s b).1 = .ok (n+1) → f (w s b).2 = f s) :
    ∀ s buf, (drain w s buf).1 = .ok () →
      f (drain w s buf).2.1 = f s ∧ (drain w s buf).2.2 = [] := by
  intro s buf
  fun_induction drain w s buf with
  | case1 s => exact fun _ => ⟨rfl, rfl⟩
  | case3 s buf _ n s' hw ih =>
    intro h
    have h1 := hok s buf n (by rw [hw])
    rw [hw] at h1
    exact ⟨(ih h).1.trans h1, (ih h).2⟩
  | _ => nofun

/-- even when it fails, `drain` loses nothing: delivered ++ remaining = before ++ buf,
provided a failing `w` call delivers nothing -/
theorem drain_conserve (w : σ → Bytes → Res Nat × σ) (content : σ → Bytes)
    (hok : ∀ s b n, (w s b).1 = .ok n → content (w s b).2 = content s ++ b.take n)
    (herr : ∀ s b, (w s b).1 = .err → content (w s b).2 = content s) :
    ∀ s buf, (drain w s buf).1 ≠ .panic →
      content (drain w s buf).2.1 ++ (drain w s buf).2.2 = content s ++ buf := by
  intro s buf
  fun_induction drain w s buf with
  | case1 s => exact fun _ => rfl
  | case2 s buf _ s' hw =>
    intro _
    have h1 := hok s buf 0 (by rw [hw])
    rw [hw, List.take_zero, List.append_nil] at h1
    exact congrArg (· ++ buf) h1
  | case3 s buf _ n s' hw ih =>
    intro h
    have h1 := hok s buf (n+1) (by rw [hw])
    rw [hw] at h1
    rw [ih h, h1, List.append_assoc, List.take_append_drop]
  | case4 s buf _ s' hw =>
    intro _
    have h1 := herr s buf (by rw [hw])
    rw [hw] at h1
    exact congrArg (· ++ buf) h1
  | case5 s buf _ s' hw => exact fun h => absurd rfl h

/-! ### layer specifications -/

/-- no write-side call hides a failure of the bottom sink; a destructor need only keep the count -/
structure Honest (L : Layer σ) : Prop where
  write_mono : ∀ s b, L.fails s ≤ L.fails (L.write s b).2
  write_ok : ∀ s b n, (L.write s b).1 = .ok (n+1) → L.fails (L.write s b).2 = L.fails s
  writeAll_mono : ∀ s b, L.fails s ≤ L.fails (L.writeAll s b).2
  writeAll_ok : ∀ s b, (L.writeAll s b).1 = .ok () → L.fails (L.writeAll s b).2 = L.fails s
  flush_mono : ∀ s, L.fails s ≤ L.fails (L.flush s).2
  flush_ok : ∀ s, (L.flush s).1 = .ok () → L.fails (L.flush s).2 = L.fails s
  drop_mono : ∀ s, L.fails s ≤ L.fails (L.drop s)

/-- identity layers: what was accepted from above is delivered or still buffered, in order -/
structure Faithful (L : Layer σ) : Prop where
  write_ok : ∀ s b n, (L.write s b).1 = .ok n →
    L.out (L.write s b).2 ++ L.pend (L.write s b).2 = L.out s ++ L.pend s ++ b.take n
  write_err : ∀ s b, (L.write s b).1 = .err →
    L.out (L.write s b).2 ++ L.pend (L.write s b).2 = L.out s ++ L.pend s
  writeAll_ok : ∀ s b, (L.writeAll s b).1 = .ok () →
    L.out (L.writeAll s b).2 ++ L.pend (L.writeAll s b).2 = L.out s ++ L.pend s ++ b
  flush_ok : ∀ s, (L.flush s).1 = .ok () →
    L.pend (L.flush s).2 = [] ∧ L.out (L.flush s).2 = L.out s ++ L.pend s
  drop_idle : ∀ s, L.pend s = [] → L.out (L.drop s) = L.out s ∧ L.fails (L.drop s) = L.fails s

structure NoPanic (L : Layer σ) : Prop where
  write : ∀ s b, (L.write s b).1 ≠ .panic
  writeAll : ∀ s b, (L.writeAll s b).1 ≠ .panic
  flush : ∀ s, (L.flush s).1 ≠ .panic

/-! ### the sink -/

structure Sink.WriteSpec (s : Sink β) (b : Bytes) (r : Res Nat × Sink β) : Prop where
  mono : s.fails ≤ r.2.fails
  ok : ∀ n, r.1 = .ok (n+1) → r.2.fails = s.fails
  content : ∀ n, r.1 = .ok n → r.2.content = s.content ++ b.take n
  err : r.1 = .err → r.2.content = s.content
  no_panic : r.1 ≠ .panic

theorem Sink.write_spec (s : Sink β) (b : Bytes) : Sink.WriteSpec s b (s.write b) := by
  unfold Sink.write
  split
  · refine ⟨Nat.le_refl _, nofun, fun n h => ?_, nofun, nofun⟩
    cases h
    exact (List.append_nil _).symm
  · split
    · rename_i n st' _
      refine ⟨?_, fun k h => ?_, fun k h => ?_, nofun, nofun⟩
      · simp only; split <;> omega
      · injection h with h
        simp [h]
      · injection h with h
        subst h
        simp only [Sink.content, List.reverse_append, List.reverse_reverse]
    · exact ⟨Nat.le_succ _, nofun, nofun, fun _ => rfl, nofun⟩

structure Sink.FlushSpec (s : Sink β) (r : Res Unit × Sink β) : Prop where
  mono : s.fails ≤ r.2.fails
  ok : r.1 = .ok () → r.2.fails = s.fails
  content : r.2.content = s.content
  no_panic : r.1 ≠ .panic

theorem Sink.flush_spec (s : Sink β) : Sink.FlushSpec s s.flush := by
  unfold Sink.flush
  split
  · exact ⟨Nat.le_refl _, fun _ => rfl, rfl, nofun⟩
  · exact ⟨Nat.le_succ _, nofun, rfl, nofun⟩

theorem sink_honest (β : Type) : Honest (sinkLayer β) where
  write_mono := fun s b => (Sink.write_spec s b).mono
  write_ok := fun s b => (Sink.write_spec s b).ok
  writeAll_mono := drain_fails_mono _ Sink.fails fun s b => (Sink.write_spec s b).mono
  writeAll_ok := fun s b h => (drain_ok _ Sink.fails (fun s b => (Sink.write_spec s b).ok) s b h).1
  flush_mono := fun s => (Sink.flush_spec s).mono
  flush_ok := fun s => (Sink.flush_spec s).ok
  drop_mono := fun _ => Nat.le_refl _

theorem sink_faithful (β : Type) : Faithful (sinkLayer β) where
  write_ok := fun s b n h => by
    simpa [sinkLayer] using (Sink.write_spec s b).content n h
  write_err := fun s b h => by
    simpa [sinkLayer] using (Sink.write_spec s b).err h
  writeAll_ok := fun s b h => by
    have hc := drain_conserve Sink.write Sink.content (fun s b => (Sink.write_spec s b).content)
      (fun s b => (Sink.write_spec s b).err) s b (by rw [show (drain _ s b).1 = _ from h]; nofun)
    -- `drain_ok` with a constant measure: only "nothing is left" is wanted
    rw [(drain_ok Sink.write (fun _ => ()) (fun _ _ _ _ => rfl) s b h).2] at hc
    simpa [sinkLayer, writeAllLoop] using hc
  flush_ok := fun s _ => by
    simpa [sinkLayer] using (Sink.flush_spec s).content
  drop_idle := fun _ _ => ⟨rfl, rfl⟩

theorem sink_noPanic (β : Type) : NoPanic (sinkLayer β) where
  write := fun s b => (Sink.write_spec s b).no_panic
  writeAll := drain_no_panic_of _ fun s b => (Sink.write_spec s b).no_panic
  flush := fun s => (Sink.flush_spec s).no_panic

/-! ### `BufWriter` -/

section Buf
variable {σ : Type} (L : Layer σ)

/-- everything the `BufWriter` and the layers below hold or have delivered, in stream order -/
def BufW.total (b : BufW σ) : Bytes := L.out b.inner ++ L.pend b.inner ++ b.buf

theorem flushBuf_mono (H : Honest L) (b : BufW σ) :
    L.fails b.inner ≤ L.fails (b.flushBuf L).2.inner :=
  drain_fails_mono L.write L.fails H.write_mono b.inner b.buf

theorem flushBuf_ok (H : Honest L) (b : BufW σ) (h : (b.flushBuf L).1 = .ok ()) :
    L.fails (b.flushBuf L).2.inner = L.fails b.inner ∧ (b.flushBuf L).2.buf = [] :=
  drain_ok L.write L.fails H.write_ok b.inner b.buf h

theorem flushBuf_cap (b : BufW σ) : (b.flushBuf L).2.cap = b.cap := rfl

theorem flushBuf_total (F : Faithful L) (b : BufW σ) (h : (b.flushBuf L).1 ≠ .panic) :
    BufW.total L (b.flushBuf L).2 = BufW.total L b :=
  drain_conserve L.write (fun i => L.out i ++ L.pend i)
    (fun s b n h => F.write_ok s b n h)
    (fun s b h => F.write_err s b h) b.inner b.buf h

theorem flushBuf_no_panic (N : NoPanic L) (b : BufW σ) : (b.flushBuf L).1 ≠ .panic :=
  drain_no_panic_of L.write N.write b.inner b.buf

theorem prep_mono (H : Honest L) (b : BufW σ) (n : Nat) :
    L.fails b.inner ≤ L.fails (b.prep L n).2.inner := by
  unfold BufW.prep; split
  · exact flushBuf_mono L H b
  · exact Nat.le_refl _

theorem prep_ok (H : Honest L) (b : BufW σ) (n : Nat) (h : (b.prep L n).1 = .ok ()) :
    L.fails (b.prep L n).2.inner = L.fails b.inner ∧ (b.prep L n).2.cap = b.cap ∧
    ((b.prep L n).2.buf = [] ∨ ((b.prep L n).2.buf = b.buf ∧ n ≤ b.cap - b.buf.length)) := by
  unfold BufW.prep at h ⊢; split
  · rename_i hn
    rw [if_pos hn] at h
    exact ⟨(flushBuf_ok L H b h).1, rfl, .inl (flushBuf_ok L H b h).2⟩
  · exact ⟨rfl, rfl, .inr ⟨rfl, by omega⟩⟩

theorem prep_total (F : Faithful L) (b : BufW σ) (n : Nat) (h : (b.prep L n).1 ≠ .panic) :
    BufW.total L (b.prep L n).2 = BufW.total L b := by
  unfold BufW.prep at h ⊢; split
  · rename_i hn; rw [if_pos hn] at h; exact flushBuf_total L F b h
  · rfl

theorem prep_no_panic (N : NoPanic L) (b : BufW σ) (n : Nat) : (b.prep L n).1 ≠ .panic := by
  unfold BufW.prep; split
  · exact flushBuf_no_panic L N b
  · nofun

/-- `BufWriter::write` and `BufWriter::write_all` are one piece of code around the call `f` of the
inner writer; `a` is the answer when the data only goes into the buffer. -/
def BufW.put (f : σ → Bytes → Res α × σ) (a : α) (b : BufW σ) (data : Bytes) : Res α × BufW σ :=
  if data.length < b.cap - b.buf.length then (.ok a, { b with buf := b.buf ++ data })
  else
    match b.prep L data.length with
    | (.ok (), b1) =>
      if data.length ≥ b1.cap then ((f b1.inner data).1, { b1 with inner := (f b1.inner data).2 })
      else (.ok a, { b1 with buf := b1.buf ++ data })
    | (.err, b1) => (.err, b1)
    | (.panic, b1) => (.panic, b1)

theorem BufW.write_eq_put (b : BufW σ) (d : Bytes) :
    b.write L d = BufW.put L L.write d.length b d := rfl

theorem BufW.writeAll_eq_put (b : BufW σ) (d : Bytes) :
    b.writeAll L d = BufW.put L L.writeAll () b d := rfl

section Put
variable {α : Type} (f : σ → Bytes → Res α × σ) (a : α) (b : BufW σ) (d : Bytes)

theorem put_mono (H : Honest L) (hf : ∀ s, L.fails s ≤ L.fails (f s d).2) :
    L.fails b.inner ≤ L.fails (BufW.put L f a b d).2.inner := by
  unfold BufW.put; split
  · exact Nat.le_refl _
  · have hm := prep_mono L H b d.length
    split <;> rename_i b1 heq <;> rw [heq] at hm
    · split
      · exact Nat.le_trans hm (hf b1.inner)
      · exact hm
    · exact hm
    · exact hm

theorem put_ok (H : Honest L) (x : α) (hf : ∀ s, (f s d).1 = .ok x → L.fails (f s d).2 = L.fails s)
    (h : (BufW.put L f a b d).1 = .ok x) :
    L.fails (BufW.put L f a b d).2.inner = L.fails b.inner := by
  unfold BufW.put at h ⊢; split
  · rfl
  · rename_i hfit
    rw [if_neg hfit] at h
    split <;> rename_i b1 heq <;> rw [heq] at h
    · have hp := prep_ok L H b d.length (by rw [heq])
      rw [heq] at hp
      simp only at h
      split
      · rename_i hc
        rw [if_pos hc] at h
        exact (hf b1.inner h).trans hp.1
      · exact hp.1
    · cases h
    · cases h

/-- an `Ok x` appends `app` to the stream, where `app` is what `f` appends on `Ok x` and is all of
the data when the answer is the one for buffered data -/
theorem put_total (H : Honest L) (F : Faithful L) (x : α) (app : Bytes)
    (hf : ∀ s, (f s d).1 = .ok x →
      L.out (f s d).2 ++ L.pend (f s d).2 = L.out s ++ L.pend s ++ app)
    (hbuf : x = a → app = d) (hnil : d = [] → app = [])
    (h : (BufW.put L f a b d).1 = .ok x) :
    BufW.total L (BufW.put L f a b d).2 = BufW.total L b ++ app := by
  unfold BufW.put at h ⊢; split
  · rename_i hfit
    rw [if_pos hfit] at h
    cases h
    rw [hbuf rfl]
    exact (List.append_assoc ..).symm
  · rename_i hfit
    rw [if_neg hfit] at h
    split <;> rename_i b1 heq <;> rw [heq] at h
    · have hp := prep_ok L H b d.length (by rw [heq])
      have ht := prep_total L F b d.length (by rw [heq]; nofun)
      rw [heq] at hp ht
      simp only at h hp ht
      rw [← ht]
      split
      · rename_i hc
        rw [if_pos hc] at h
        -- the inner writer is called past a non-empty buffer only with no data
        have hemp : b1.buf = [] ∨ app = [] := by
          rcases hp.2.2 with he | ⟨he, hle⟩
          · exact .inl he
          · have : b.buf.length = 0 ∨ d.length = 0 := by have := hp.2.1; omega
            rcases this with h0 | h0
            · exact .inl (he.trans (List.eq_nil_of_length_eq_zero h0))
            · exact .inr (hnil (List.eq_nil_of_length_eq_zero h0))
        have hw := hf b1.inner h
        rcases hemp with he | he
        · simp only [BufW.total, he, List.append_nil]; exact hw
        · rw [he, List.append_nil] at hw ⊢; exact congrArg (· ++ b1.buf) hw
      · rename_i hc
        rw [if_neg hc] at h
        cases h
        rw [hbuf rfl]
        exact (List.append_assoc ..).symm
    · cases h
    · cases h

theorem put_err_total (F : Faithful L)
    (hf : ∀ s, (f s d).1 = .err → L.out (f s d).2 ++ L.pend (f s d).2 = L.out s ++ L.pend s)
    (h : (BufW.put L f a b d).1 = .err) :
    BufW.total L (BufW.put L f a b d).2 = BufW.total L b := by
  unfold BufW.put at h ⊢; split
  · rename_i hfit; rw [if_pos hfit] at h; cases h
  · rename_i hfit
    rw [if_neg hfit] at h
    have ht := prep_total L F b d.length
    split <;> rename_i b1 heq <;> rw [heq] at h ht
    · simp only at h
      rw [← ht nofun]
      split
      · rename_i hc
        rw [if_pos hc] at h
        exact congrArg (· ++ b1.buf) (hf b1.inner h)
      · rename_i hc; rw [if_neg hc] at h; cases h
    · exact ht nofun
    · cases h

theorem put_no_panic (N : NoPanic L) (hf : ∀ s, (f s d).1 ≠ .panic) :
    (BufW.put L f a b d).1 ≠ .panic := by
  unfold BufW.put; split
  · nofun
  · have hp := prep_no_panic L N b d.length
    split <;> rename_i b1 heq <;> rw [heq] at hp
    · split
      · exact hf _
      · nofun
    · nofun
    · exact absurd rfl hp

end Put

theorem buf_flush_mono (H : Honest L) (b : BufW σ) :
    L.fails b.inner ≤ L.fails (b.flush L).2.inner := by
  unfold BufW.flush
  have hm := flushBuf_mono L H b
  split
  · rename_i b1 heq; rw [heq] at hm; exact Nat.le_trans hm (H.flush_mono b1.inner)
  · rename_i r b1 _ heq; rw [heq] at hm; exact hm

theorem buf_flush_ok (b : BufW σ) (h : (b.flush L).1 = .ok ()) :
    (b.flushBuf L).1 = .ok () ∧ (L.flush (b.flushBuf L).2.inner).1 = .ok () ∧
    (b.flush L).2 = { (b.flushBuf L).2 with inner := (L.flush (b.flushBuf L).2.inner).2 } := by
  unfold BufW.flush at h ⊢
  split
  · rename_i b1 heq
    rw [heq] at h ⊢
    exact ⟨rfl, h, rfl⟩
  · rename_i r b1 hne heq
    rw [heq] at h
    simp only at h
    exact absurd h hne

theorem buf_honest (H : Honest L) : Honest (bufLayer L) where
  write_mono := fun b d => put_mono L _ _ b d H (fun s => H.write_mono s d)
  write_ok := fun b d n => put_ok L _ _ b d H (n+1) (fun s => H.write_ok s d n)
  writeAll_mono := fun b d => put_mono L _ _ b d H (fun s => H.writeAll_mono s d)
  writeAll_ok := fun b d => put_ok L _ _ b d H () (fun s => H.writeAll_ok s d)
  flush_mono := buf_flush_mono L H
  flush_ok := fun b h => by
    obtain ⟨h1, h2, h3⟩ := buf_flush_ok L b h
    exact (congrArg (fun x => L.fails x.inner) h3).trans
      ((H.flush_ok _ h2).trans (flushBuf_ok L H b h1).1)
  drop_mono := fun b => Nat.le_trans (flushBuf_mono L H b) (H.drop_mono _)

theorem buf_faithful (H : Honest L) (F : Faithful L) : Faithful (bufLayer L) where
  write_ok := fun b d n h => by
    have := put_total L _ _ b d H F n (d.take n) (fun s => F.write_ok s d n)
      (fun e => by rw [e, List.take_length]) (fun e => by rw [e, List.take_nil]) h
    simpa [bufLayer, BufW.total, List.append_assoc, BufW.write_eq_put, BufW.writeAll_eq_put] using this
  write_err := fun b d h => by
    have := put_err_total L _ _ b d F (fun s => F.write_err s d) h
    simpa [bufLayer, BufW.total, List.append_assoc, BufW.write_eq_put, BufW.writeAll_eq_put] using this
  writeAll_ok := fun b d h => by
    have := put_total L _ _ b d H F () d (fun s => F.writeAll_ok s d) (fun _ => rfl) id h
    simpa [bufLayer, BufW.total, List.append_assoc, BufW.write_eq_put, BufW.writeAll_eq_put] using this
  flush_ok := fun b h => by
    obtain ⟨h1, h2, h3⟩ := buf_flush_ok L b h
    have hb := (flushBuf_ok L H b h1).2
    have ht := flushBuf_total L F b (by rw [h1]; nofun)
    have hfl := F.flush_ok _ h2
    simp only [BufW.total, hb, List.append_nil] at ht
    simp only [bufLayer]
    rw [h3]
    exact ⟨by rw [hfl.1, hb]; rfl, by rw [hfl.2, ht, List.append_assoc]⟩
  drop_idle := fun b h => by
    have hb : b.buf = [] := (List.append_eq_nil_iff.mp h).2
    have hi : (b.flushBuf L).2.inner = b.inner := by
      simp only [BufW.flushBuf, hb]; unfold drain; rfl
    simp only [bufLayer, BufW.drop]
    rw [hi]
    exact F.drop_idle b.inner (List.append_eq_nil_iff.mp h).1

theorem buf_noPanic (N : NoPanic L) : NoPanic (bufLayer L) where
  write := fun b d => put_no_panic L _ _ b d N (fun s => N.write s d)
  writeAll := fun b d => put_no_panic L _ _ b d N (fun s => N.writeAll s d)
  flush := fun b => by
    show (b.flush L).1 ≠ .panic
    unfold BufW.flush
    have hp := flushBuf_no_panic L N b
    split
    · exact N.flush _
    · rename_i r b1 _ heq; rw [heq] at hp; exact hp

end Buf

/-! ### sequences of calls -/

section Ops
variable {σ : Type} (L : Layer σ)

def Op.run : Op → σ → Res Unit × σ
  | .w d, s => L.writeAll s d
  | .f, s => L.flush s

def Op.data : Op → Bytes
  | .w d => d
  | .f => []

theorem opsData_cons (op : Op) (rest : List Op) : opsData (op :: rest) = op.data ++ opsData rest := by
  cases op <;> rfl

theorem runOps_cons (op : Op) (rest : List Op) (s : σ) :
    runOps L (op :: rest) s = match op.run L s with
      | (.ok (), s') => runOps L rest s'
      | (r, s') => (r, s') := by
  cases op <;> rfl

theorem runOps_cons_ok {op : Op} {s : σ} (rest : List Op) (h : (op.run L s).1 = .ok ()) :
    runOps L (op :: rest) s = runOps L rest (op.run L s).2 := by
  rw [runOps_cons]; split
  · rename_i heq; rw [heq]
  · rename_i hne heq; rw [heq] at h; exact absurd h hne

theorem runOps_cons_fail {op : Op} {s : σ} (rest : List Op) (h : (op.run L s).1 ≠ .ok ()) :
    runOps L (op :: rest) s = op.run L s := by
  rw [runOps_cons]; split
  · rename_i heq; rw [heq] at h; exact absurd rfl h
  · rename_i heq; rw [heq]

theorem Honest.run_mono {L : Layer σ} (H : Honest L) (op : Op) (s : σ) :
    L.fails s ≤ L.fails (op.run L s).2 := by
  cases op
  · exact H.writeAll_mono s _
  · exact H.flush_mono s

theorem Honest.run_ok {L : Layer σ} (H : Honest L) (op : Op) (s : σ) (h : (op.run L s).1 = .ok ()) :
    L.fails (op.run L s).2 = L.fails s := by
  cases op
  · exact H.writeAll_ok s _ h
  · exact H.flush_ok s h

theorem Faithful.run_ok {L : Layer σ} (F : Faithful L) (op : Op) (s : σ)
    (h : (op.run L s).1 = .ok ()) :
    L.out (op.run L s).2 ++ L.pend (op.run L s).2 = L.out s ++ L.pend s ++ op.data := by
  cases op
  · exact F.writeAll_ok s _ h
  · have := F.flush_ok s h
    show L.out (L.flush s).2 ++ L.pend (L.flush s).2 = _
    rw [this.1, this.2, List.append_nil, Op.data, List.append_nil]

theorem runOps_no_panic_of (Inv : σ → Prop)
    (hstep : ∀ (op : Op) s, Inv s → (op.run L s).1 ≠ .panic ∧ Inv (op.run L s).2) :
    ∀ ops s, Inv s → (runOps L ops s).1 ≠ .panic ∧ Inv (runOps L ops s).2 := by
  intro ops
  induction ops with
  | nil => exact fun _ h => ⟨nofun, h⟩
  | cons op rest ih =>
    intro s hs
    by_cases hk : (op.run L s).1 = .ok ()
    · rw [runOps_cons_ok L rest hk]; exact ih _ (hstep op s hs).2
    · rw [runOps_cons_fail L rest hk]; exact hstep op s hs

theorem runOps_mono (H : Honest L) : ∀ ops s, L.fails s ≤ L.fails (runOps L ops s).2 := by
  intro ops
  induction ops with
  | nil => exact fun _ => Nat.le_refl _
  | cons op rest ih =>
    intro s
    by_cases hk : (op.run L s).1 = .ok ()
    · rw [runOps_cons_ok L rest hk]; exact Nat.le_trans (H.run_mono op s) (ih _)
    · rw [runOps_cons_fail L rest hk]; exact H.run_mono op s

theorem runOps_ok (H : Honest L) : ∀ ops s, (runOps L ops s).1 = .ok () →
    L.fails (runOps L ops s).2 = L.fails s := by
  intro ops
  induction ops with
  | nil => exact fun _ _ => rfl
  | cons op rest ih =>
    intro s h
    by_cases hk : (op.run L s).1 = .ok ()
    · rw [runOps_cons_ok L rest hk] at h ⊢
      exact (ih _ h).trans (H.run_ok op s hk)
    · rw [runOps_cons_fail L rest hk] at h; exact absurd h hk

theorem runOps_content (F : Faithful L) : ∀ ops s, (runOps L ops s).1 = .ok () →
    L.out (runOps L ops s).2 ++ L.pend (runOps L ops s).2 = L.out s ++ L.pend s ++ opsData ops := by
  intro ops
  induction ops with
  | nil => exact fun _ _ => (List.append_nil _).symm
  | cons op rest ih =>
    intro s h
    by_cases hk : (op.run L s).1 = .ok ()
    · rw [runOps_cons_ok L rest hk] at h ⊢
      rw [ih _ h, F.run_ok op s hk, opsData_cons, List.append_assoc]
    · rw [runOps_cons_fail L rest hk] at h; exact absurd h hk

/-- after a successful final `flush` nothing is left in any buffer -/
theorem runOps_flushed (F : Faithful L) : ∀ (ops : List Op) (s : σ),
    (runOps L (ops ++ [.f]) s).1 = .ok () → L.pend (runOps L (ops ++ [.f]) s).2 = [] := by
  intro ops
  induction ops with
  | nil =>
    intro s h
    by_cases hk : (Op.f.run L s).1 = .ok ()
    · rw [List.nil_append, runOps_cons_ok L [] hk]; exact (F.flush_ok s hk).1
    · rw [List.nil_append, runOps_cons_fail L [] hk] at h; exact absurd h hk
  | cons op rest ih =>
    intro s h
    by_cases hk : (op.run L s).1 = .ok ()
    · rw [List.cons_append, runOps_cons_ok L _ hk] at h ⊢; exact ih _ h
    · rw [List.cons_append, runOps_cons_fail L _ hk] at h; exact absurd h hk

theorem NoPanic.run {L : Layer σ} (N : NoPanic L) (op : Op) (s : σ) : (op.run L s).1 ≠ .panic := by
  cases op
  · exact N.writeAll s _
  · exact N.flush s

theorem runOps_no_panic (N : NoPanic L) (ops : List Op) (s : σ) : (runOps L ops s).1 ≠ .panic :=
  (runOps_no_panic_of L (fun _ => True) (fun op s _ => ⟨N.run op s, trivial⟩) ops s trivial).1

end Ops

/-! ### the deflate adapter -/

section Deflate
variable {σ : Type} {C : Comp} (L : Layer σ)

theorem dump_mono (H : Honest L) (d : Defl C σ) :
    L.fails d.inner ≤ L.fails (d.dump L).2.inner :=
  drain_fails_mono L.write L.fails H.write_mono d.inner d.pending

theorem dump_ok (H : Honest L) (d : Defl C σ) (h : (d.dump L).1 = .ok ()) :
    L.fails (d.dump L).2.inner = L.fails d.inner ∧ (d.dump L).2.pending = [] :=
  drain_ok L.write L.fails H.write_ok d.inner d.pending h

theorem dump_no_panic (N : NoPanic L) (d : Defl C σ) : (d.dump L).1 ≠ .panic :=
  drain_no_panic_of L.write N.write d.inner d.pending

theorem defl_write_mono (H : Honest L) (d : Defl C σ) (b : Bytes) :
    L.fails d.inner ≤ L.fails (d.write L b).2.inner := by
  unfold Defl.write
  have hm := dump_mono L H d
  split <;> (rename_i d1 heq; rw [heq] at hm; exact hm)

theorem defl_write_ok (H : Honest L) (d : Defl C σ) (b : Bytes) (n : Nat)
    (h : (d.write L b).1 = .ok n) : L.fails (d.write L b).2.inner = L.fails d.inner := by
  unfold Defl.write at h ⊢
  split <;> rename_i d1 heq <;> rw [heq] at h
  · have := dump_ok L H d (by rw [heq]); rw [heq] at this; exact this.1
  · cases h
  · cases h

theorem defl_flush_mono (H : Honest L) (d : Defl C σ) :
    L.fails d.inner ≤ L.fails (d.flush L).2.inner := by
  unfold Defl.flush
  simp only
  have hm := dump_mono L H
    ({ d with z := (C.sync d.z).1, pending := d.pending ++ (C.sync d.z).2 } : Defl C σ)
  split
  · rename_i d1 heq; rw [heq] at hm; exact Nat.le_trans hm (H.flush_mono d1.inner)
  · rename_i r d1 _ heq; rw [heq] at hm; exact hm

/-- a successful `flush` reports every failure so far and leaves nothing pending in the adapter -/
theorem defl_flush_ok (H : Honest L) (d : Defl C σ) (h : (d.flush L).1 = .ok ()) :
    L.fails (d.flush L).2.inner = L.fails d.inner ∧ (d.flush L).2.pending = [] := by
  unfold Defl.flush at h ⊢
  simp only at h ⊢
  split
  · rename_i d1 heq
    have hd := dump_ok L H _ (by rw [heq])
    rw [heq] at hd h
    exact ⟨(H.flush_ok d1.inner h).trans hd.1, hd.2⟩
  · rename_i r d1 hne heq
    rw [heq] at h; simp only at h; exact absurd h hne

theorem defl_finish_mono (H : Honest L) (d : Defl C σ) :
    L.fails d.inner ≤ L.fails (d.finish L).2.inner := by
  unfold Defl.finish
  have hm := dump_mono L H d
  split
  · rename_i d1 heq; rw [heq] at hm
    exact Nat.le_trans hm (dump_mono L H
      ({ d1 with z := (C.fin d1.z).1, pending := d1.pending ++ (C.fin d1.z).2 } : Defl C σ))
  · rename_i r d1 _ heq; rw [heq] at hm; exact hm

theorem defl_honest (H : Honest L) : Honest (deflLayer C L) where
  write_mono := defl_write_mono L H
  write_ok := fun d b n h => defl_write_ok L H d b (n+1) h
  writeAll_mono := drain_fails_mono _ (fun (d : Defl C σ) => L.fails d.inner) (defl_write_mono L H)
  writeAll_ok := fun d b h => (drain_ok _ (fun (d : Defl C σ) => L.fails d.inner)
    (fun d b n h => defl_write_ok L H d b (n+1) h) d b h).1
  flush_mono := defl_flush_mono L H
  flush_ok := fun d h => (defl_flush_ok L H d h).1
  drop_mono := fun d => Nat.le_trans (defl_finish_mono L H d) (H.drop_mono _)

theorem defl_noPanic (N : NoPanic L) : NoPanic (deflLayer C L) := by
  have hw : ∀ (d : Defl C σ) b, (d.write L b).1 ≠ .panic := by
    intro d b
    unfold Defl.write
    have hp := dump_no_panic L N d
    split
    · nofun
    · nofun
    · rename_i d1 heq; rw [heq] at hp; exact absurd rfl hp
  refine ⟨hw, drain_no_panic_of _ hw, ?_⟩
  intro d
  show (d.flush L).1 ≠ .panic
  unfold Defl.flush
  simp only
  have hp := dump_no_panic L N
    ({ d with z := (C.sync d.z).1, pending := d.pending ++ (C.sync d.z).2 } : Defl C σ)
  split
  · exact N.flush _
  · rename_i r d1 _ heq; rw [heq] at hp; exact hp

end Deflate

/-! ### `PDataWriter` -/

section PData
variable {σ : Type} (L : Layer σ)

/-- while the writer is alive (`finish` consumes it) the buffer starts with the 12 header bytes
and never exceeds one maximum-size PDU -/
def PDataW.Wf (p : PDataW σ) : Prop :=
  pdvHeader ≤ p.buffer.length ∧ p.buffer.length ≤ p.maxPdu + 6

theorem setupHeader_some (b : Bytes) (l : Bool) (h : pdvHeader ≤ b.length) :
    ∃ b', setupHeader b l = some b' ∧ b'.length = b.length := by
  unfold setupHeader
  rw [if_neg (Nat.not_lt.mpr h)]
  refine ⟨_, rfl, ?_⟩
  simp only [List.length_append, List.length_take, List.length_drop, be32, List.length_cons,
    List.length_nil, pdvHeader] at *
  omega

/-- `dispatch_pdu` and `finish_impl` send the buffer in the same way: header, `write_all`, and on
success the buffer becomes `after b`. -/
def PDataW.send (p : PDataW σ) (last : Bool) (after : Bytes → Bytes) : Res Unit × PDataW σ :=
  match setupHeader p.buffer last with
  | none => (.panic, p)
  | some b =>
    match L.writeAll p.inner b with
    | (.ok (), i') => (.ok (), { p with inner := i', buffer := after b })
    | (r, i') => (r, { p with inner := i', buffer := b })

theorem PDataW.dispatch_eq_send (p : PDataW σ) :
    p.dispatch L = p.send L false (·.take pdvHeader) := rfl

theorem PDataW.finish_eq_send (p : PDataW σ) :
    p.finish L = if p.buffer = [] then (.ok (), p) else p.send L true (fun _ => []) := rfl

theorem send_mono (H : Honest L) (p : PDataW σ) (last : Bool) (after : Bytes → Bytes) :
    L.fails p.inner ≤ L.fails (p.send L last after).2.inner := by
  unfold PDataW.send
  split
  · exact Nat.le_refl _
  · rename_i b _
    have hm := H.writeAll_mono p.inner b
    split <;> (rename_i heq; rw [heq] at hm; exact hm)

theorem send_ok (H : Honest L) (p : PDataW σ) (last : Bool) (after : Bytes → Bytes)
    (h : (p.send L last after).1 = .ok ()) :
    L.fails (p.send L last after).2.inner = L.fails p.inner ∧
    ∃ b, setupHeader p.buffer last = some b ∧ (p.send L last after).2.buffer = after b := by
  unfold PDataW.send at h ⊢
  split
  · rename_i heq; rw [heq] at h; cases h
  · rename_i b heq
    simp only [heq] at h
    have hk := H.writeAll_ok p.inner b
    split
    · rename_i i' heq2; rw [heq2] at hk; exact ⟨hk rfl, b, heq, rfl⟩
    · rename_i r i' hne heq2; rw [heq2] at h; simp only at h; exact absurd h hne

theorem send_wf (N : NoPanic L) (p : PDataW σ) (last : Bool) (after : Bytes → Bytes)
    (hw : pdvHeader ≤ p.buffer.length) :
    (p.send L last after).1 ≠ .panic ∧ (p.send L last after).2.maxPdu = p.maxPdu ∧
    ∃ b, b.length = p.buffer.length ∧
      ((p.send L last after).2.buffer = b ∨ (p.send L last after).2.buffer = after b) := by
  obtain ⟨b, hb, hl⟩ := setupHeader_some p.buffer last hw
  unfold PDataW.send
  simp only [hb]
  have hn := N.writeAll p.inner b
  split
  · exact ⟨nofun, rfl, b, hl, .inr rfl⟩
  · rename_i r i' hne heq
    rw [heq] at hn
    exact ⟨hn, rfl, b, hl, .inl rfl⟩

/-- The three paths of `write`: the data fits; the subtraction underflows; or the buffer, filled up to
one maximum-size PDU, is sent, and on success the next PDU may be begun. -/
theorem pdata_write_honest (H : Honest L) (p : PDataW σ) (d : Bytes) :
    L.fails p.inner ≤ L.fails (p.write L d).2.inner ∧
    ∀ n, (p.write L d).1 = .ok n → L.fails (p.write L d).2.inner = L.fails p.inner := by
  unfold PDataW.write
  simp only [PDataW.dispatch_eq_send]
  split
  · exact ⟨Nat.le_refl _, fun _ _ => rfl⟩
  · split
    · exact ⟨Nat.le_refl _, fun _ _ => rfl⟩
    · generalize p.buffer ++ d.take (p.maxPdu + 6 - p.buffer.length) = qb
      have hm := send_mono L H { p with buffer := qb } false (·.take pdvHeader)
      have hk := send_ok L H { p with buffer := qb } false (·.take pdvHeader)
      split <;> rename_i p' heq <;> rw [heq] at hm hk
      · split
        · exact ⟨hm, fun _ _ => (hk rfl).1⟩
        · exact ⟨hm, fun _ _ => (hk rfl).1⟩
      · exact ⟨hm, nofun⟩
      · exact ⟨hm, nofun⟩

theorem pdata_write_wf (N : NoPanic L) (p : PDataW σ) (d : Bytes) (hw : PDataW.Wf p) :
    (p.write L d).1 ≠ .panic ∧ PDataW.Wf (p.write L d).2 := by
  obtain ⟨w1, w2⟩ := hw
  unfold PDataW.write
  simp only [PDataW.dispatch_eq_send, PDataW.Wf]
  split
  · rename_i hfit
    exact ⟨nofun, by simp only [List.length_append]; omega, by simp only [List.length_append]; exact hfit⟩
  · rw [if_neg (Nat.not_lt.mpr w2)]
    -- the buffer that is sent holds exactly one maximum-size PDU
    have hql : (p.buffer ++ d.take (p.maxPdu + 6 - p.buffer.length)).length = p.maxPdu + 6 := by
      simp only [List.length_append, List.length_take]; omega
    generalize p.buffer ++ d.take (p.maxPdu + 6 - p.buffer.length) = qb at hql ⊢
    obtain ⟨hnp, hmax, b, hbl, hb⟩ := send_wf L N { p with buffer := qb } false (·.take pdvHeader)
      (by simp only; omega)
    rcases hq : PDataW.send L { p with buffer := qb } false (·.take pdvHeader) with ⟨r, p'⟩
    rw [hq] at hnp hmax hb
    simp only at hmax hbl
    have hq' : pdvHeader ≤ p'.buffer.length ∧ p'.buffer.length ≤ p'.maxPdu + 6 := by
      rcases hb with hb | hb <;> rw [hb, hmax]
      · omega
      · simp only [List.length_take, pdvHeader] at w1 ⊢; omega
    cases r with
    | ok u =>
      simp only
      split
      · exact ⟨nofun, hq'⟩
      · refine ⟨nofun, ?_, ?_⟩ <;> simp only [List.length_append, List.length_take] <;> omega
    | err => exact ⟨nofun, hq'⟩
    | panic => exact absurd rfl hnp

theorem pdata_drop_idle (p : PDataW σ) (h : p.buffer = []) : (pdataLayer L).drop p = p := by
  show (p.finish L).2 = p
  rw [PDataW.finish_eq_send, if_pos h]

theorem pdata_finish_mono (H : Honest L) (p : PDataW σ) :
    L.fails p.inner ≤ L.fails (p.finish L).2.inner := by
  rw [PDataW.finish_eq_send]; split
  · exact Nat.le_refl _
  · exact send_mono L H _ _ _

/-- a successful `finish` reports every failure and leaves the buffer empty: the last PDU went out -/
theorem pdata_finish_ok (H : Honest L) (p : PDataW σ) (h : (p.finish L).1 = .ok ()) :
    L.fails (p.finish L).2.inner = L.fails p.inner ∧ (p.finish L).2.buffer = [] := by
  rw [PDataW.finish_eq_send] at h ⊢; split
  · exact ⟨rfl, ‹_›⟩
  · rename_i hb
    rw [if_neg hb] at h
    obtain ⟨h1, _, _, h2⟩ := send_ok L H _ _ _ h
    exact ⟨h1, h2⟩

theorem pdata_finish_no_panic (N : NoPanic L) (p : PDataW σ) (hw : PDataW.Wf p) :
    (p.finish L).1 ≠ .panic := by
  rw [PDataW.finish_eq_send]; split
  · nofun
  · exact (send_wf L N _ _ _ hw.1).1

theorem pdata_honest (H : Honest L) : Honest (pdataLayer L) where
  write_mono := fun p d => (pdata_write_honest L H p d).1
  write_ok := fun p d n => (pdata_write_honest L H p d).2 (n+1)
  writeAll_mono := drain_fails_mono _ (fun (p : PDataW σ) => L.fails p.inner)
    (fun p d => (pdata_write_honest L H p d).1)
  writeAll_ok := fun p d h => (drain_ok _ (fun (p : PDataW σ) => L.fails p.inner)
    (fun p d n => (pdata_write_honest L H p d).2 (n+1)) p d h).1
  flush_mono := fun _ => Nat.le_refl _
  flush_ok := fun _ _ => rfl
  drop_mono := pdata_finish_mono L H

theorem pdata_run_wf (N : NoPanic L) (op : Op) (p : PDataW σ) (hw : PDataW.Wf p) :
    (op.run (pdataLayer L) p).1 ≠ .panic ∧ PDataW.Wf (op.run (pdataLayer L) p).2 := by
  cases op with
  | w d => exact drain_no_panic (PDataW.write L) PDataW.Wf (pdata_write_wf L N) p d hw
  | f => exact ⟨nofun, hw⟩

end PData

/-! ### reading -/

/-- all `Err` answers the source has given -/
def Src.fails (s : Src β) : Nat := s.ioFails + s.eofFails

theorem Src.read_spec (s : Src β) (n : Nat) :
    ((s.read n).1 ≠ .err false → (s.read n).2.ioFails = s.ioFails) ∧
    (∀ g, (s.read n).1 = .ok g → (s.read n).2.eofFails = s.eofFails) := by
  unfold Src.read
  split
  · exact ⟨fun _ => rfl, fun _ _ => rfl⟩
  · split
    · exact ⟨fun _ => rfl, fun _ _ => rfl⟩
    · rename_i eof st' _
      cases eof
      · exact ⟨fun h => absurd rfl h, nofun⟩
      · exact ⟨fun _ => rfl, nofun⟩

theorem RRes.err_ne {α γ : Type} {e : Bool} (h : (RRes.err e : RRes α) ≠ .err false) :
    (RRes.err e : RRes γ) ≠ .err false := by
  cases e
  · exact absurd rfl h
  · nofun

/-- `read_pdu_from_wire` returns a PDU only if no read of the source failed -/
theorem wireLoop_ok (frame : Bytes → Frame) (s : Src β) (rb : Bytes) (h : s.pos ≤ s.data.length)
    (x : Bytes × Bytes) (s' : Src β) (hok : wireLoop frame s rb h = (.ok x, s')) :
    s'.fails = s.fails := by
  fun_induction wireLoop frame s rb h with
  | case1 s rb h hf => cases hok
  | case2 s rb h n hf => cases hok; rfl
  | case3 s rb h hf e s1 hr => cases hok
  | case4 s rb h hf s1 hr => cases hok
  | case5 s rb h hf g gs s1 hr ih =>
    have hio := (Src.read_spec s rdCap).1
    have heof := (Src.read_spec s rdCap).2 (g :: gs)
    rw [hr] at hio heof
    rw [ih hok, Src.fails, hio nofun, heof rfl, Src.fails]

theorem readExact_spec (rd : σ → Nat → RRes Bytes × σ) (iof : σ → Nat)
    (hrd : ∀ s n, (rd s n).1 ≠ .err false → iof (rd s n).2 = iof s) :
    ∀ s n acc, (readExact rd s n acc).1 ≠ .err false → iof (readExact rd s n acc).2 = iof s := by
  intro s n acc
  fun_induction readExact rd s n acc with
  | case1 s acc => exact fun _ => rfl
  | case2 s n acc _ s' hr => have := hrd s n; rw [hr] at this; exact fun _ => this nofun
  | case3 s n acc _ g gs s' hr got ih =>
    have := hrd s n; rw [hr] at this; exact fun h => (ih h).trans (this nofun)
  | case4 s n acc _ e s' hr => have := hrd s n; rw [hr] at this; exact this

theorem BufR.fillBuf_spec (b : BufR β) :
    ((b.fillBuf).1 ≠ .err false → (b.fillBuf).2.inner.ioFails = b.inner.ioFails) := by
  unfold BufR.fillBuf
  split
  · have hs := (Src.read_spec b.inner rdCap).1
    split <;> rename_i heq <;> rw [heq] at hs
    · exact fun _ => hs nofun
    · exact fun h => hs (RRes.err_ne h)
  · exact fun _ => rfl

theorem BufR.read_spec (b : BufR β) (n : Nat) :
    ((b.read n).1 ≠ .err false → (b.read n).2.inner.ioFails = b.inner.ioFails) := by
  unfold BufR.read
  split
  · exact (Src.read_spec b.inner n).1
  · have hf := BufR.fillBuf_spec b
    split <;> rename_i heq <;> rw [heq] at hf
    · exact fun _ => hf nofun
    · exact fun h => hf (RRes.err_ne h)

theorem BufR.readExact_spec (b : BufR β) (n : Nat) :
    ((b.readExact n).1 ≠ .err false → (b.readExact n).2.inner.ioFails = b.inner.ioFails) := by
  unfold BufR.readExact
  split
  · exact fun _ => rfl
  · exact Fault.readExact_spec BufR.read (·.inner.ioFails) BufR.read_spec b n []

theorem detectPreamble_spec (b : BufR β) :
    ((detectPreamble b).1 ≠ .err false → (detectPreamble b).2.inner.ioFails = b.inner.ioFails) := by
  unfold detectPreamble
  have hf := BufR.fillBuf_spec b
  split <;> rename_i b1 heq <;> rw [heq] at hf
  · exact hf
  · split
    · exact fun _ => hf nofun
    · split
      · have hx := BufR.readExact_spec b1 128
        split <;> rename_i heq2 <;> rw [heq2] at hx
        · exact fun _ => (hx nofun).trans (hf nofun)
        · exact fun h => (hx (RRes.err_ne h)).trans (hf nofun)
      · exact fun _ => hf nofun

/-- the reader program succeeds only if no read failed with a non-EOF error -/
theorem Prog.run_ok (p : Prog) : ∀ (b : BufR β), (p.run b).1 = true →
    (p.run b).2.inner.ioFails = b.inner.ioFails := by
  induction p with
  | done ok => exact fun _ _ => rfl
  | need n k onEof ihk ihe =>
    intro b
    have hs := BufR.readExact_spec b n
    simp only [Prog.run]
    split <;> rename_i heq <;> rw [heq] at hs
    · exact fun h => (ihk _ _ h).trans (hs nofun)
    · exact fun h => (ihe _ h).trans (hs nofun)
    · nofun

end Dicom.Fault
