import DicomModel.Model.NumConv
import DicomModel.Model.NumConvSpec
import DicomModel.Lemmas.CollectOpt
/-
Helper lemmas for C11: ranges of the integer types, `as` casts, the accumulation loops of
`from_str_radix` against the denotation of a decimal text, decimal printing.
-/
namespace Dicom.NumConv

/-! ### ranges

Every type has an even number `2H` of values, `H = 2^(bits-1)`: the signed range is `[-H, H-1]`,
the unsigned one `[0, 2H-1]`. The facts below are proved from that alone, for all widths at once. -/

theorem two_pow_bits (T : IntTy) : (2 : Int) ^ T.bits = 2 * 2 ^ (T.bits - 1) := by cases T <;> rfl

theorem half_pos (T : IntTy) : (0 : Int) < 2 ^ (T.bits - 1) := Int.pow_pos (by decide)

theorem lo_le_zero (T : IntTy) : T.lo ≤ 0 := by
  have := half_pos T
  unfold IntTy.lo
  split <;> omega

theorem zero_le_hi (T : IntTy) : 0 ≤ T.hi := by
  have := half_pos T
  rw [IntTy.hi, two_pow_bits]
  split <;> omega

theorem lo_neg_signed {T : IntTy} (h : T.lo < 0) : T.signed = true := by
  unfold IntTy.lo at h
  split at h
  · assumption
  · omega

theorem unsigned_lo {T : IntTy} (h : T.signed = false) : T.lo = 0 := by
  simp [IntTy.lo, h]

theorem numCast_eq_some {T : IntTy} {n m : Int} : numCast T n = some m ↔ m = n ∧ InRange T n := by
  unfold numCast
  split <;> simp_all <;> omega

theorem asCast_eq (T : IntTy) (n : Int) :
    asCast T n = if T.signed = true ∧ n % (2 * 2 ^ (T.bits - 1)) ≥ 2 ^ (T.bits - 1)
      then n % (2 * 2 ^ (T.bits - 1)) - 2 * 2 ^ (T.bits - 1) else n % (2 * 2 ^ (T.bits - 1)) := by
  simp only [asCast, two_pow_bits]

theorem asCast_inRange (T : IntTy) (n : Int) : InRange T (asCast T n) := by
  have hH := half_pos T
  rw [asCast_eq, InRange, IntTy.lo, IntTy.hi, two_pow_bits]
  generalize (2 : Int) ^ (T.bits - 1) = H at *
  have h0 : 0 ≤ n % (2 * H) := Int.emod_nonneg n (by omega)
  have h1 : n % (2 * H) < 2 * H := Int.emod_lt_of_pos n (by omega)
  generalize n % (2 * H) = m at *
  cases T.signed
  · simp only [Bool.false_eq_true, false_and, if_false]; omega
  · simp only [true_and, if_true]; split <;> omega

theorem asCast_id {T : IntTy} {n : Int} (h : InRange T n) : asCast T n = n := by
  have hH := half_pos T
  have hneg : n < 0 → T.signed = true := fun hn => lo_neg_signed (Int.lt_of_le_of_lt h.1 hn)
  rw [InRange, IntTy.lo, IntTy.hi, two_pow_bits] at h
  rw [asCast_eq]
  generalize (2 : Int) ^ (T.bits - 1) = H at *
  by_cases hn : 0 ≤ n
  · -- a non-negative number in range is its own residue, and stays below `H` in a signed type
    have hm : n % (2 * H) = n := Int.emod_eq_of_lt hn (by split at h <;> omega)
    rw [hm, if_neg]
    intro ⟨hs, hge⟩
    simp only [if_pos hs] at h
    omega
  · -- a negative number is in range of a signed type only; its residue is `n + 2H ≥ H`
    have hs := hneg (by omega)
    simp only [if_pos hs] at h
    have hm : n % (2 * H) = n + 2 * H := by
      rw [← Int.add_emod_right n (2 * H)]
      exact Int.emod_eq_of_lt (by omega) (by omega)
    rw [hm, if_pos ⟨hs, by omega⟩]
    omega

/-- an `as` cast changes a number by a multiple of `2^bits` only -/
theorem asCast_congr (T : IntTy) (n : Int) : (asCast T n - n) % (2 ^ T.bits : Int) = 0 := by
  have hd : (n % 2 ^ T.bits - n) % 2 ^ T.bits = 0 :=
    Int.emod_eq_zero_of_dvd (Int.dvd_sub_self_of_emod_eq rfl)
  simp only [asCast]
  split
  · rw [show n % 2 ^ T.bits - 2 ^ T.bits - n = n % 2 ^ T.bits - n - 2 ^ T.bits by omega,
      Int.sub_emod_right, hd]
  · exact hd

/-! ### digits -/

theorem digitVal_range {c : Char} {d : Int} (h : digitVal c = some d) : 0 ≤ d ∧ d ≤ 9 := by
  unfold digitVal at h
  split at h
  · next hc =>
    have h1 : 48 ≤ c.toNat := UInt32.le_iff_toNat_le.mp (Char.le_def.mp hc.1)
    have h2 : c.toNat ≤ 57 := UInt32.le_iff_toNat_le.mp (Char.le_def.mp hc.2)
    cases h
    omega
  · cases h

theorem digitsFold_ge : ∀ (cs : List Char) (r n : Int), 0 ≤ r → digitsFold r cs = some n → r ≤ n
  | [], r, n, _, h => by simp [digitsFold] at h; omega
  | c :: cs, r, n, hr, h => by
    unfold digitsFold at h
    cases hd : digitVal c with
    | none => simp [hd] at h
    | some d =>
      simp only [hd] at h
      have := digitVal_range hd
      have := digitsFold_ge cs (r * 10 + d) n (by omega) h
      omega

theorem accPos_iff (T : IntTy) : ∀ (cs : List Char) (r n : Int), 0 ≤ r → r ≤ T.hi →
    (accPos T r cs = some n ↔ digitsFold r cs = some n ∧ n ≤ T.hi)
  | [], r, n, _, hh => by
    simp only [accPos, digitsFold, Option.some.injEq]
    constructor
    · intro e; subst e; exact ⟨rfl, hh⟩
    · intro e; exact e.1
  | c :: cs, r, n, hr, hh => by
    unfold accPos digitsFold
    cases hd : digitVal c with
    | none => simp
    | some d =>
      have hdr := digitVal_range hd
      -- reduce the `match some d with …` that the rewriting of `digitVal c` left
      simp only []
      split
      · next hc => exact accPos_iff T cs (r * 10 + d) n (by omega) hc.2
      · next hc =>
        constructor
        · intro e; cases e
        · intro ⟨e, hn⟩
          have := digitsFold_ge cs (r * 10 + d) n (by omega) e
          exact absurd ⟨by omega, by omega⟩ hc

theorem accNeg_iff (T : IntTy) : ∀ (cs : List Char) (r n : Int), r ≤ 0 → T.lo ≤ r →
    (accNeg T r cs = some n ↔ digitsFold (-r) cs = some (-n) ∧ T.lo ≤ n)
  | [], r, n, _, hh => by
    simp only [accNeg, digitsFold, Option.some.injEq]
    constructor
    · intro e; subst e; exact ⟨rfl, hh⟩
    · intro e; omega
  | c :: cs, r, n, hr, hh => by
    unfold accNeg digitsFold
    cases hd : digitVal c with
    | none => simp
    | some d =>
      have hdr := digitVal_range hd
      have e1 : -r * 10 + d = -(r * 10 - d) := by omega
      simp only [e1]
      split
      · next hc => exact accNeg_iff T cs (r * 10 - d) n (by omega) hc.2
      · next hc =>
        constructor
        · intro e; cases e
        · intro ⟨e, hn⟩
          have := digitsFold_ge cs (-(r * 10 - d)) (-n) (by omega) e
          exact absurd ⟨by omega, by omega⟩ hc

theorem accPos_zero_iff (T : IntTy) (cs : List Char) (n : Int) :
    accPos T 0 cs = some n ↔ digitsFold 0 cs = some n ∧ InRange T n := by
  rw [accPos_iff T cs 0 n (Int.le_refl 0) (zero_le_hi T)]
  have hlo := lo_le_zero T
  constructor
  · rintro ⟨hd, hn⟩
    have := digitsFold_ge cs 0 n (Int.le_refl 0) hd
    exact ⟨hd, by omega, hn⟩
  · rintro ⟨hd, hr⟩
    exact ⟨hd, hr.2⟩

theorem accNeg_zero_iff (T : IntTy) (cs : List Char) (n : Int) :
    accNeg T 0 cs = some n ↔ digitsFold 0 cs = some (-n) ∧ InRange T n := by
  rw [accNeg_iff T cs 0 n (Int.le_refl 0) (lo_le_zero T), Int.neg_zero]
  have hhi := zero_le_hi T
  constructor
  · rintro ⟨hd, hn⟩
    have := digitsFold_ge cs 0 (-n) (Int.le_refl 0) hd
    exact ⟨hd, hn, by omega⟩
  · rintro ⟨hd, hr⟩
    exact ⟨hd, hr.1⟩

theorem digitsFold_append : ∀ (a b : List Char) (r : Int),
    digitsFold r (a ++ b) = (digitsFold r a).bind fun r' => digitsFold r' b
  | [], b, r => by simp [digitsFold]
  | c :: a, b, r => by
    simp only [List.cons_append, digitsFold]
    cases digitVal c with
    | none => simp
    | some d => exact digitsFold_append a b _

/-! ### the shape of a parsed text -/

theorem digitVal_plus : digitVal '+' = none := by decide
theorem digitVal_minus : digitVal '-' = none := by decide

theorem parseInt_other {T : IntTy} {c : Char} {rest : List Char} (h1 : c ≠ '+') (h2 : c ≠ '-') :
    parseInt T (c :: rest) = accPos T 0 (c :: rest) := by
  unfold parseInt
  split <;> simp_all

theorem parseInt_plus {T : IntTy} {c : Char} {rest : List Char} :
    parseInt T ('+' :: c :: rest) = accPos T 0 (c :: rest) := by
  simp [parseInt]

theorem parseInt_minus {T : IntTy} {c : Char} {rest : List Char} :
    parseInt T ('-' :: c :: rest) =
      if T.signed then accNeg T 0 (c :: rest) else none := by
  simp only [parseInt]
  split
  · rfl
  · simp [accPos, digitVal_minus]

theorem denote_other {c : Char} {rest : List Char} (h1 : c ≠ '+') (h2 : c ≠ '-') :
    denote (c :: rest) = digitsFold 0 (c :: rest) := by
  unfold denote
  split <;> simp_all [digitsVal]

/-! ### decimal printing -/

theorem digitVal_digitChar {d : Nat} (h : d < 10) : digitVal (digitChar d) = some (d : Int) := by
  have : ∀ d : Fin 10, digitVal (digitChar d.val) = some (d.val : Int) := by decide
  exact this ⟨d, h⟩

theorem digitChar_props {d : Nat} (h : d < 10) :
    digitChar d ≠ '+' ∧ digitChar d ≠ '-' ∧ wsOrNull (digitChar d) = false := by
  have : ∀ d : Fin 10, digitChar d.val ≠ '+' ∧ digitChar d.val ≠ '-' ∧
      wsOrNull (digitChar d.val) = false := by decide
  exact this ⟨d, h⟩

theorem showNat_ne_nil (n : Nat) : showNat n ≠ [] := by
  unfold showNat
  split <;> simp

theorem showNat_digits (n : Nat) : ∀ c ∈ showNat n, ∃ d, d < 10 ∧ c = digitChar d := by
  induction n using Nat.strongRecOn with
  | _ n ih =>
    intro c hc
    unfold showNat at hc
    split at hc
    · next h => simp at hc; exact ⟨n, h, hc⟩
    · next h =>
      simp only [List.mem_append, List.mem_singleton] at hc
      rcases hc with hc | hc
      · exact ih (n / 10) (by omega) c hc
      · exact ⟨n % 10, by omega, hc⟩

theorem digitsFold_showNat (n : Nat) : digitsFold 0 (showNat n) = some (n : Int) := by
  induction n using Nat.strongRecOn with
  | _ n ih =>
    unfold showNat
    split
    · next h => simp [digitsFold, digitVal_digitChar h]
    · next h =>
      rw [digitsFold_append, ih (n / 10) (by omega)]
      simp only [Option.bind_some, digitsFold, digitVal_digitChar (show n % 10 < 10 by omega)]
      congr 1
      omega

theorem showNat_eq_cons (n : Nat) : ∃ d r, d < 10 ∧ showNat n = digitChar d :: r := by
  cases hs : showNat n with
  | nil => exact absurd hs (showNat_ne_nil n)
  | cons c r =>
    obtain ⟨d, hd, rfl⟩ := showNat_digits n c (by simp [hs])
    exact ⟨d, r, hd, rfl⟩

theorem denote_showInt (n : Int) : denote (showInt n) = some n := by
  obtain ⟨d, r, hd, hs⟩ := showNat_eq_cons n.natAbs
  have hf := digitsFold_showNat n.natAbs
  have hp := digitChar_props hd
  unfold showInt
  rw [hs] at hf ⊢
  split
  · simp only [denote, digitsVal, List.isEmpty_cons, Bool.false_eq_true, if_false, hf,
      Option.map_some]
    congr 1
    omega
  · rw [denote_other hp.1 hp.2.1, hf]
    congr 1
    omega

theorem showInt_head (n : Int) : ∀ c, (showInt n).head? = some c → (c = '-' ↔ n < 0) := by
  intro c hc
  unfold showInt at hc
  split at hc
  · next h => simp at hc; simp [← hc, h]
  · next h =>
    obtain ⟨d, r, hd, hs⟩ := showNat_eq_cons n.natAbs
    rw [hs] at hc
    cases hc
    exact ⟨fun e => absurd e (digitChar_props hd).2.1, fun e => absurd e h⟩

theorem showInt_not_ws (n : Int) : ∀ c ∈ showInt n, wsOrNull c = false := by
  intro c hc
  unfold showInt at hc
  have hd : ∀ c ∈ showNat n.natAbs, wsOrNull c = false := by
    intro c hc
    obtain ⟨d, hd, e⟩ := showNat_digits _ c hc
    exact e ▸ (digitChar_props hd).2.2
  split at hc
  · simp only [List.mem_cons] at hc
    rcases hc with hc | hc
    · subst hc; decide
    · exact hd c hc
  · exact hd c hc

theorem dropWhile_id' {p : Char → Bool} {l : List Char}
    (h : ∀ x, l.head? = some x → p x = false) : l.dropWhile p = l := by
  cases l with
  | nil => rfl
  | cons a t => simp [List.dropWhile, h a rfl]

theorem trimWN_id {s : List Char} (h : ∀ c ∈ s, wsOrNull c = false) : trimWN s = s := by
  unfold trimWN
  have h1 : ∀ x, s.head? = some x → wsOrNull x = false :=
    fun x hx => h x (List.mem_of_head? hx)
  have h2 : ∀ x, s.reverse.head? = some x → wsOrNull x = false := by
    intro x hx
    rw [List.head?_reverse] at hx
    exact h x (List.mem_of_getLast? hx)
  rw [dropWhile_id' h1, dropWhile_id' h2, List.reverse_reverse]

end Dicom.NumConv
