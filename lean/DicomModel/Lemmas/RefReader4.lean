import DicomModel.Lemmas.RefReader
import DicomModel.Lemmas.LazyEager
/-
C02, reader side: single steps of the `DataSetReader` state machine (`RState.next`), then runs of the
reader over the reference encoding of primitive elements and pixel data (big-step relation `Run`).
The runs are built once for C02 and C06: `StepTo` also records what Lemmas/RefLazy.lean needs to carry them
over to the lazy reader (no designed difference at the step, syntax kept, no hard break).
-/
namespace Dicom.Ref

/-- between the elements of a data set (top level, or inside an item); `p` = `delimiter_check_pending` -/
abbrev stE (ts : Syntax) (dict : Tag → Option VR) (bs : Bytes) (pos : Nat) (p : Bool) (stack : List RSeqTok) : RState :=
  ⟨⟨ts, dict, bs, pos⟩, false, false, p, stack, false, none⟩
/-- between the items of a sequence -/
abbrev stI (ts : Syntax) (dict : Tag → Option VR) (bs : Bytes) (pos : Nat) (p : Bool) (stack : List RSeqTok) : RState :=
  ⟨⟨ts, dict, bs, pos⟩, true, false, p, stack, false, none⟩

/-- the innermost open sequence / item does not end at or before `pos` -/
def Open : List RSeqTok → Nat → Prop
  | [], _ => True
  | sd :: _, pos => sd.len = undefinedLen ∨ pos < sd.baseOffset + sd.len

/-- the innermost frame is not a pixel data fragment item -/
def NoPixTop : List RSeqTok → Prop
  | [] => True
  | sd :: _ => ¬ (sd.isItem = true ∧ sd.pixelData = true)

theorem update_open (s : RState) (h : Open s.seqDelimiters s.dec.pos) :
    s.updateSeqDelimiters = (.ok none, { s with delimiterCheckPending := false }) := by
  unfold RState.updateSeqDelimiters
  cases hs : s.seqDelimiters with
  | nil => rfl
  | cons sd rest =>
    rw [hs] at h
    simp only [Open] at h
    rcases h with h | h
    · simp [h]
    · by_cases hu : sd.len = undefinedLen
      · simp [hu]
      · have h1 : ¬ (sd.baseOffset + sd.len = s.dec.pos) := by omega
        have h2 : ¬ (sd.baseOffset + sd.len < s.dec.pos) := by omega
        simp [hu, h1, h2]

/-- one `next()` call in which no explicit-length end is pending: the loop body decides -/
theorem next_body (s s' : RState) (r : Option (Except RErr Token)) (fuel : Nat) (hb : s.hardBreak = false)
    (ho : s.delimiterCheckPending = true → Open s.seqDelimiters s.dec.pos)
    (hn : ({ s with delimiterCheckPending := false } : RState).nextBody = (some r, s')) :
    s.next (fuel + 1) = (r, s') := by
  unfold RState.next
  simp only [hb, Bool.false_eq_true, if_false]
  cases hp : s.delimiterCheckPending
  · have : ({ s with delimiterCheckPending := false } : RState) = s := by
      cases s; simp_all
    rw [this] at hn
    simp [hn]
  · simp only [if_true, update_open s (ho hp), hn]

/-- one `next()` call that closes an explicit-length frame -/
theorem next_end (d : Dec) (inSeq otn : Bool) (sd : RSeqTok) (rest : List RSeqTok) (lh : Option ElemHeader)
    (fuel : Nat) (hl : sd.len ≠ undefinedLen) (he : sd.baseOffset + sd.len = d.pos) :
    (RState.mk d inSeq otn true (sd :: rest) false lh).next (fuel + 1) =
      (some (.ok (if sd.isItem then .itemEnd else .sequenceEnd)),
        RState.mk d sd.isItem otn true rest false lh) := by
  unfold RState.next
  simp only [Bool.false_eq_true, if_false, if_true, RState.updateSeqDelimiters, hl, ne_eq,
    not_false_eq_true, he]
  cases sd.isItem <;> simp

/-! ### the loop body, state by state (`delimiter_check_pending` already cleared) -/

theorem body_elemHeader (d d' : Dec) (otn : Bool) (stack : List RSeqTok) (h : ElemHeader)
    (hplain : NoPixTop stack) (hd : d.decodeHeader = .ok (h, d'))
    (h1 : h.vr ≠ .SQ) (h2 : h.tag ≠ Tag.itemDelim) (h3 : h.isEncapsulatedPixeldata = false)
    (h4 : h.len ≠ undefinedLen) :
    (RState.mk d false otn false stack false none).nextBody =
      (some (some (.ok (.elementHeader h))), RState.mk d' false otn false stack false (some h)) := by
  unfold RState.nextBody
  simp only [Bool.false_eq_true, if_false]
  split
  · exact absurd ⟨rfl, rfl⟩ hplain
  · simp [hd, h1, h2, h3, h4]

theorem body_seqStart (d d' : Dec) (otn : Bool) (stack : List RSeqTok) (h : ElemHeader)
    (hplain : NoPixTop stack) (hd : d.decodeHeader = .ok (h, d'))
    (hc : h.vr = .SQ ∨ (h.len = undefinedLen ∧ h.tag ≠ Tag.itemDelim ∧ h.isEncapsulatedPixeldata = false)) :
    (RState.mk d false otn false stack false none).nextBody =
      (some (some (.ok (.sequenceStart h.tag h.len))),
        RState.mk d' true otn (h.len == 0) (⟨false, h.len, false, d'.pos⟩ :: stack) false none) := by
  unfold RState.nextBody
  simp only [Bool.false_eq_true, if_false]
  split
  · exact absurd ⟨rfl, rfl⟩ hplain
  · by_cases hsq : h.vr = .SQ
    · by_cases hz : h.len = 0 <;> simp [hd, hsq, hz, RState.push]
    · obtain ⟨hc1, hc2, hc3⟩ := hc.resolve_left hsq
      simp [hd, hsq, hc1, hc2, hc3, RState.push]
      decide

theorem body_itemEndDelim (d d' : Dec) (otn : Bool) (sd : RSeqTok) (stack : List RSeqTok) (h : ElemHeader)
    (hplain : NoPixTop (sd :: stack)) (hd : d.decodeHeader = .ok (h, d'))
    (h1 : h.vr ≠ .SQ) (h2 : h.tag = Tag.itemDelim) :
    (RState.mk d false otn false (sd :: stack) false none).nextBody =
      (some (some (.ok .itemEnd)), RState.mk d' true otn true stack false none) := by
  unfold RState.nextBody
  obtain ⟨i, l, p, b⟩ := sd
  cases i <;> cases p <;> simp [NoPixTop] at hplain <;> simp [hd, h1, h2]

theorem body_pixStart (d d' : Dec) (otn : Bool) (stack : List RSeqTok) (h : ElemHeader)
    (hplain : NoPixTop stack) (hd : d.decodeHeader = .ok (h, d'))
    (h1 : h.vr ≠ .SQ) (h2 : h.tag ≠ Tag.itemDelim) (h3 : h.isEncapsulatedPixeldata = true) :
    (RState.mk d false otn false stack false none).nextBody =
      (some (some (.ok .pixelSequenceStart)), RState.mk d' false otn false stack false (some h)) := by
  unfold RState.nextBody
  simp only [Bool.false_eq_true, if_false]
  split
  · exact absurd ⟨rfl, rfl⟩ hplain
  · simp [hd, h1, h2, h3]

theorem body_value (d d' : Dec) (otn : Bool) (stack : List RSeqTok) (h : ElemHeader) (v : PValue)
    (hplain : NoPixTop stack) (h3 : h.isEncapsulatedPixeldata = false)
    (hv : d.readValuePreserved h = .ok (v, d')) :
    (RState.mk d false otn false stack false (some h)).nextBody =
      (some (some (.ok (.primitiveValue v))), RState.mk d' false otn true stack false none) := by
  unfold RState.nextBody
  simp only [Bool.false_eq_true, if_false]
  split
  · exact absurd ⟨rfl, rfl⟩ hplain
  · simp [hv, h3]

theorem body_pixFirstItem (d d' : Dec) (stack : List RSeqTok) (h : ElemHeader) (len : Nat)
    (hplain : NoPixTop stack) (h3 : h.isEncapsulatedPixeldata = true)
    (hi : d.decodeItemHeader = .ok (.item len, d')) :
    (RState.mk d false false false stack false (some h)).nextBody =
      (some (some (.ok (.itemStart len))),
        RState.mk d' false (len != 0) (len == 0)
          (⟨true, len, true, d'.pos⟩ :: ⟨false, undefinedLen, true, d.pos⟩ :: stack) false none) := by
  unfold RState.nextBody
  simp only [Bool.false_eq_true, if_false]
  split
  · exact absurd ⟨rfl, rfl⟩ hplain
  · by_cases hz : len = 0 <;> simp [h3, hi, RState.push, hz]

theorem body_itemStart (d d' : Dec) (otn : Bool) (last : RSeqTok) (stack : List RSeqTok)
    (lh : Option ElemHeader) (len : Nat) (hi : d.decodeItemHeader = .ok (.item len, d')) :
    (RState.mk d true otn false (last :: stack) false lh).nextBody =
      (some (some (.ok (.itemStart len))),
        RState.mk d' false otn (len == 0) (⟨true, len, last.pixelData, d'.pos⟩ :: last :: stack) false lh) := by
  unfold RState.nextBody
  by_cases hz : len = 0 <;> simp [hi, RState.push, hz]

theorem body_seqEndDelim (d d' : Dec) (otn : Bool) (stack : List RSeqTok)
    (lh : Option ElemHeader) (hi : d.decodeItemHeader = .ok (.seqDelim, d')) :
    (RState.mk d true otn false stack false lh).nextBody =
      (some (some (.ok .sequenceEnd)), RState.mk d' false otn true (stack.drop 1) false lh) := by
  unfold RState.nextBody
  simp [hi]

section
variable (ts : Syntax) (dict : Tag → Option VR)

theorem body_offsetTable (bs : Bytes) (pos len base : Nat)
    (rest : List RSeqTok) (lh : Option ElemHeader) (vs : List Nat) (r : Bytes)
    (hl : len ≠ undefinedLen) (h4 : len % 4 = 0)
    (hr : rdMany (rd32 ts.bigEndian) (len / 4) bs = some (vs, r)) :
    (RState.mk ⟨ts, dict, bs, pos⟩ false true false (⟨true, len, true, base⟩ :: rest) false lh).nextBody =
      (some (some (.ok (.offsetTable vs))),
        RState.mk ⟨ts, dict, r, pos + len⟩ false false true (⟨true, len, true, base⟩ :: rest) false lh) := by
  unfold RState.nextBody
  simp [hl, hr, h4]

theorem body_itemValue (bs : Bytes) (pos len base : Nat)
    (rest : List RSeqTok) (lh : Option ElemHeader) (v r : Bytes)
    (hl : len ≠ undefinedLen) (hr : takeN len bs = some (v, r)) :
    (RState.mk ⟨ts, dict, bs, pos⟩ false false false (⟨true, len, true, base⟩ :: rest) false lh).nextBody =
      (some (some (.ok (.itemValue v))),
        RState.mk ⟨ts, dict, r, pos + len⟩ false false true (⟨true, len, true, base⟩ :: rest) false lh) := by
  unfold RState.nextBody
  unfold takeN at hr
  split at hr
  · injection hr with hr; injection hr with h1 h2
    simp [hl, h1, h2]
  · cases hr

/-- at the end of the input, outside any sequence, the iterator ends -/
theorem body_end (pos : Nat) :
    ∃ s', (RState.mk ⟨ts, dict, [], pos⟩ false false false [] false none).nextBody = (some none, s') := by
  unfold RState.nextBody
  have : (Dec.mk ts dict [] pos).decodeHeader = .error .eof := by
    unfold Dec.decodeHeader
    have : Dicom.decodeHeader ts dict [] = none := by
      cases ts <;> simp [Dicom.decodeHeader, decodeExplicitWith, decodeTag_short]
    simp [this]
  simp [this]

end

/-! ### steps and runs -/

/-- one `next()` call yields token `t` (for any amount of loop fuel) and leaves state `s'`; the step is
none of the places where the lazy reader differs by design (`LE.AnomStep`; for every token but an offset
table this follows from the first part, `LE.calm_of_next`) -/
def StepTo (s : RState) (t : Token) (s' : RState) : Prop :=
  (∀ fuel, s.next (fuel + 1) = (some (.ok t), s')) ∧ LE.AnomStep s = false ∧
    s'.dec.ts = s.dec.ts ∧ s'.hardBreak = false

theorem StepTo.of_plain {s s' : RState} {t : Token} (h : ∀ fuel, s.next (fuel + 1) = (some (.ok t), s'))
    (hne : ∀ vs, t ≠ .offsetTable vs) (hts : s'.dec.ts = s.dec.ts := by rfl)
    (hhb : s'.hardBreak = false := by rfl) : StepTo s t s' :=
  ⟨h, LE.calm_of_next s t s' (h 0) hne, hts, hhb⟩

theorem StepTo.of_body {s s' : RState} {t : Token} (hb : s.hardBreak = false)
    (ho : s.delimiterCheckPending = true → Open s.seqDelimiters s.dec.pos)
    (hn : ({ s with delimiterCheckPending := false } : RState).nextBody = (some (some (.ok t)), s'))
    (hne : ∀ vs, t ≠ .offsetTable vs := by intro vs h; cases h) (hts : s'.dec.ts = s.dec.ts := by rfl)
    (hhb : s'.hardBreak = false := by rfl) : StepTo s t s' :=
  StepTo.of_plain (fun fuel => next_body s s' _ fuel hb ho hn) hne hts hhb

/-- successive `next()` calls yield exactly these tokens -/
inductive Run : RState → List Token → RState → Prop
  | nil (s : RState) : Run s [] s
  | cons {s s1 s2 : RState} {t : Token} {ts : List Token} : StepTo s t s1 → Run s1 ts s2 → Run s (t :: ts) s2

theorem Run.single {s s' : RState} {t : Token} (h : StepTo s t s') : Run s [t] s' := .cons h (.nil _)

theorem Run.append {s s1 s2 : RState} {a b : List Token} (h1 : Run s a s1) (h2 : Run s1 b s2) :
    Run s (a ++ b) s2 := by
  induction h1 with
  | nil _ => exact h2
  | cons st _ ih => exact .cons st (ih h2)

theorem Run.at_pos {s : RState} {a : List Token} {ts : Syntax} {dict : Tag → Option VR} {bs : Bytes} {pos pos' : Nat}
    {i p : Bool} {st : List RSeqTok} (h : Run s a ⟨⟨ts, dict, bs, pos⟩, i, false, p, st, false, none⟩)
    (e : pos = pos') : Run s a ⟨⟨ts, dict, bs, pos'⟩, i, false, p, st, false, none⟩ := e ▸ h

/-- no frame belongs to a pixel data element -/
def Plain (st : List RSeqTok) : Prop := ∀ f ∈ st, f.pixelData = false

theorem Plain.noPixTop {st : List RSeqTok} (h : Plain st) : NoPixTop st := by
  cases st with
  | nil => trivial
  | cons sd r =>
    have := h sd (by simp)
    simp [NoPixTop, this]

/-- the innermost frame has room for `n` more bytes from `pos` -/
def Room : List RSeqTok → Nat → Nat → Prop
  | [], _, _ => True
  | sd :: _, pos, n => sd.len = undefinedLen ∨ pos + n ≤ sd.baseOffset + sd.len

theorem Room.open {st : List RSeqTok} {pos n : Nat} (h : Room st pos n) (hn : 0 < n) : Open st pos := by
  cases st with
  | nil => trivial
  | cons sd r =>
    simp only [Room] at h
    simp only [Open]
    rcases h with h | h
    · exact Or.inl h
    · exact Or.inr (by omega)

theorem Room.mono {st : List RSeqTok} {pos n pos' m : Nat} (h : Room st pos n) (h1 : pos' + m ≤ pos + n) :
    Room st pos' m := by
  cases st with
  | nil => trivial
  | cons sd r =>
    simp only [Room] at h ⊢
    rcases h with h | h
    · exact Or.inl h
    · exact Or.inr (by omega)

section
variable (ts : Syntax) (dict : Tag → Option VR)

theorem dec_decodeHeader (t : Tag) (vr : VR) (len : Nat)
    (ht : tagOk t = true) (hl : len < 4294967296)
    (hs : ts.explicit = true → short16 vr = true → len < 65536) (rest : Bytes) (pos : Nat) :
    (Dec.mk ts dict (header ts t vr len ++ rest) pos).decodeHeader =
      .ok (⟨t, readVr ts dict t vr, len⟩, ⟨ts, dict, rest, pos + (header ts t vr len).length⟩) := by
  simp [Dec.decodeHeader, decodeHeader_ref ts dict t vr len ht hl hs rest]

theorem dec_itemHeader (len : Nat) (hl : len < 4294967296)
    (rest : Bytes) (pos : Nat) :
    (Dec.mk ts dict (itemHdr ts.bigEndian len ++ rest) pos).decodeItemHeader =
      .ok (.item len, ⟨ts, dict, rest, pos + 8⟩) := by
  simp [Dec.decodeItemHeader, itemHdr_eq, decodeItemHeader_item _ len hl rest]

theorem dec_seqDelim (rest : Bytes) (pos : Nat) :
    (Dec.mk ts dict (seqDelim ts.bigEndian ++ rest) pos).decodeItemHeader =
      .ok (.seqDelim, ⟨ts, dict, rest, pos + 8⟩) := by
  simp [Dec.decodeItemHeader, seqDelim_eq, decodeItemHeader_seqDelim _ rest]

theorem tagOk_ne_delim {t : Tag} (h : tagOk t = true) : t ≠ Tag.itemDelim := by
  have := (tagOk_valid h).2
  intro e; subst e; exact this rfl

theorem encaps_false_of_len {h : ElemHeader} (hl : h.len ≠ undefinedLen) : h.isEncapsulatedPixeldata = false := by
  simp [ElemHeader.isEncapsulatedPixeldata, hl]

theorem encaps_false_of_tag {h : ElemHeader} (hl : h.tag ≠ Tag.pixelData) : h.isEncapsulatedPixeldata = false := by
  simp [ElemHeader.isEncapsulatedPixeldata, hl]

/-! ### a primitive element -/

theorem readVr_prim {ts : Syntax} {dict : Tag → Option VR} {t : Tag} {vr : VR} {len : Nat} {v : PValue}
    (ok : PrimOk ts dict t vr len v) : readVr ts dict t vr = vr := by
  unfold readVr
  cases h : ts.explicit
  · simpa using ok.dictVr h
  · simp

theorem run_prim {ts : Syntax} {dict : Tag → Option VR} {t : Tag} {vr : VR} {len : Nat} {v : PValue}
    (ok : PrimOk ts dict t vr len v) (rest : Bytes) (pos : Nat) (p : Bool) (stack : List RSeqTok)
    (hpl : Plain stack) (hroom : Room stack pos (encElem ts (.prim t vr len v)).length) :
    Run (stE ts dict (encElem ts (.prim t vr len v) ++ rest) pos p stack) (Elem.tokens (.prim t vr len v))
      (stE ts dict rest (pos + (encElem ts (.prim t vr len v)).length) true stack) := by
  have hlen := encElem_prim_length ts t vr len v
  rw [← ok.len_eq] at hlen
  have hund : len ≠ undefinedLen := len_ne_undef ok.len_lt
  have hd := dec_decodeHeader ts dict t vr len ok.tag (by have := ok.len_lt; omega) ok.short
    (value ts.bigEndian v ++ rest) pos
  rw [readVr_prim ok] at hd
  have h8 := header_ge8 ts t vr len
  have henc : encElem ts (.prim t vr len v) ++ rest = header ts t vr len ++ (value ts.bigEndian v ++ rest) := by
    simp [encElem]
  rw [prim_tokens ok, henc]
  exact (Run.cons
    (.of_body rfl (fun _ => hroom.open (by omega)) (body_elemHeader _ _ false stack _ hpl.noPixTop hd ok.notSq
      (tagOk_ne_delim ok.tag) (encaps_false_of_len hund) hund))
    (Run.single (.of_body rfl (fun h => by simp at h) (body_value _ _ false stack ⟨t, vr, len⟩ v hpl.noPixTop
      (encaps_false_of_len hund) (read_value ok rest _))))).at_pos (by omega)

/-! ### encapsulated pixel data -/

theorem readVr_pix_ne_sq : readVr ts dict Tag.pixelData .OB ≠ .SQ := by
  unfold readVr
  cases ts.explicit <;> simp [implicitVr]

/-- the frame of the pixel data element itself -/
abbrev pixSq (base : Nat) : RSeqTok := ⟨false, undefinedLen, true, base⟩

theorem step_pixItemStart (len : Nat) (hl : len < 4294967296)
    (rest : Bytes) (pos base : Nat) (p : Bool) (stack : List RSeqTok) :
    StepTo (stI ts dict (itemHdr ts.bigEndian len ++ rest) pos p (pixSq base :: stack)) (.itemStart len)
      ⟨⟨ts, dict, rest, pos + 8⟩, false, false, (len == 0), ⟨true, len, true, pos + 8⟩ :: pixSq base :: stack,
        false, none⟩ :=
  .of_body rfl (fun _ => Or.inl rfl)
    (body_itemStart _ _ false (pixSq base) stack none len (dec_itemHeader ts dict len hl rest pos))

theorem step_end (rest : Bytes) (pos : Nat) (inSeq : Bool) (sd : RSeqTok)
    (stack : List RSeqTok) (hl : sd.len ≠ undefinedLen) (he : sd.baseOffset + sd.len = pos) :
    StepTo ⟨⟨ts, dict, rest, pos⟩, inSeq, false, true, sd :: stack, false, none⟩
      (if sd.isItem then .itemEnd else .sequenceEnd) ⟨⟨ts, dict, rest, pos⟩, sd.isItem, false, true, stack, false, none⟩ :=
  .of_plain (fun fuel => next_end _ inSeq false sd stack none fuel hl he) (by intro vs h; split at h <;> cases h)

theorem run_frag (f : Bytes) (h1 : f.length < 4294967295)
    (rest : Bytes) (pos base : Nat) (p : Bool) (stack : List RSeqTok) :
    Run (stI ts dict (fragment ts.bigEndian f ++ rest) pos p (pixSq base :: stack)) (fragTokens f)
      (stI ts dict rest (pos + (fragment ts.bigEndian f).length) true (pixSq base :: stack)) := by
  have hl : (fragment ts.bigEndian f).length = 8 + f.length := by simp [fragment, itemHdr_length]
  have hund := len_ne_undef h1
  have s1 := step_pixItemStart ts dict f.length (by omega) (f ++ rest) pos base p stack
  have s3 := step_end ts dict rest (pos + 8 + f.length) false ⟨true, f.length, true, pos + 8⟩ (pixSq base :: stack)
    hund rfl
  have henc : fragment ts.bigEndian f ++ rest = itemHdr ts.bigEndian f.length ++ (f ++ rest) := by
    simp [fragment]
  rw [henc, fragTokens]
  cases f with
  | nil => exact (Run.cons s1 (Run.single s3)).at_pos (by omega)
  | cons a r =>
    rw [if_neg (by simp), Nat.mod_eq_of_lt (by omega)]
    exact (Run.cons s1 (Run.cons (.of_body rfl (fun h => by simp at h)
      (body_itemValue ts dict _ _ _ _ _ none _ rest hund (takeN_append _ rest))) (Run.single s3))).at_pos (by omega)

theorem run_frags : ∀ (frags : List Bytes),
    (∀ f ∈ frags, f.length % 2 = 0 ∧ f.length < 4294967295) →
    ∀ (rest : Bytes) (pos base : Nat) (stack : List RSeqTok),
    Run (stI ts dict (frags.flatMap (fragment ts.bigEndian) ++ rest) pos true (pixSq base :: stack))
      (frags.flatMap fragTokens)
      (stI ts dict rest (pos + (frags.flatMap (fragment ts.bigEndian)).length) true (pixSq base :: stack))
  | [], _, rest, pos, base, stack => by simpa using Run.nil _
  | f :: r, hf, rest, pos, base, stack => by
    have r1 := run_frag ts dict f (hf f (by simp)).2 (r.flatMap (fragment ts.bigEndian) ++ rest) pos base true stack
    have r2 := run_frags r (fun g hg => hf g (by simp [hg])) rest
      (pos + (fragment ts.bigEndian f).length) base stack
    simp only [List.flatMap_cons, List.append_assoc]
    exact (r1.append r2).at_pos (by simp [List.length_append]; omega)

theorem step_pixStart (rest : Bytes) (pos : Nat) (p : Bool)
    (stack : List RSeqTok) (hpl : Plain stack) (hopen : Open stack pos) :
    StepTo (stE ts dict (header ts Tag.pixelData .OB undefinedLen ++ rest) pos p stack) .pixelSequenceStart
      ⟨⟨ts, dict, rest, pos + (header ts Tag.pixelData .OB undefinedLen).length⟩, false, false, false, stack, false,
        some ⟨Tag.pixelData, readVr ts dict Tag.pixelData .OB, undefinedLen⟩⟩ :=
  .of_body rfl (fun _ => hopen) (body_pixStart _ _ false stack _ hpl.noPixTop
    (dec_decodeHeader ts dict Tag.pixelData .OB undefinedLen (by decide) (by decide)
      (fun _ h => by simp [short16_OB] at h) rest pos)
    (readVr_pix_ne_sq ts dict) (by show Tag.pixelData ≠ Tag.itemDelim; decide)
    (by simp [ElemHeader.isEncapsulatedPixeldata]))

theorem step_pixFirstItem (n : Nat) (hn : n < 4294967296) (rest : Bytes)
    (pos : Nat) (stack : List RSeqTok) (hpl : Plain stack) (h : ElemHeader)
    (h3 : h.isEncapsulatedPixeldata = true) :
    StepTo ⟨⟨ts, dict, itemHdr ts.bigEndian n ++ rest, pos⟩, false, false, false, stack, false, some h⟩
      (.itemStart n)
      ⟨⟨ts, dict, rest, pos + 8⟩, false, (n != 0), (n == 0), ⟨true, n, true, pos + 8⟩ :: pixSq pos :: stack,
        false, none⟩ :=
  .of_body rfl (fun h => by simp at h)
    (body_pixFirstItem _ _ stack _ n hpl.noPixTop h3 (dec_itemHeader ts dict n hn _ _))

/-- the basic offset table: read whole, and a multiple of 4 bytes long, so the lazy consumer reads the
same bytes -/
theorem step_offsetTable (bot : List Nat) (hb : ∀ o ∈ bot, o < 4294967296)
    (hl : 4 * bot.length < 4294967295) (rest : Bytes) (pos base : Nat) (stack : List RSeqTok) :
    StepTo ⟨⟨ts, dict, bot.flatMap (enc32 ts.bigEndian) ++ rest, pos⟩, false, true, false,
        ⟨true, 4 * bot.length, true, base⟩ :: stack, false, none⟩ (.offsetTable bot)
      ⟨⟨ts, dict, rest, pos + 4 * bot.length⟩, false, false, true,
        ⟨true, 4 * bot.length, true, base⟩ :: stack, false, none⟩ := by
  have hund : 4 * bot.length ≠ undefinedLen := len_ne_undef hl
  have hrd : rdMany (rd32 ts.bigEndian) bot.length (bot.flatMap (enc32 ts.bigEndian) ++ rest) = some (bot, rest) := by
    simpa using rdMany_flatMap (rd32 ts.bigEndian) (enc32 ts.bigEndian) id (· < 4294967296)
      (fun a r ha => rd32_enc32 _ a ha r) rest bot hb
  have h41 : 4 * bot.length / 4 = bot.length := by omega
  have h40 : 4 * bot.length % 4 = 0 := by omega
  refine ⟨fun fuel => ?_, ?_, rfl, rfl⟩
  · refine next_body _ _ _ fuel rfl (fun h => by simp at h) ?_
    exact body_offsetTable ts dict _ _ (4 * bot.length) _ _ none bot _ hund h40 (by rw [h41]; exact hrd)
  · have htk : takeN (4 * bot.length) (bot.flatMap (enc32 ts.bigEndian) ++ rest) =
        some (bot.flatMap (enc32 ts.bigEndian), rest) := by
      have := takeN_append (bot.flatMap (enc32 ts.bigEndian)) rest
      rwa [flatMap_length_const (enc32 ts.bigEndian) 4 (by simp), Nat.mul_comm] at this
    simp [LE.AnomStep, LE.Anom, LE.itemValueAgrees, hrd, htk, h40, h41]

theorem run_bot {bot : List Nat} (hl : 4 * bot.length < 4294967295) (hb : ∀ o ∈ bot, o < 4294967296)
    (rest : Bytes) (pos : Nat) (stack : List RSeqTok) (hpl : Plain stack) (h : ElemHeader)
    (h3 : h.isEncapsulatedPixeldata = true) :
    Run ⟨⟨ts, dict, itemHdr ts.bigEndian (4 * bot.length) ++ (bot.flatMap (enc32 ts.bigEndian) ++ rest), pos⟩,
        false, false, false, stack, false, some h⟩ (botTokens bot)
      (stI ts dict rest (pos + 8 + bot.length * 4) true (pixSq pos :: stack)) := by
  have s1 := step_pixFirstItem ts dict (4 * bot.length) (by omega) (bot.flatMap (enc32 ts.bigEndian) ++ rest)
    pos stack hpl h h3
  have s3 := step_end ts dict rest (pos + 8 + 4 * bot.length) false ⟨true, 4 * bot.length, true, pos + 8⟩
    (pixSq pos :: stack) (len_ne_undef hl) rfl
  have hm : bot.length * 4 % 4294967296 = bot.length * 4 := Nat.mod_eq_of_lt (by omega)
  have e4 : 4 * bot.length = bot.length * 4 := Nat.mul_comm _ _
  unfold botTokens
  rw [hm]
  cases bot with
  | nil => exact Run.cons s1 (Run.single s3)
  | cons a r =>
    have hz1 : (4 * (a :: r).length != 0) = true := by simp
    have hz2 : (4 * (a :: r).length == 0) = false := by simp
    rw [hz1, hz2] at s1
    have s2 := step_offsetTable ts dict (a :: r) hb hl rest (pos + 8) (pos + 8) (pixSq pos :: stack)
    rw [if_neg (by simp), ← e4]
    exact Run.cons s1 (Run.cons s2 (Run.single s3))

theorem step_seqEndDelim (rest : Bytes) (pos : Nat) (p : Bool)
    (sq : RSeqTok) (stack : List RSeqTok) (hu : sq.len = undefinedLen) :
    StepTo (stI ts dict (seqDelim ts.bigEndian ++ rest) pos p (sq :: stack)) .sequenceEnd
      (stE ts dict rest (pos + 8) true stack) :=
  .of_body rfl (fun _ => Or.inl hu) (body_seqEndDelim _ _ false _ none (dec_seqDelim ts dict rest _))

theorem run_pix {ts : Syntax} {dict : Tag → Option VR} {bot : List Nat} {frags : List Bytes}
    (ok : PixOk bot frags) (rest : Bytes) (pos : Nat) (p : Bool) (stack : List RSeqTok)
    (hpl : Plain stack) (hroom : Room stack pos (encElem ts (.pix bot frags)).length) :
    Run (stE ts dict (encElem ts (.pix bot frags) ++ rest) pos p stack) (Elem.tokens (.pix bot frags))
      (stE ts dict rest (pos + (encElem ts (.pix bot frags)).length) true stack) := by
  have hlen := encElem_pix_length ts bot frags
  have htok : Elem.tokens (.pix bot frags) =
      (.pixelSequenceStart :: botTokens bot) ++ (frags.flatMap fragTokens ++ [.sequenceEnd]) := by
    simp [Elem.tokens, List.append_assoc]
  have henc : encElem ts (.pix bot frags) ++ rest = header ts Tag.pixelData .OB undefinedLen ++
      (itemHdr ts.bigEndian (4 * bot.length) ++ (bot.flatMap (enc32 ts.bigEndian) ++
        (frags.flatMap (fragment ts.bigEndian) ++ (seqDelim ts.bigEndian ++ rest)))) := by
    simp [encElem, List.append_assoc]
  rw [htok, henc]
  exact ((Run.cons (step_pixStart ts dict _ pos p stack hpl (hroom.open (by rw [hlen]; omega)))
      (run_bot ts dict ok.botLen ok.bot _ _ stack hpl _ (by simp [ElemHeader.isEncapsulatedPixeldata]))).append
    ((run_frags ts dict frags ok.frags _ _ _ stack).append
      (Run.single (step_seqEndDelim ts dict rest _ true _ stack rfl)))).at_pos (by rw [hlen]; omega)

end

end Dicom.Ref
