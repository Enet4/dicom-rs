import DicomModel.Model.Valid
import DicomModel.Lemmas.RefBuild
/-
The independent checker `Valid.validPS35` accepts the reference encoding `Ref.encElems ts t` of every
canonical tree `t` (any nesting depth, defined and undefined lengths in any mixture, pixel sequences),
provided text values do not end in the other class's padding byte and — Implicit VR only — the checker's
`isSeq` oracle agrees with the tree (the two clauses of `Side`, Lemmas/ValidAccept.lean).

Technique: "accepted for all sufficiently large fuel" (`∀ F ≥ G, v… F stop (xs ++ rest) = some …`), which
composes over `xs ++ rest`; mutual structural induction on the tree.
-/
namespace Dicom.ValidRef
open Dicom.Ref Dicom.Valid

theorem vrOfCode_vrCode (vr : VR) : vrOfCode (vrCode vr).1 (vrCode vr).2 = some vr := by
  cases vr <;> decide

theorem short_iff (vr : VR) : shortVrs.contains vr = short16 vr := by cases vr <;> decide
theorem mem_short_iff (vr : VR) : vr ∈ shortVrs ↔ short16 vr = true := by
  rw [← short_iff, List.contains_iff_mem]

def cfg (ts : Syntax) (isSeq : Nat → Nat → Bool) : Cfg := ⟨ts.explicit, ts.bigEndian, isSeq⟩

theorem rdTagLen_enc (c : Cfg) (t : Tag) (hg : t.group < 65536) (he : t.elem < 65536) (l : Nat)
    (hl : l < 4294967296) (r : Bytes) :
    rdTagLen c (tagBytes c.bigEndian t ++ (enc32 c.bigEndian l ++ r)) = some (t.group, t.elem, l, r) := by
  simp [rdTagLen, tagBytes, List.append_assoc, rd16_enc16 _ _ hg, rd16_enc16 _ _ he, rd32_enc32 _ _ hl]

theorem rdTagLen_itemHdr (c : Cfg) (l : Nat) (hl : l < 4294967296) (r : Bytes) :
    rdTagLen c (itemHdr c.bigEndian l ++ r) = some (0xFFFE, 0xE000, l, r) := by
  simpa [itemHdr, List.append_assoc] using rdTagLen_enc c ⟨0xFFFE, 0xE000⟩ (by decide) (by decide) l hl r

theorem rdTagLen_seqDelim (c : Cfg) (r : Bytes) :
    rdTagLen c (seqDelim c.bigEndian ++ r) = some (0xFFFE, 0xE0DD, 0, r) := by
  simpa [seqDelim, List.append_assoc] using rdTagLen_enc c ⟨0xFFFE, 0xE0DD⟩ (by decide) (by decide) 0 (by decide) r

theorem rdTagLen_itemDelim (c : Cfg) (r : Bytes) :
    rdTagLen c (itemDelim c.bigEndian ++ r) = some (0xFFFE, 0xE00D, 0, r) := by
  simpa [itemDelim, List.append_assoc] using rdTagLen_enc c ⟨0xFFFE, 0xE00D⟩ (by decide) (by decide) 0 (by decide) r

theorem rdHeader_peek (c : Cfg) (bs : Bytes) :
    rdHeader { c with explicit := false } bs = (rdTagLen c bs).map fun (g, e, l, r) => (g, e, none, l, r) := by
  simp only [rdHeader, rdTagLen, Bool.false_eq_true, if_false]
  repeat' split
  all_goals simp_all

theorem header_eq (ts : Syntax) (t : Tag) (vr : VR) (len : Nat) :
    header ts t vr len = tagBytes ts.bigEndian t ++
      (if ts.explicit then [(vrCode vr).1, (vrCode vr).2] ++
          (if short16 vr then enc16 ts.bigEndian len else [0, 0] ++ enc32 ts.bigEndian len)
       else enc32 ts.bigEndian len) := by
  cases ts <;> simp [header, Syntax.bigEndian, Syntax.explicit, List.append_assoc]

theorem rdHeader_header (ts : Syntax) (isSeq : Nat → Nat → Bool) (t : Tag) (vr : VR) (len : Nat)
    (hg : t.group < 65536) (he : t.elem < 65536) (hl : len < 4294967296)
    (hs : ts.explicit = true → short16 vr = true → len < 65536) (r : Bytes) :
    rdHeader (cfg ts isSeq) (header ts t vr len ++ r)
      = some (t.group, t.elem, (if ts.explicit then some vr else none), len, r) := by
  rw [header_eq]
  cases hx : ts.explicit
  · simp [rdHeader, cfg, hx, tagBytes, List.append_assoc, rd16_enc16 _ _ hg, rd16_enc16 _ _ he, rd32_enc32 _ _ hl]
  · cases hsh : short16 vr
    · simp [rdHeader, cfg, hx, hsh, tagBytes, List.append_assoc, rd16_enc16 _ _ hg, rd16_enc16 _ _ he,
        vrOfCode_vrCode, mem_short_iff, rd32_enc32 _ _ hl]
    · simp [rdHeader, cfg, hx, hsh, tagBytes, List.append_assoc, rd16_enc16 _ _ hg, rd16_enc16 _ _ he,
        vrOfCode_vrCode, mem_short_iff, rd16_enc16 _ _ (hs hx hsh)]

theorem peek_header (ts : Syntax) (isSeq : Nat → Nat → Bool) (t : Tag) (vr : VR) (len : Nat)
    (hg : t.group < 65536) (he : t.elem < 65536) (r : Bytes) :
    ∃ l0 r0, rdHeader { cfg ts isSeq with explicit := false } (header ts t vr len ++ r)
      = some (t.group, t.elem, none, l0, r0) := by
  rw [header_eq]
  have key : ∀ (x : Bytes) (hx : 4 ≤ x.length), ∃ l0 r0,
      rdHeader { cfg ts isSeq with explicit := false } (tagBytes ts.bigEndian t ++ x)
        = some (t.group, t.elem, none, l0, r0) := by
    intro x hx
    match x, hx with
    | a :: b :: c :: d :: r', _ =>
      cases hb : ts.bigEndian <;>
        simp [rdHeader, cfg, hb, tagBytes, List.append_assoc, rd16_enc16 _ _ hg, rd16_enc16 _ _ he, rd32, rdLe32, rdBe32]
  rw [List.append_assoc]
  apply key
  cases ts <;> cases short16 vr <;> simp [Syntax.explicit]

/-- what `vElems` asks of the bytes in front of it before it looks at an element's value -/
structure Reads (c : Cfg) (bs : Bytes) (g e : Nat) (vr : Option VR) (l : Nat) (r : Bytes) : Prop where
  nonempty : bs.isEmpty = false
  peek : ∃ l0 r0, rdHeader { c with explicit := false } bs = some (g, e, none, l0, r0)
  notItem : g ≠ 0xFFFE
  header : rdHeader c bs = some (g, e, vr, l, r)

theorem nonempty_append {a : Bytes} (b : Bytes) (h : 1 ≤ a.length) : (a ++ b).isEmpty = false := by
  cases a with
  | nil => simp at h
  | cons _ _ => rfl

theorem reads_header (ts : Syntax) (isSeq : Nat → Nat → Bool) {t : Tag} (vr : VR) {len : Nat}
    (ht : tagOk t = true) (hl : len < 4294967296) (hs : ts.explicit = true → short16 vr = true → len < 65536)
    (r : Bytes) :
    Reads (cfg ts isSeq) (header ts t vr len ++ r) t.group t.elem (if ts.explicit then some vr else none) len r := by
  simp only [tagOk, Bool.and_eq_true, decide_eq_true_eq, bne_iff_ne, ne_eq] at ht
  obtain ⟨⟨hg, he⟩, hfe⟩ := ht
  have := header_ge8 ts t vr len
  exact ⟨nonempty_append r (by omega), peek_header ts isSeq t vr len hg he r, hfe,
    rdHeader_header ts isSeq t vr len hg he hl hs r⟩

end Dicom.ValidRef
