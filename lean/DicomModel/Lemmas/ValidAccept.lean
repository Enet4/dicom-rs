import DicomModel.Lemmas.ValidRef
/-
`Valid.validPS35` accepts `Ref.encElems ts t` for every canonical tree `t`: each arm of the checker as a step
of "accepted for all sufficiently large fuel" (`AccE` / `AccI`), then mutual structural induction on the tree.
-/
namespace Dicom.ValidRef
open Dicom.Ref Dicom.Valid

mutual
/-- side conditions of the checker that canonicity does not imply: (1) the visible padding rule — a text
value does not end in NUL, a UI value not in a space; (2) Implicit VR only: the checker's `isSeq` oracle
says "sequence" for the defined-length sequences of the tree and "not a sequence" for its other elements -/
def Side (ts : Syntax) (isSeq : Nat → Nat → Bool) : Elem → Prop
  | .prim tag vr _ v =>
    trailOk (if ts.explicit then some vr else none) (value ts.bigEndian v) = true
      ∧ (ts.explicit = false → isSeq tag.group tag.elem = false)
  | .seq tag len items =>
    (ts.explicit = false → len ≠ undefinedLen → isSeq tag.group tag.elem = true) ∧ SideItems ts isSeq items
  | .pix _ _ => ts.explicit = false → isSeq 0x7FE0 0x0010 = false
def SideItems (ts : Syntax) (isSeq : Nat → Nat → Bool) : Items → Prop
  | .nil => True
  | .cons _ es r => SideElems ts isSeq es ∧ SideItems ts isSeq r
def SideElems (ts : Syntax) (isSeq : Nat → Nat → Bool) : Elems → Prop
  | .nil => True
  | .cons e r => Side ts isSeq e ∧ SideElems ts isSeq r
end

mutual
/-- an upper bound of the checker's recursion depth on the encoding of a tree -/
def costElem : Elem → Nat
  | .prim _ _ _ _ => 1
  | .seq _ _ its => 2 + costItems its
  | .pix _ frags => 3 + frags.length
def costItems : Items → Nat
  | .nil => 0
  | .cons _ es r => 2 + costElems es + costItems r
def costElems : Elems → Nat
  | .nil => 0
  | .cons e r => costElem e + costElems r
end

/-- `vElems` / `vItems` on `bs` return `res` for every fuel from `G` on -/
def AccE (c : Cfg) (stop : Stop) (bs : Bytes) (G : Nat) (res : List PVal × Bytes) : Prop :=
  ∀ F, G ≤ F → vElems c F stop bs = some res
def AccI (c : Cfg) (stop : Stop) (bs : Bytes) (G : Nat) (res : List PVal × Bytes) : Prop :=
  ∀ F, G ≤ F → vItems c F stop bs = some res

/-! ### one step of the checker, for all sufficiently large fuel

Each lemma is one arm of `vElems` / `vItems` / `vFrags`: if the parts are accepted from fuel `G₁`, `G₂` on,
the whole is accepted from `G₁ + G₂ + 1` on. -/

theorem of_succ {P : Nat → Prop} {G : Nat} (h : ∀ F, G ≤ F → P (F + 1)) : ∀ F, G + 1 ≤ F → P F := by
  intro F hF
  obtain ⟨F0, rfl⟩ : ∃ F0, F = F0 + 1 := ⟨F - 1, by omega⟩
  exact h F0 (by omega)

section
variable {c : Cfg} {stop : Stop} {bs r r1 r2 v : Bytes} {g e G G' : Nat} {vr : Option VR} {vs ws : List PVal}
  {res : List PVal × Bytes}

theorem AccE.mono (h : AccE c stop bs G res) (hG : G ≤ G') : AccE c stop bs G' res :=
  fun F hF => h F (Nat.le_trans hG hF)

theorem AccI.mono (h : AccI c stop bs G res) (hG : G ≤ G') : AccI c stop bs G' res :=
  fun F hF => h F (Nat.le_trans hG hF)

theorem AccE.atEnd (c : Cfg) : AccE c .atEnd [] 1 ([], []) :=
  of_succ (G := 0) fun F _ => by rw [vElems]; simp

theorem AccI.atEnd (c : Cfg) : AccI c .atEnd [] 1 ([], []) :=
  of_succ (G := 0) fun F _ => by rw [vItems]; simp

theorem AccE.itemEnd (c : Cfg) (Y : Bytes) : AccE c .atDelim (itemDelim c.bigEndian ++ Y) 1 ([], Y) :=
  of_succ (G := 0) fun F _ => by
    have hne : (itemDelim c.bigEndian ++ Y).isEmpty = false := nonempty_append Y (by rw [itemDelim_length]; decide)
    rw [vElems]
    simp [rdHeader_peek, rdTagLen_itemDelim, hne]

theorem AccI.seqEnd (c : Cfg) (Y : Bytes) : AccI c .atDelim (seqDelim c.bigEndian ++ Y) 1 ([], Y) :=
  of_succ (G := 0) fun F _ => by
    have hne : (seqDelim c.bigEndian ++ Y).isEmpty = false := nonempty_append Y (by rw [seqDelim_length]; decide)
    rw [vItems]
    simp [rdTagLen_seqDelim, hne]

theorem AccE.prim (h : Reads c bs g e vr v.length (v ++ r)) (hsq : isSqOf c g e vr v.length = false)
    (hl : v.length ≠ undef) (heven : v.length % 2 = 0) (htr : trailOk vr v = true)
    (hk : AccE c stop r G (ws, r2)) : AccE c stop bs (G + 1) (⟨g, e, vr, v⟩ :: ws, r2) :=
  of_succ fun F hF => by
    obtain ⟨l0, r0, hpk⟩ := h.peek
    rw [vElems]
    simp [h.nonempty, hpk, h.notItem, h.header, hsq, hl, heven, takeN_append, htr, hk F hF]

theorem AccE.seqUndef (h : Reads c bs g e vr undef r) (hsq : isSqOf c g e vr undef = true)
    (h1 : AccI c .atDelim r G (vs, r1)) (h2 : AccE c stop r1 G' (ws, r2)) :
    AccE c stop bs (G + G' + 1) (vs ++ ws, r2) :=
  of_succ fun F hF => by
    obtain ⟨l0, r0, hpk⟩ := h.peek
    rw [vElems]
    simp [h.nonempty, hpk, h.notItem, h.header, hsq, h1 F (by omega), h2 F (by omega)]

theorem AccE.seqDef (h : Reads c bs g e vr v.length (v ++ r)) (hsq : isSqOf c g e vr v.length = true)
    (hl : v.length ≠ undef) (heven : v.length % 2 = 0) (h1 : AccI c .atEnd v G (vs, []))
    (h2 : AccE c stop r G' (ws, r2)) : AccE c stop bs (G + G' + 1) (vs ++ ws, r2) :=
  of_succ fun F hF => by
    obtain ⟨l0, r0, hpk⟩ := h.peek
    rw [vElems]
    simp [h.nonempty, hpk, h.notItem, h.header, hsq, hl, heven, takeN_append, h1 F (by omega), h2 F (by omega)]

theorem AccE.pix (h : Reads c bs 0x7FE0 0x0010 vr undef r) (hsq : isSqOf c 0x7FE0 0x0010 vr undef = false)
    (hvr : vr = none ∨ vr = some VR.OB ∨ vr = some VR.OW) (h1 : ∀ F, G ≤ F → vFrags c F r = some r1)
    (h2 : AccE c stop r1 G' res) : AccE c stop bs (G + G' + 1) res :=
  of_succ fun F hF => by
    obtain ⟨l0, r0, hpk⟩ := h.peek
    rw [vElems]
    simp [h.nonempty, hpk, h.header, hsq, hvr, h1 F (by omega), h2 F (by omega)]

theorem AccI.itemUndef (h1 : AccE c .atDelim r G (vs, r1)) (h2 : AccI c stop r1 G' (ws, r2)) :
    AccI c stop (itemHdr c.bigEndian undef ++ r) (G + G' + 1) (vs ++ ws, r2) :=
  of_succ fun F hF => by
    have hne : (itemHdr c.bigEndian undef ++ r).isEmpty = false := nonempty_append r (by rw [itemHdr_length]; decide)
    rw [vItems]
    simp [hne, rdTagLen_itemHdr c undef (by decide), h1 F (by omega), h2 F (by omega)]

theorem AccI.itemDef (hl : v.length < undef) (heven : v.length % 2 = 0) (h1 : AccE c .atEnd v G (vs, []))
    (h2 : AccI c stop r G' (ws, r2)) :
    AccI c stop (itemHdr c.bigEndian v.length ++ (v ++ r)) (G + G' + 1) (vs ++ ws, r2) :=
  of_succ fun F hF => by
    have hne : (itemHdr c.bigEndian v.length ++ (v ++ r)).isEmpty = false :=
      nonempty_append _ (by rw [itemHdr_length]; decide)
    rw [vItems]
    simp [hne, rdTagLen_itemHdr c _ (Nat.lt_succ_of_lt hl), Nat.ne_of_lt hl, heven, takeN_append, h1 F (by omega),
      h2 F (by omega)]

end


theorem vFrags_item (c : Cfg) (F : Nat) (v r : Bytes) (heven : v.length % 2 = 0) (hlt : v.length < undef) :
    vFrags c (F + 1) (itemHdr c.bigEndian v.length ++ (v ++ r)) = vFrags c F r := by
  rw [vFrags]
  simp [rdTagLen_itemHdr c _ (Nat.lt_succ_of_lt hlt), Nat.ne_of_lt hlt, heven, takeN_append]

theorem acc_frags (c : Cfg) : ∀ (frags : List Bytes), (∀ f ∈ frags, f.length % 2 = 0 ∧ f.length < 4294967295) →
    ∀ (X : Bytes) (F : Nat), 1 + frags.length ≤ F →
      vFrags c F (frags.flatMap (fragment c.bigEndian) ++ (seqDelim c.bigEndian ++ X)) = some X
  | [], _, X, F, hF => by
    obtain ⟨F0, rfl⟩ : ∃ F0, F = F0 + 1 := ⟨F - 1, by omega⟩
    rw [vFrags]
    simp [rdTagLen_seqDelim]
  | f :: r, hf, X, F, hF => by
    obtain ⟨F0, rfl⟩ : ∃ F0, F = F0 + 1 := ⟨F - 1, by omega⟩
    obtain ⟨he, hl⟩ := hf f (by simp)
    rw [List.flatMap_cons, fragment, List.append_assoc, List.append_assoc, vFrags_item c F0 f _ he hl]
    exact acc_frags c r (fun x hx => hf x (by simp [hx])) X F0 (by simp at hF ⊢; omega)

theorem acc_pix_body (c : Cfg) (bot : List Nat) (frags : List Bytes) (hb : 4 * bot.length < 4294967295)
    (hf : ∀ f ∈ frags, f.length % 2 = 0 ∧ f.length < 4294967295) (X : Bytes) (F : Nat)
    (hF : 2 + frags.length ≤ F) :
    vFrags c F (itemHdr c.bigEndian (4 * bot.length) ++ (bot.flatMap (enc32 c.bigEndian) ++
      (frags.flatMap (fragment c.bigEndian) ++ (seqDelim c.bigEndian ++ X)))) = some X := by
  obtain ⟨F0, rfl⟩ : ∃ F0, F = F0 + 1 := ⟨F - 1, by omega⟩
  have hlen : (bot.flatMap (enc32 c.bigEndian)).length = 4 * bot.length := by
    rw [flatMap_length_const _ 4 (by simp), Nat.mul_comm]
  rw [← hlen, vFrags_item c F0 _ _ (by omega) (by unfold undef; omega)]
  exact acc_frags c frags hf X F0 (by omega)

/- The hypothesis `1 ≤ G` of the three statements is only handed on. -/

theorem not_pixel {t : Tag} (h : t ≠ Tag.pixelData) : (t.group == 0x7FE0 && t.elem == 0x0010) = false := by
  cases t with
  | mk g e =>
    simp only [Tag.pixelData, ne_eq, Tag.mk.injEq, not_and] at h
    simpa using h

mutual
theorem acc_elem (ts : Syntax) (dict : Tag → Option VR) (isSeq : Nat → Nat → Bool) : ∀ (e : Elem),
    canonElem ts dict e = true → Side ts isSeq e → ∀ (stop : Stop) (X : Bytes) (G : Nat) (ws : List PVal) (r' : Bytes),
      1 ≤ G → AccE (cfg ts isSeq) stop X G (ws, r') →
      ∃ vs, AccE (cfg ts isSeq) stop (encElem ts e ++ X) (G + costElem e) (vs ++ ws, r')
  | .prim tag vr len v, hc, hs, stop, X, G, ws, r', hG, hacc => by
    have hp := primOk_of_canon hc
    have hlt := hp.len_lt
    have hlen := hp.len_eq
    subst hlen
    have hlu : (value ts.bigEndian v).length ≠ undef := by unfold undef; omega
    refine ⟨[⟨tag.group, tag.elem, (if ts.explicit then some vr else none), value ts.bigEndian v⟩], ?_⟩
    simp only [encElem, List.append_assoc]
    exact AccE.prim (reads_header ts isSeq vr hp.tag (by omega) hp.short _)
      (by cases hx : ts.explicit <;> simp [isSqOf, cfg, hx, hs.2, hlu, hp.notSq]) hlu hp.even hs.1 hacc
  | .seq tag len items, hc, hs, stop, X, G, ws, r', hG, hacc => by
    have ok := seqOk_of_canon hc
    rcases ok.len with hlen | ⟨hlen, hlt, _⟩
    · -- undefined length: items, then the sequence delimiter
      subst hlen
      obtain ⟨vs, hvs⟩ := acc_items ts dict isSeq items ok.items hs.2 .atDelim (seqDelim ts.bigEndian ++ X) 1 [] X
        (Nat.le_refl 1) (AccI.seqEnd (cfg ts isSeq) X)
      refine ⟨vs, ?_⟩
      rw [List.append_nil] at hvs
      simp only [encElem, if_true, List.append_assoc, costElem]
      exact (AccE.seqUndef (reads_header ts isSeq .SQ ok.tagok (by decide) (fun _ h => by cases h) _)
        (by cases hx : ts.explicit <;> simp [isSqOf, cfg, hx, not_pixel ok.notPix]) hvs hacc).mono (by omega)
    · -- defined length: exactly the items
      subst hlen
      have hlu : (encItems ts items).length ≠ undefinedLen := by unfold undefinedLen; omega
      obtain ⟨vs, hvs⟩ := acc_items ts dict isSeq items ok.items hs.2 .atEnd [] 1 [] [] (Nat.le_refl 1)
        (AccI.atEnd (cfg ts isSeq))
      refine ⟨vs, ?_⟩
      rw [List.append_nil, List.append_nil] at hvs
      simp only [encElem, hlu, if_false, List.append_nil, List.append_assoc, costElem]
      exact (AccE.seqDef (reads_header ts isSeq .SQ ok.tagok (by omega) (fun _ h => by cases h) _)
        (by cases hx : ts.explicit <;> simp [isSqOf, cfg, hx, hs.1, hlu]) hlu (even_items ts dict items ok.items)
        hvs hacc).mono (by omega)
  | .pix bot frags, hc, hs, stop, X, G, ws, r', hG, hacc => by
    have hpo := pixOk_of_canon hc
    have hs : ts.explicit = false → isSeq 0x7FE0 0x0010 = false := hs
    refine ⟨[], ?_⟩
    simp only [encElem, List.append_assoc, List.nil_append, costElem]
    exact (AccE.pix (reads_header ts isSeq .OB (t := Tag.pixelData) (by decide) (by decide) (fun _ h => by cases h) _)
      (by cases hx : ts.explicit <;> simp [isSqOf, cfg, hx, hs]) (by cases ts.explicit <;> simp)
      (acc_pix_body (cfg ts isSeq) bot frags hpo.botLen hpo.frags X) hacc).mono (by omega)
theorem acc_items (ts : Syntax) (dict : Tag → Option VR) (isSeq : Nat → Nat → Bool) : ∀ (its : Items),
    canonItems ts dict its = true → SideItems ts isSeq its → ∀ (stop : Stop) (X : Bytes) (G : Nat) (ws : List PVal)
      (r' : Bytes), 1 ≤ G → AccI (cfg ts isSeq) stop X G (ws, r') →
      ∃ vs, AccI (cfg ts isSeq) stop (encItems ts its ++ X) (G + costItems its) (vs ++ ws, r')
  | .nil, _, _, stop, X, G, ws, r', _, hacc => ⟨[], by simpa [encItems, costItems] using hacc⟩
  | .cons len es rest, hc, hs, stop, X, G, ws, r', hG, hacc => by
    obtain ⟨ok, hcr⟩ := itemOk_of_canon hc
    obtain ⟨vs2, hvs2⟩ := acc_items ts dict isSeq rest hcr hs.2 stop X G ws r' hG hacc
    rcases ok.len with hlen | ⟨hlen, hlt⟩
    · subst hlen
      obtain ⟨vs1, hvs1⟩ := acc_elems ts dict isSeq es ok.elems hs.1 .atDelim
        (itemDelim ts.bigEndian ++ (encItems ts rest ++ X)) 1 [] (encItems ts rest ++ X) (Nat.le_refl 1)
        (AccE.itemEnd (cfg ts isSeq) _)
      refine ⟨vs1 ++ vs2, ?_⟩
      rw [List.append_nil] at hvs1
      simp only [encItems, if_true, List.append_assoc, costItems]
      exact (AccI.itemUndef hvs1 hvs2).mono (by omega)
    · subst hlen
      have hlu : (encElems ts es).length ≠ undefinedLen := by unfold undefinedLen; omega
      obtain ⟨vs1, hvs1⟩ := acc_elems ts dict isSeq es ok.elems hs.1 .atEnd [] 1 [] [] (Nat.le_refl 1)
        (AccE.atEnd (cfg ts isSeq))
      refine ⟨vs1 ++ vs2, ?_⟩
      rw [List.append_nil, List.append_nil] at hvs1
      simp only [encItems, hlu, if_false, List.nil_append, List.append_assoc, costItems]
      exact (AccI.itemDef (by unfold undef; omega) (even_elems ts dict es ok.elems) hvs1 hvs2).mono (by omega)
theorem acc_elems (ts : Syntax) (dict : Tag → Option VR) (isSeq : Nat → Nat → Bool) : ∀ (es : Elems),
    canonElems ts dict es = true → SideElems ts isSeq es → ∀ (stop : Stop) (X : Bytes) (G : Nat) (ws : List PVal)
      (r' : Bytes), 1 ≤ G → AccE (cfg ts isSeq) stop X G (ws, r') →
      ∃ vs, AccE (cfg ts isSeq) stop (encElems ts es ++ X) (G + costElems es) (vs ++ ws, r')
  | .nil, _, _, stop, X, G, ws, r', _, hacc => ⟨[], by simpa [encElems, costElems] using hacc⟩
  | .cons e rest, hc, hs, stop, X, G, ws, r', hG, hacc => by
    simp only [canonElems, Bool.and_eq_true] at hc
    obtain ⟨vs2, hvs2⟩ := acc_elems ts dict isSeq rest hc.2 hs.2 stop X G ws r' hG hacc
    obtain ⟨vs1, hvs1⟩ := acc_elem ts dict isSeq e hc.1 hs.1 stop (encElems ts rest ++ X) (G + costElems rest)
      (vs2 ++ ws) r' (by omega) hvs2
    refine ⟨vs1 ++ vs2, ?_⟩
    simp only [encElems, costElems, List.append_assoc]
    exact hvs1.mono (by omega)
end


theorem fragment_flat_length (be : Bool) : ∀ frags : List Bytes, frags.length ≤ (frags.flatMap (fragment be)).length
  | [] => by simp
  | f :: r => by
    have := fragment_flat_length be r
    simp only [List.flatMap_cons, fragment, List.length_append, List.length_cons, itemHdr_length]
    omega

mutual
theorem cost_le_elem (ts : Syntax) : ∀ e : Elem, costElem e ≤ (encElem ts e).length
  | .prim tag vr len v => by
    have := header_ge8 ts tag vr len
    simp [costElem, encElem]; omega
  | .seq tag len items => by
    have := header_ge8 ts tag .SQ len
    have := cost_le_items ts items
    simp [costElem, encElem]; omega
  | .pix bot frags => by
    have h1 := header_ge8 ts Tag.pixelData .OB undefinedLen
    have h2 := fragment_flat_length ts.bigEndian frags
    have h3 := itemHdr_length ts.bigEndian (4 * bot.length)
    have h4 := seqDelim_length ts.bigEndian
    simp only [costElem, encElem, List.length_append]
    omega
theorem cost_le_items (ts : Syntax) : ∀ its : Items, costItems its ≤ (encItems ts its).length
  | .nil => by simp [costItems]
  | .cons len es r => by
    have := cost_le_elems ts es
    have := cost_le_items ts r
    simp [costItems, encItems, itemHdr, tagBytes]; omega
theorem cost_le_elems (ts : Syntax) : ∀ es : Elems, costElems es ≤ (encElems ts es).length
  | .nil => by simp [costElems]
  | .cons e r => by
    have := cost_le_elem ts e
    have := cost_le_elems ts r
    simp [costElems, encElems]; omega
end

end Dicom.ValidRef
