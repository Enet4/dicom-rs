import DicomModel.Lemmas.PData
/-
Lemmas for C26, asynchronous writer: under a transport script without `Err` and `Ready(0)` the
asynchronous session is a stuttering copy of the synchronous one.
-/
namespace Dicom.PData
open Dicom.Gen.Ul

/-- a transport script with no error and no zero-length write -/
def NoFault (s : List Ev) : Prop := ∀ e ∈ s, e ≠ .err ∧ e ≠ .ready 0

theorem NoFault.tail {e : Ev} {s : List Ev} (h : NoFault (e :: s)) : NoFault s :=
  fun x hx => h x (List.mem_cons_of_mem _ hx)

theorem noFault_nil : NoFault [] := nofun

theorem setupHeader_some_pos {buf b : Bytes} {l : Bool} (h : setupHeader buf l = some b) :
    0 < b.length := by
  unfold setupHeader at h
  split at h
  · cases h
  · cases h
    simp only [List.length_append, be32_length]
    omega

/-- the sending loop on a fault-free script: either everything left goes out, or it suspends
having sent a prefix of what was left -/
theorem drain_spec (buf : Bytes) : ∀ (s : List Ev) (pos : Nat) (out : Bytes), NoFault s →
    pos < buf.length →
    (∃ s', drain buf pos out s = .done (out ++ buf.drop pos) s' ∧ NoFault s') ∨
    (∃ pos' out' s', drain buf pos out s = .susp pos' out' s' ∧
      out' ++ buf.drop pos' = out ++ buf.drop pos ∧ pos' < buf.length ∧ NoFault s') := by
  intro s
  induction s with
  | nil => intro pos out _ _; exact .inl ⟨[], rfl, noFault_nil⟩
  | cons e s ih =>
    intro pos out hnf hpos
    have hnf' := hnf.tail
    cases e with
    | err => exact absurd rfl (hnf .err List.mem_cons_self).1
    | pending => exact .inr ⟨pos, out, s, rfl, rfl, hpos, hnf'⟩
    | ready n =>
      have hn : n ≠ 0 := fun h => (hnf (.ready n) List.mem_cons_self).2 (by rw [h])
      generalize hk : min n (buf.length - pos) = k
      have hk0 : k ≠ 0 := by omega
      simp only [drain, hk, hk0, if_false]
      by_cases hfull : pos + k = buf.length
      · rw [if_pos hfull, List.take_of_length_le (by rw [List.length_drop]; omega)]
        exact .inl ⟨s, rfl, hnf'⟩
      · have hsplit : out ++ (buf.drop pos).take k ++ buf.drop (pos + k) = out ++ buf.drop pos := by
          rw [List.append_assoc, ← List.drop_drop, List.take_append_drop]
        rw [if_neg hfull, ← hsplit]
        exact ih (pos + k) (out ++ (buf.drop pos).take k) hnf' (by omega)

/-- tokio's `write_all` on the transport is the sending loop polled again after every `Pending` -/
theorem sendAll_eq_drain (buf : Bytes) : ∀ (s : List Ev) (pos : Nat) (out : Bytes),
    sendAll buf pos out s = match drain buf pos out s with
      | .done out' s' => (out', .ok, s')
      | .susp pos' out' s' => sendAll buf pos' out' s'
      | .fail r out' s' => (out', r, s') := by
  intro s
  induction s with
  | nil => intro pos out; rfl
  | cons e s ih =>
    intro pos out
    cases e with
    | err => rfl
    | pending => rfl
    | ready n =>
      simp only [sendAll, drain]
      split
      · rfl
      · split
        · rfl
        · exact ih _ _

theorem sendAll_spec (buf : Bytes) : ∀ (n : Nat) (s : List Ev), s.length = n → ∀ (pos : Nat)
    (out : Bytes), NoFault s → pos < buf.length →
    ∃ s', sendAll buf pos out s = (out ++ buf.drop pos, .ok, s') ∧ NoFault s' := by
  intro n
  induction n using Nat.strongRecOn with
  | ind n ih =>
    intro s hn pos out hnf hpos
    rw [sendAll_eq_drain]
    rcases drain_spec buf s pos out hnf hpos with ⟨s', h1, h2⟩ | ⟨pos', out', s', h1, h2, h3, h4⟩
    · exact ⟨s', by rw [h1], h2⟩
    · obtain ⟨s'', h6, h7⟩ :=
        ih _ (hn ▸ (drain_rest buf pos out s).2 _ _ _ h1) s' rfl pos' out' h4 h3
      exact ⟨s'', by rw [h1, ← h2]; exact h6, h7⟩

/-- one pass through the sending loop of `poll_write` whose PDU goes out whole -/
theorem pollSend_done {max : Nat} {b : Bytes} {pos c : Nat} {keep : Option (Nat × Nat)}
    {out out' chunk : Bytes} {s s' : List Ev} (h : drain b pos out s = .done out' s') :
    pollSend max b pos c keep out chunk s
      = (⟨(refill max (b.take 12) c chunk).1, none, out'⟩,
         .ready (refill max (b.take 12) c chunk).2, s') := by
  rw [pollSend, h]; rfl

theorem pollSend_susp {max : Nat} {b : Bytes} {pos pos' c : Nat} {keep : Option (Nat × Nat)}
    {out out' chunk : Bytes} {s s' : List Ev} (h : drain b pos out s = .susp pos' out' s') :
    pollSend max b pos c keep out chunk s = (⟨b, some (pos', c), out'⟩, .pending, s') := by
  rw [pollSend, h]

/-! ### `write_all` polled to completion -/

/-- what the asynchronous `write_all` does after a poll that answered `Ready(k)` -/
def asyncCont (max : Nat) (w1 : AW) (k : Nat) (chunk : Bytes) (s : List Ev) : AW × Res × List Ev :=
  match k with
  | 0 => (w1, .writeZero, s)
  | k' + 1 => writeAllA max w1 (chunk.drop (k' + 1)) s

theorem writeAllA_nil (max : Nat) (w : AW) (s : List Ev) : writeAllA max w [] s = (w, .ok, s) := by
  rw [writeAllA]; rfl

theorem writeAllA_poll {max : Nat} {w w' : AW} {chunk : Bytes} {s s' : List Ev} {p : Poll}
    (hc : chunk ≠ []) (hp : pollWrite max w chunk s = (w', p, s')) :
    writeAllA max w chunk s = match p with
      | .fail r => (w', r, s')
      | .ready k => asyncCont max w' k chunk s'
      | .pending => writeAllA max w' chunk s' := by
  rw [writeAllA, dif_neg hc]
  split <;> rename_i heq <;> rw [hp] at heq <;> cases heq <;> rfl

theorem pollWrite_writing (max : Nat) (b : Bytes) (pos c : Nat) (out chunk : Bytes) (s : List Ev) :
    pollWrite max ⟨b, some (pos, c), out⟩ chunk s
      = pollSend max b pos c (some (pos, c)) out chunk s := rfl

/-- the asynchronous writer in the `Ready` state that mirrors a synchronous writer -/
def liftW (x : SW) : AW := ⟨x.buf, none, x.out⟩

/-- an asynchronous outcome that mirrors a synchronous one -/
def lift (x : SW × Res) (s' : List Ev) : AW × Res × List Ev := (liftW x.1, x.2, s')

/-- While a PDU is in flight (`Writing(pos, c)`) the polls only move it on; when it is out the poll
answers what `refill_after_dispatch` says, whatever the number of `Pending` answers before. -/
theorem writeAllA_writing (max : Nat) (chunk : Bytes) (hc : chunk ≠ []) (b : Bytes) (c : Nat) :
    ∀ (n : Nat) (s : List Ev), s.length = n → ∀ (pos : Nat) (out : Bytes), NoFault s →
      pos < b.length → ∃ s', NoFault s' ∧
      writeAllA max ⟨b, some (pos, c), out⟩ chunk s
        = asyncCont max ⟨(refill max (b.take 12) c chunk).1, none, out ++ b.drop pos⟩
            (refill max (b.take 12) c chunk).2 chunk s' := by
  intro n
  induction n using Nat.strongRecOn with
  | ind n ih =>
    intro s hn pos out hnf hpos
    rcases drain_spec b s pos out hnf hpos with ⟨s', h1, h2⟩ | ⟨pos', out', s', h1, h2, h3, h4⟩
    · exact ⟨s', h2, writeAllA_poll hc ((pollWrite_writing ..).trans (pollSend_done h1))⟩
    · obtain ⟨s'', h6, h7⟩ := ih _ (hn ▸ (drain_rest b pos out s).2 _ _ _ h1) s' rfl pos' out' h4 h3
      exact ⟨s'', h6, by
        rw [writeAllA_poll hc ((pollWrite_writing ..).trans (pollSend_susp h1)), h7, h2]⟩

/-- From the `Ready` state the polls up to the first `Ready` answer do what one `write` does. -/
theorem writeAllA_step (max : Nat) (buf out chunk : Bytes) (hc : chunk ≠ []) (s : List Ev)
    (hnf : NoFault s) :
    (write max ⟨buf, out⟩ chunk = none →
      writeAllA max (liftW ⟨buf, out⟩) chunk s = (liftW ⟨buf, out⟩, .panic, s)) ∧
    (∀ sw' k, write max ⟨buf, out⟩ chunk = some (sw', k) → ∃ s', NoFault s' ∧
      writeAllA max (liftW ⟨buf, out⟩) chunk s = asyncCont max (liftW sw') k chunk s') := by
  have hpoll := pollWrite.eq_1 max ⟨buf, none, out⟩ chunk s
  have hwrite := write.eq_1 max ⟨buf, out⟩ chunk
  simp only [dispatch] at hpoll hwrite
  rw [hwrite]
  by_cases hfit : buf.length + chunk.length ≤ totalLen max
  · rw [if_pos hfit] at hpoll ⊢
    exact ⟨nofun, fun sw' k h => by cases h; exact ⟨s, hnf, writeAllA_poll hc hpoll⟩⟩
  · rw [if_neg hfit] at hpoll ⊢
    by_cases hpan : totalLen max < buf.length
    · rw [if_pos hpan] at hpoll ⊢
      exact ⟨fun _ => writeAllA_poll hc hpoll, nofun⟩
    · rw [if_neg hpan] at hpoll ⊢
      cases hsh : setupHeader (buf ++ chunk.take (totalLen max - buf.length)) false with
      | none =>
        rw [hsh] at hpoll
        exact ⟨fun _ => writeAllA_poll hc hpoll, nofun⟩
      | some b =>
        rw [hsh] at hpoll
        refine ⟨nofun, fun sw' k h => ?_⟩
        cases h
        rcases drain_spec b s 0 out hnf (setupHeader_some_pos hsh) with
          ⟨s', h1, h2⟩ | ⟨pos', out', s', h1, h2, h3, h4⟩
        · exact ⟨s', h2, writeAllA_poll hc (hpoll.trans (pollSend_done h1))⟩
        · obtain ⟨s'', h6, h7⟩ := writeAllA_writing max chunk hc b (totalLen max - buf.length) _ s' rfl
            pos' out' h4 h3
          exact ⟨s'', h6, (writeAllA_poll hc (hpoll.trans (pollSend_susp h1))).trans
            (h7.trans (by rw [h2]; rfl))⟩

/-- Simulation of `write_all`: from the `Ready` state the asynchronous `write_all` ends like the
synchronous one. -/
theorem writeAllA_sim (max : Nat) : ∀ (n : Nat) (chunk : Bytes), chunk.length = n →
    ∀ (sw : SW) (s : List Ev), NoFault s →
    ∃ s', NoFault s' ∧ writeAllA max (liftW sw) chunk s = lift (writeAll max sw chunk) s' := by
  intro n
  induction n using Nat.strongRecOn with
  | ind n ih =>
    intro chunk hn sw s hnf
    obtain ⟨buf, out⟩ := sw
    by_cases hc : chunk = []
    · subst hc
      exact ⟨s, hnf, by rw [writeAllA_nil, writeAll_nil]; rfl⟩
    · obtain ⟨hnone, hsome⟩ := writeAllA_step max buf out chunk hc s hnf
      cases hw : write max ⟨buf, out⟩ chunk with
      | none => exact ⟨s, hnf, by rw [hnone hw, writeAll_none hc hw]; rfl⟩
      | some r =>
        obtain ⟨sw', k⟩ := r
        obtain ⟨s', h1, h2⟩ := hsome sw' k hw
        rw [h2, writeAll_some hc hw]
        cases k with
        | zero => exact ⟨s', h1, rfl⟩
        | succ k =>
          have hpos : 0 < chunk.length := List.length_pos_iff.mpr hc
          exact ih _ (by rw [List.length_drop]; omega) _ rfl sw' s' h1

theorem writeChunksA_sim (max : Nat) : ∀ (chunks : List Bytes) (sw : SW) (s : List Ev),
    NoFault s → ∃ s', NoFault s' ∧
      writeChunksA max (liftW sw) chunks s = lift (writeChunks max sw chunks) s' := by
  intro chunks
  induction chunks with
  | nil => intro sw s hnf; exact ⟨s, hnf, rfl⟩
  | cons c cs ih =>
    intro sw s hnf
    obtain ⟨s1, h1, h2⟩ := writeAllA_sim max _ c rfl sw s hnf
    rw [writeChunksA, writeChunks, h2]
    rcases writeAll max sw c with ⟨sw1, r⟩
    cases r with
    | ok => exact ih sw1 s1 h1
    | _ => exact ⟨s1, h1, rfl⟩

/-- `finish_impl` of a writer in the `Ready` state, fault-free script: same bytes as the
synchronous `finish_impl` -/
theorem finishA_sim (sw : SW) (s : List Ev) (hnf : NoFault s) :
    (∀ sw', finishImpl sw = some sw' →
      ∃ s', NoFault s' ∧ finishA (liftW sw) s = (liftW sw', .ok, s')) ∧
    (finishImpl sw = none → finishA (liftW sw) s = (liftW sw, .panic, s)) := by
  unfold finishImpl finishA
  simp only [liftW]
  by_cases he : sw.buf.isEmpty
  · simp only [he, if_true]
    exact ⟨fun sw' h => ⟨s, hnf, by cases h; rfl⟩, nofun⟩
  · simp only [he]
    cases hsh : setupHeader sw.buf true with
    | none => exact ⟨nofun, fun _ => rfl⟩
    | some b =>
      obtain ⟨s', h1, h2⟩ := sendAll_spec b _ s rfl 0 sw.out hnf (setupHeader_some_pos hsh)
      refine ⟨fun sw' h => ⟨s', h2, ?_⟩, nofun⟩
      cases h
      simp only [h1]; rfl

end Dicom.PData
