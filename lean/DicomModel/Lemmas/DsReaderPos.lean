import DicomModel.Lemmas.DsReader
/-
Step lemmas for C07 over the parametrised reader model (`Rd.RSt`, Model/DsReader.lean): every branch of `next` that returns a
token adds to `position` exactly the number of bytes it takes from the source (`Exact`), and every header
decoder of the model reports its byte count truthfully (`HdrExact`).
-/
namespace Dicom.Rd
variable {σ : Type} {cfg : Cfg} {be g : Bool} {s s' : RSt} {t : Tok}

/-- the step from `s` to `s'` took exactly as many bytes from the source as it added to `position` -/
def Exact (s s' : RSt) : Prop :=
  s'.pos + s'.src.length = s.pos + s.src.length ∧ s.pos ≤ s'.pos

theorem Exact.refl (s : RSt) : Exact s s := ⟨rfl, Nat.le_refl _⟩
theorem Exact.trans {a b c : RSt} (h1 : Exact a b) (h2 : Exact b c) : Exact a c :=
  ⟨h2.1.trans h1.1, Nat.le_trans h1.2 h2.2⟩

theorem Exact.of_drops {n : Nat} (hd : Drops n s.src s'.src) (hp : s'.pos = s.pos + n) :
    Exact s s' := by
  have := hd.length
  exact ⟨by omega, by omega⟩

theorem updateSeqDelimiters_cases (s : RSt) :
    (∃ t s', updateSeqDelimiters s = .tok t s' ∧ Exact s s') ∨
    updateSeqDelimiters s = .err s ∨ updateSeqDelimiters s = .none { s with pending := false } := by
  unfold updateSeqDelimiters
  split
  · split
    · dsimp only
      split
      · split
        · exact .inl ⟨_, _, rfl, rfl, Nat.le_refl _⟩
        · exact .inl ⟨_, _, rfl, rfl, Nat.le_refl _⟩
      · split
        · exact .inr (.inl rfl)
        · exact .inr (.inr rfl)
    · exact .inr (.inr rfl)
  · exact .inr (.inr rfl)

theorem nextInSeq_exact
    (h : nextInSeq cfg be g s = (.tok t, s')) : Exact s s' := by
  unfold nextInSeq at h
  split at h
  · rename_i len rest hd
    simp only at h
    split at h
    · simp at h
    · split at h
      · simp at h
      · simp only [Prod.mk.injEq] at h
        rw [← h.2]
        split <;> exact Exact.of_drops (decodeItemHeader_drops hd) rfl
  · rename_i rest hd
    simp only [Prod.mk.injEq] at h
    rw [← h.2]
    exact Exact.of_drops (decodeItemHeader_drops hd) rfl
  · rename_i rest hd
    simp only [Prod.mk.injEq] at h
    rw [← h.2]
    exact Exact.of_drops (decodeItemHeader_drops hd) rfl
  · simp only [Prod.mk.injEq] at h
    obtain ⟨h1, _⟩ := h
    split at h1 <;> (split at h1 <;> simp at h1)
  · simp at h

theorem nextPixelStart_exact
    (h : nextPixelStart cfg be s = (.tok t, s')) : Exact s s' := by
  unfold nextPixelStart at h
  simp only [RSt.push] at h
  split at h
  · rename_i len rest hd
    split at h
    · simp at h
    · simp only [Prod.mk.injEq] at h
      rw [← h.2]
      split <;> exact Exact.of_drops (decodeItemHeader_drops hd) rfl
  · rename_i rest hd
    simp only [Prod.mk.injEq] at h
    rw [← h.2]
    exact Exact.of_drops (decodeItemHeader_drops hd) rfl
  · simp at h
  · simp at h
  · simp at h

theorem readValue_drops {h : ElemHeader} {v : RVal}
    (hr : readValue cfg be h s = some (v, s')) : Drops h.len s.src s'.src ∧ s'.pos = s.pos + h.len := by
  unfold readValue at hr
  split at hr
  · rename_i h0
    cases hr
    rw [h0]
    exact ⟨Drops.refl _, rfl⟩
  · split at hr
    · cases hr
    · split at hr
      · cases hr
      · rename_i htk
        split at hr
        · cases hr; exact ⟨(takeN_drops htk).1, rfl⟩
        · cases hr

theorem readU32ToVec_exact {len : Nat} {l : List Nat} (h : len ≤ s.src.length)
    (hr : readU32ToVec be len s = some (l, s')) : Exact s s' := by
  unfold readU32ToVec at hr
  dsimp only at hr
  split at hr
  · cases hr
  · rename_i htk
    have h4 := (takeN_drops htk).1
    cases hr
    have hrest := h4.length
    refine Exact.of_drops (n := 4 * (len / 4) + len % 4) (h4.trans ⟨rfl, by omega⟩)
      (Nat.add_assoc ..)

/-- the header decoder reports the number of bytes it took -/
def HdrExact (D : Dec σ) : Prop :=
  ∀ d bs h n rest d', D.header d bs = (.ok h n rest, d') → rest.length + n = bs.length

theorem headerStep_exact {r : HdrRes}
    (hr : ∀ h n rest, r = .ok h n rest → rest.length + n = s.src.length) (hok : r.isOk = true) :
    Exact s (headerStep cfg r s).st := by
  cases r with
  | eofTag => cases hok
  | err => cases hok
  | ok h0 n rest =>
    have hl := hr h0 n rest rfl
    obtain ⟨h1, h2⟩ := headerStep_st cfg h0 n rest s
    exact ⟨by rw [h1, h2]; omega, by rw [h2]; omega⟩

/-- an item value / offset table about to be read lies completely inside the source (they are read through
`io::copy`, which accepts a short source and still adds the full length to `position`; element values are read by
`read_exact` and need no such condition) -/
def ItemReadOk (s : RSt) : Prop :=
  match s.stack with
  | ⟨true, len, true, _⟩ :: _ => s.inSeq = false → len ≠ undefinedLen → len ≤ s.src.length
  | _ => True

theorem preBody_tok_exact (hok : ItemReadOk s)
    (h : preBody cfg be g s = .ret (.tok t) s') : Exact s s' := by
  unfold preBody at h
  split at h
  · -- in sequence
    injection h with h1 h2
    exact nextInSeq_exact (Prod.ext h1 h2)
  · rename_i hin
    split at h
    · rename_i len b tl hst
      unfold ItemReadOk at hok
      rw [hst] at hok
      split at h
      · cases h
      · rename_i hund
        have hle : len ≤ s.src.length := hok (by simpa using hin) hund
        split at h
        · dsimp only at h
          split at h
          · rename_i hrd
            injection h with h1 h2
            subst h2
            exact readU32ToVec_exact (s := { s with otNext := false, pending := true }) hle hrd
          · cases h
        · injection h with h1 h2
          subst h2
          exact Exact.of_drops (n := len) ⟨rfl, hle⟩ rfl
    · split at h
      · rename_i hh hlast
        split at h
        · injection h with h1 h2
          exact nextPixelStart_exact (Prod.ext h1 h2)
        · split at h
          · cases h
          · rename_i hrv
            injection h with h1 h2
            subst h2
            obtain ⟨hd, hpos⟩ := readValue_drops hrv
            exact Exact.of_drops hd hpos
      · cases h

theorem preBody_go (h : preBody cfg be g s = .go s') : s' = s := by
  unfold preBody at h
  repeat' (first | split at h | dsimp only at h)
  all_goals first
    | (cases h; done)
    | (injection h with h; exact h.symm)

theorem preHeader_tok_exact (hok : ItemReadOk s)
    (h : preHeader cfg be g s = .ret (.tok t) s') : Exact s s' := by
  unfold preHeader at h
  split at h
  · rcases updateSeqDelimiters_cases s with ⟨t1, s1, hu, hex⟩ | hu | hu <;> rw [hu] at h <;> dsimp only at h
    · injection h with h1 h2
      exact h2 ▸ hex
    · cases h
    · -- `Exact` does not see the `pending` flag; the detour lets the two states unify up to unfolding
      have := preBody_tok_exact (s := { s with pending := false }) hok h
      exact this
  · exact preBody_tok_exact hok h

theorem preHeader_go (h : preHeader cfg be g s = .go s') :
    Exact s s' ∧ s'.stack = s.stack := by
  unfold preHeader at h
  split at h
  · rcases updateSeqDelimiters_cases s with ⟨t1, s1, hu, hex⟩ | hu | hu <;> rw [hu] at h <;> dsimp only at h
    · cases h
    · cases h
    · rw [preBody_go h]
      exact ⟨Exact.refl s, rfl⟩
  · rw [preBody_go h]
    exact ⟨Exact.refl s, rfl⟩

theorem ItemReadOk_of_stack_nil (h : s.stack = []) : ItemReadOk s := by
  unfold ItemReadOk; rw [h]; trivial

theorem plainDec_exact (ts : Syntax) (dict : Tag → Option VR) : HdrExact (plainDec ts dict) := by
  intro d bs h n rest d' hh
  injection hh with h1 _
  exact (decodeHeader_drops (hdrOf_ok h1)).length

theorem adaptiveDec_exact (dictV : Tag → Option VVr) : HdrExact (adaptiveDec dictV) := by
  intro d bs h n rest d' hh
  obtain ⟨r, _, hl⟩ := adaptiveHeader_ok hh
  exact hl

end Dicom.Rd
