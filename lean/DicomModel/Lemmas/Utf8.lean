import DicomModel.Model.Charset
/-
UTF-8 (ISO_IR 192): the model decoder inverts the model encoder on every string of code points
below 0x110000. (The model functions are compared with the real `UTF_8` codec of the `encoding`
crate on every generated string by the C10 correspondence run.)
-/
namespace Dicom.Charset
open Dicom.CodePage

theorem utf8DecAux_succ_cons (fuel b : Nat) (rest : List Nat) :
    utf8DecAux (fuel + 1) (b :: rest) =
      if b < 0x80 then b :: utf8DecAux fuel rest
      else if b < 0xE0 then
        match rest with
        | c :: r => ((b % 32) * 64 + c % 64) :: utf8DecAux fuel r
        | _ => []
      else if b < 0xF0 then
        match rest with
        | c :: d :: r => ((b % 16) * 4096 + (c % 64) * 64 + d % 64) :: utf8DecAux fuel r
        | _ => []
      else
        match rest with
        | c :: d :: e :: r =>
          ((b % 8) * 262144 + (c % 64) * 4096 + (d % 64) * 64 + e % 64) :: utf8DecAux fuel r
        | _ => [] := rfl

/- A lead byte `marker + a` followed by continuation bytes `0x80 + c` decodes to the number whose
base-64 digits are `a, c, …`: the decoder strips the markers. -/

theorem utf8DecAux_one {b : Nat} (hb : b < 0x80) (fuel : Nat) (rest : List Nat) :
    utf8DecAux (fuel + 1) (b :: rest) = b :: utf8DecAux fuel rest := by
  rw [utf8DecAux_succ_cons, if_pos hb]

theorem utf8DecAux_two {a c : Nat} (ha : a < 32) (hc : c < 64) (fuel : Nat) (rest : List Nat) :
    utf8DecAux (fuel + 1) ((0xC0 + a) :: (0x80 + c) :: rest) =
      (a * 64 + c) :: utf8DecAux fuel rest := by
  rw [utf8DecAux_succ_cons, if_neg (by omega), if_pos (by omega)]
  exact congrArg (· :: utf8DecAux fuel rest) (by omega)

theorem utf8DecAux_three {a c d : Nat} (ha : a < 16) (hc : c < 64) (hd : d < 64) (fuel : Nat)
    (rest : List Nat) :
    utf8DecAux (fuel + 1) ((0xE0 + a) :: (0x80 + c) :: (0x80 + d) :: rest) =
      (a * 4096 + c * 64 + d) :: utf8DecAux fuel rest := by
  rw [utf8DecAux_succ_cons, if_neg (by omega), if_neg (by omega), if_pos (by omega)]
  exact congrArg (· :: utf8DecAux fuel rest) (by omega)

theorem utf8DecAux_four {a c d e : Nat} (ha : a < 8) (hc : c < 64) (hd : d < 64) (he : e < 64)
    (fuel : Nat) (rest : List Nat) :
    utf8DecAux (fuel + 1) ((0xF0 + a) :: (0x80 + c) :: (0x80 + d) :: (0x80 + e) :: rest) =
      (a * 262144 + c * 4096 + d * 64 + e) :: utf8DecAux fuel rest := by
  rw [utf8DecAux_succ_cons, if_neg (by omega), if_neg (by omega), if_neg (by omega)]
  exact congrArg (· :: utf8DecAux fuel rest) (by omega)

theorem utf8DecAux_enc_cons (n : Nat) (hn : n < 0x110000) (fuel : Nat) (rest : List Nat) :
    utf8DecAux (fuel + 1) (utf8EncodeNat n ++ rest) = n :: utf8DecAux fuel rest := by
  have h64 : ∀ m, m % 64 < 64 := fun m => Nat.mod_lt m (by decide)
  unfold utf8EncodeNat
  split
  · next h1 => exact utf8DecAux_one h1 fuel rest
  split
  · next h2 =>
    exact (utf8DecAux_two (by omega) (h64 _) fuel rest).trans (congrArg (· :: _) (by omega))
  split
  · next h3 =>
    exact (utf8DecAux_three (by omega) (h64 _) (h64 _) fuel rest).trans
      (congrArg (· :: _) (by omega))
  · exact (utf8DecAux_four (by omega) (h64 _) (h64 _) (h64 _) fuel rest).trans
      (congrArg (· :: _) (by omega))

theorem utf8Enc_cons (n : Nat) (t : Str) : utf8Enc (n :: t) = utf8EncodeNat n ++ utf8Enc t :=
  List.flatMap_cons

theorem utf8EncodeNat_length_pos (n : Nat) : 1 ≤ (utf8EncodeNat n).length := by
  unfold utf8EncodeNat
  split
  · simp
  · split
    · simp
    · split <;> simp

theorem utf8DecAux_enc : ∀ (s : Str) (fuel : Nat), (∀ n ∈ s, n < 0x110000) → s.length ≤ fuel →
    utf8DecAux fuel (utf8Enc s) = s
  | [], fuel, _, _ => by cases fuel <;> rfl
  | n :: t, 0, _, hf => by simp at hf
  | n :: t, fuel + 1, hs, hf => by
    rw [utf8Enc_cons, utf8DecAux_enc_cons n (hs n (by simp)) fuel,
      utf8DecAux_enc t fuel (fun x hx => hs x (by simp [hx])) (by simpa using hf)]

theorem utf8Enc_length (s : Str) : s.length ≤ (utf8Enc s).length := by
  induction s with
  | nil => simp [utf8Enc]
  | cons n t ih =>
    rw [utf8Enc_cons, List.length_append, List.length_cons]
    have := utf8EncodeNat_length_pos n
    omega

theorem utf8_rt (s : Str) (hs : ∀ n ∈ s, n < 0x110000) : utf8Dec (utf8Enc s) = s :=
  utf8DecAux_enc s _ hs (utf8Enc_length s)

/-- UTF-8 never produces the backslash byte for anything but the backslash -/
theorem utf8EncodeNat_no92 (n : Nat) (h : n ≠ 92) : 92 ∉ utf8EncodeNat n := by
  unfold utf8EncodeNat
  split
  · simp; omega
  · split
    · simp; omega
    · split <;> (simp; omega)

theorem utf8Enc_no92 : ∀ (s : Str), 92 ∉ s → 92 ∉ utf8Enc s
  | [], _ => by simp [utf8Enc]
  | n :: t, h => by
    rw [utf8Enc_cons, List.mem_append, not_or]
    exact ⟨utf8EncodeNat_no92 n (fun e => h (by simp [e])), utf8Enc_no92 t (fun m => h (by simp [m]))⟩

end Dicom.Charset
