import DicomModel.Model.GuardText
import DicomModel.Lemmas.TagText
import DicomModel.Lemmas.Drops
/-
The checked slices / indexes / unwraps of `Model/GuardText.lean` are never out of range (for
`Props/C05.lean`): text parsers, `parse_selector` slices, header decoders and value readers; and, on
`Model/Header.lean`, that a decoded element header reports 8 or 12 bytes.
-/
namespace Dicom.Guard
open Dicom.Digits Dicom.Partial

/-- not the panic outcome -/
def NPO {α : Type} (x : PO α) : Prop := x ≠ .panic

theorem NPO_ok {α : Type} (a : α) : NPO (PO.ok a) := nofun
theorem NPO_err {α : Type} : NPO (PO.err : PO α) := nofun
theorem NPO_ofOption {α : Type} (o : Option α) : NPO (PO.ofOption o) := by cases o <;> exact nofun

theorem NPO_bind {α β : Type} {x : PO α} {f : α → PO β} (hx : NPO x)
    (hf : ∀ a, NPO (f a)) : NPO (x.bind f) := by
  cases x with
  | ok a => exact hf a
  | err => exact NPO_err
  | panic => exact absurd rfl hx

theorem NPO_ite {α : Type} {c : Prop} [Decidable c] {x y : PO α} (hx : c → NPO x) (hy : ¬ c → NPO y) :
    NPO (if c then x else y) := by
  split
  · exact hx ‹_›
  · exact hy ‹_›

theorem slice_bind {α : Type} {bs : Bytes} {a b : Nat} (k : Bytes → PO α) (h1 : a ≤ b) (h2 : b ≤ bs.length) :
    (slice bs a b).bind k = k ((bs.drop a).take (b - a)) := by simp [slice, h1, h2, PO.bind]
theorem sliceFrom_bind {α : Type} {bs : Bytes} {a : Nat} (k : Bytes → PO α) (h : a ≤ bs.length) :
    (sliceFrom bs a).bind k = k (bs.drop a) := by simp [sliceFrom, h, PO.bind]
theorem splitAt_bind {α : Type} {bs : Bytes} {i : Nat} (k : Bytes × Bytes → PO α) (h : i ≤ bs.length) :
    (splitAt bs i).bind k = k (bs.take i, bs.drop i) := by simp [splitAt, h, PO.bind]
theorem byteAt_np {bs : Bytes} {i : Nat} (h : i < bs.length) : NPO (byteAt bs i) := by
  unfold byteAt
  rw [List.getElem?_eq_getElem h]; exact NPO_ok _

theorem readNumberG_eq (text : Bytes) : readNumberG text = PO.ofOption (readNumber text) := by
  unfold readNumberG readNumber
  cases text with
  | nil => rfl
  | cons b r =>
    split
    · rfl
    · split
      · rfl
      · rfl

theorem readNumberG_ok {text : Bytes} {v : Nat} : readNumberG text = .ok v ↔ readNumber text = some v := by
  rw [readNumberG_eq]; cases readNumber text <;> simp [PO.ofOption]

theorem readNumberG_np (text : Bytes) : NPO (readNumberG text) := by
  rw [readNumberG_eq]; exact NPO_ofOption _

theorem field_np {α : Type} {buf : Bytes} {a b : Nat} {k : Nat → PO α} (h1 : a ≤ b) (h2 : b ≤ buf.length)
    (hk : ∀ v, NPO (k v)) : NPO ((slice buf a b).bind fun t => (readNumberG t).bind k) := by
  rw [slice_bind _ h1 h2]
  exact NPO_bind (readNumberG_np _) hk

theorem sliceFrom_np {α : Type} {bs : Bytes} {a : Nat} {k : Bytes → PO α} (h : a ≤ bs.length)
    (hk : NPO (k (bs.drop a))) : NPO ((sliceFrom bs a).bind k) := by
  rw [sliceFrom_bind _ h]; exact hk

theorem ofOpt_pair_np {α β : Type} (o : Option α) (b : β) :
    NPO ((PO.ofOption o).bind fun d => PO.ok (d, b)) :=
  NPO_bind (NPO_ofOption _) fun _ => NPO_ok _

theorem parseDateG_np (buf : Bytes) : NPO (parseDateG buf) := by
  unfold parseDateG
  refine NPO_ite (fun _ => NPO_err) fun _ => NPO_ite (fun _ => NPO_err) fun _ =>
    NPO_ite (fun h8 => ?_) fun _ => NPO_err
  refine field_np (by omega) (by omega) fun year => field_np (by omega) (by omega) fun month => ?_
  refine NPO_ite (fun _ => NPO_err) fun _ => field_np (by omega) (by omega) fun day => ?_
  exact NPO_ite (fun _ => NPO_err) fun _ => NPO_ofOption _

/-- an optional two-digit field: where the text ends or the field is not a number, the value read so far is
the result (`stop`); the `match readNumberG m` is decided by `readNumber m` -/
theorem optField_np {α : Type} {buf : Bytes} {stop : PO α} {k : Nat → PO α} (hs : NPO stop)
    (hk : ¬ buf.length < 2 → ∀ v, NPO (k v)) :
    NPO (if buf.length < 2 then stop else (slice buf 0 2).bind fun m =>
      match readNumberG m with
      | .panic => .panic
      | .err => stop
      | .ok v => k v) := by
  refine NPO_ite (fun _ => hs) fun h2 => ?_
  rw [slice_bind _ (Nat.zero_le _) (by omega), readNumberG_eq]
  generalize readNumber _ = r
  cases r with
  | none => exact hs
  | some v => exact hk h2 v

theorem parseDatePartialG_np (buf : Bytes) : NPO (parseDatePartialG buf) := by
  unfold parseDatePartialG
  refine NPO_ite (fun _ => NPO_err) fun h4 => field_np (by omega) (by omega) fun year => ?_
  refine sliceFrom_np (by omega) (optField_np (ofOpt_pair_np _ _) fun h2 month => ?_)
  refine sliceFrom_np (by omega) (optField_np (ofOpt_pair_np _ _) fun h2' day => ?_)
  exact sliceFrom_np (by omega) (ofOpt_pair_np _ _)

theorem leadingDigits_le (bs : Bytes) : leadingDigits bs ≤ bs.length := by
  induction bs with
  | nil => exact Nat.le_refl _
  | cons b r ih => simp only [leadingDigits]; split <;> simp <;> omega

theorem fracLen_le (bs : Bytes) : Nat.min 6 (leadingDigits bs) ≤ bs.length :=
  Nat.le_trans (Nat.min_le_right _ _) (leadingDigits_le bs)

theorem toU8_np {n : Nat} (h : n < 256) : NPO (toU8 n) := by simp [toU8, h, NPO]

theorem parseTimePartialG_np (buf : Bytes) : NPO (parseTimePartialG buf) := by
  unfold parseTimePartialG
  refine NPO_ite (fun _ => NPO_err) fun h2 => field_np (by omega) (by omega) fun hour => ?_
  refine sliceFrom_np (by omega) (optField_np (ofOpt_pair_np _ _) fun h2 minute => ?_)
  refine sliceFrom_np (by omega) (optField_np (ofOpt_pair_np _ _) fun h2' second => ?_)
  refine sliceFrom_np (by omega) (NPO_ite (fun h1 => ?_) fun _ => ofOpt_pair_np _ _)
  refine NPO_bind (byteAt_np (by omega)) fun c => NPO_ite (fun _ => ?_) fun _ => ofOpt_pair_np _ _
  refine sliceFrom_np (by omega) ?_
  refine field_np (Nat.zero_le _) (fracLen_le _) fun fraction => sliceFrom_np (fracLen_le _) ?_
  exact NPO_bind (toU8_np (Nat.lt_of_le_of_lt (Nat.min_le_left _ _) (by decide))) fun fp =>
    ofOpt_pair_np _ _

theorem parseTimeG_np (buf : Bytes) : NPO (parseTimeG buf) := by
  unfold parseTimeG
  extract_lets hms
  have hms_np : 6 ≤ buf.length → ∀ k, (∀ h m s, NPO (k h m s)) → NPO (hms k) := fun h6 k hk =>
    field_np (by omega) (by omega) fun hour => NPO_ite (fun _ => NPO_err) fun _ =>
    field_np (by omega) (by omega) fun minute => NPO_ite (fun _ => NPO_err) fun _ =>
    field_np (by omega) (by omega) fun second => NPO_ite (fun _ => NPO_err) fun _ => hk _ _ _
  refine NPO_ite (fun _ => NPO_err) fun _ => NPO_ite (fun _ => NPO_err) fun _ => NPO_ite (fun h6 => ?_) fun _ =>
    NPO_ite (fun h8 => ?_) fun _ => NPO_err
  · exact hms_np (by omega) _ fun hour minute second => sliceFrom_np (by omega) (ofOpt_pair_np _ _)
  · refine hms_np (by omega) _ fun hour minute second => sliceFrom_np (by omega) ?_
    refine NPO_bind (byteAt_np (by simp only [List.length_drop]; omega)) fun c => NPO_ite (fun _ => NPO_err) fun _ => ?_
    refine sliceFrom_np (by simp only [List.length_drop]; omega) ?_
    refine field_np (Nat.zero_le _) (fracLen_le _) fun fraction => sliceFrom_np (fracLen_le _) ?_
    exact NPO_ite (fun _ => NPO_err) fun _ => ofOpt_pair_np _ _

theorem parseTzSuffixG_np (buf : Bytes) : NPO (parseTzSuffixG buf) := by
  unfold parseTzSuffixG
  refine NPO_ite (fun _ => NPO_ok _) fun _ => NPO_ite (fun h4 => ?_) fun _ => NPO_err
  refine NPO_bind (byteAt_np (by omega)) fun sign => sliceFrom_np (by omega) ?_
  refine field_np (by omega) (by simp only [List.length_drop]; omega) fun tzH =>
    field_np (by omega) (by simp only [List.length_drop]; omega) fun tzM => ?_
  have off : ∀ o : Option Int, NPO ((PO.ofOption o).bind fun o => PO.ok (some o)) :=
    fun o => NPO_bind (NPO_ofOption _) fun _ => NPO_ok _
  exact NPO_ite (fun _ => NPO_ite (fun _ => off _) fun _ => NPO_err) fun _ =>
    NPO_ite (fun _ => NPO_ite (fun _ => off _) fun _ => NPO_err) fun _ => NPO_err

theorem parseDateTimePartialG_np (buf : Bytes) : NPO (parseDateTimePartialG buf) := by
  unfold parseDateTimePartialG
  refine NPO_bind (parseDatePartialG_np _) fun ⟨date, rest⟩ => ?_
  have ht := parseTimePartialG_np rest
  simp only
  split
  · rename_i heq; exact absurd heq ht
  · refine NPO_bind (parseTzSuffixG_np _) fun tz => ?_
    split
    · exact NPO_ofOption _
    · exact NPO_ok _
    · exact NPO_ofOption _
    · exact NPO_ok _

theorem dashPosition_lt : ∀ (buf : Bytes) (sep : Nat), dashPosition buf = some sep → sep < buf.length := by
  intro buf
  induction buf with
  | nil => intro sep h; simp [dashPosition] at h
  | cons b r ih =>
    intro sep h
    simp only [dashPosition] at h
    split at h
    · cases h; simp
    · cases hr : dashPosition r with
      | none => rw [hr] at h; simp at h
      | some k =>
        rw [hr] at h; simp at h; subst h
        have := ih k hr
        simp; omega

/-- a range text over a partial parser `p` that does not panic: split at the first dash (inside the
buffer), then one of the three shapes `-B`, `A-`, `A-B` -/
theorem rangeArms_np {α β γ : Type} {p : Bytes → PO (α × Bytes)} (hp : ∀ b, NPO (p b))
    {lo hi : α → Option β} {mk1 mk2 : β → γ} {mk : β → β → Option γ} (n : Nat) (buf : Bytes) :
    NPO (if buf.length < n then .err else
      match dashPosition buf with
      | none => .err
      | some sep =>
        (splitAt buf sep).bind fun (start, stop) =>
        (sliceFrom stop 1).bind fun stop =>
        if sep = 0 then
          (p stop).bind fun (d, _) => (PO.ofOption (hi d)).bind fun e => .ok (mk1 e)
        else if sep = buf.length - 1 then
          (p start).bind fun (d, _) => (PO.ofOption (lo d)).bind fun s => .ok (mk2 s)
        else
          (p start).bind fun (a, _) => (PO.ofOption (lo a)).bind fun s =>
          (p stop).bind fun (b, _) => (PO.ofOption (hi b)).bind fun e =>
          PO.ofOption (mk s e)) := by
  have opt : ∀ {δ : Type} (o : Option δ), NPO (PO.ofOption o) := NPO_ofOption
  refine NPO_ite (fun _ => NPO_err) fun _ => ?_
  split
  · exact NPO_err
  · rename_i sep hs
    have hlt := dashPosition_lt buf sep hs
    rw [splitAt_bind _ (Nat.le_of_lt hlt)]
    refine sliceFrom_np (by simp only [List.length_drop]; omega) ?_
    exact NPO_ite (fun _ => NPO_bind (hp _) fun _ => NPO_bind (opt _) fun _ => NPO_ok _) fun _ =>
      NPO_ite (fun _ => NPO_bind (hp _) fun _ => NPO_bind (opt _) fun _ => NPO_ok _) fun _ =>
        NPO_bind (hp _) fun _ => NPO_bind (opt _) fun _ => NPO_bind (hp _) fun _ => NPO_bind (opt _) fun _ => opt _

theorem parseDateRangeG_np (buf : Bytes) : NPO (parseDateRangeG buf) :=
  rangeArms_np parseDatePartialG_np 5 buf

theorem parseTimeRangeG_np (buf : Bytes) : NPO (parseTimeRangeG buf) :=
  rangeArms_np parseTimePartialG_np 3 buf

theorem dashIndexesFrom_lt : ∀ (buf : Bytes) (i d : Nat), d ∈ dashIndexesFrom i buf → d < i + buf.length := by
  intro buf
  induction buf with
  | nil => intro i d h; simp [dashIndexesFrom] at h
  | cons b r ih =>
    intro i d h
    simp only [dashIndexesFrom] at h
    split at h
    · rcases List.mem_cons.mp h with h | h
      · subst h; simp
      · have := ih (i + 1) d h; simp; omega
    · have := ih (i + 1) d h; simp; omega

theorem natAt_np {α : Type} {l : List Nat} {i : Nat} {k : Nat → PO α} (h : i < l.length)
    (hk : ∀ d ∈ l, NPO (k d)) : NPO ((natAt l i).bind k) := by
  unfold natAt
  rw [List.getElem?_eq_getElem h]
  exact hk _ (List.getElem_mem h)

theorem dtRangeAtG_np (mk : Precise → Precise → Option DateTimeRange) (buf : Bytes) (sep : Nat)
    (h : sep < buf.length) : NPO (dtRangeAtG mk buf sep) := by
  unfold dtRangeAtG
  rw [splitAt_bind _ (Nat.le_of_lt h)]
  refine sliceFrom_np (by simp only [List.length_drop]; omega) ?_
  exact NPO_bind (parseDateTimePartialG_np _) fun a => NPO_bind (NPO_ofOption _) fun _ =>
    NPO_bind (parseDateTimePartialG_np _) fun b => NPO_bind (NPO_ofOption _) fun _ => NPO_ofOption _

theorem parseDateTimeRangeG_np (mk : Precise → Precise → Option DateTimeRange) (buf : Bytes) :
    NPO (parseDateTimeRangeG mk buf) := by
  unfold parseDateTimeRangeG
  refine NPO_ite (fun _ => NPO_err) fun h5 => NPO_bind (byteAt_np (by omega)) fun c0 => ?_
  have dt := parseDateTimePartialG_np
  have openEnd : ∀ {β : Type} (o : Option β) (f : β → DateTimeRange),
      NPO ((PO.ofOption o).bind fun e => .ok (f e)) := fun _ _ => NPO_bind (NPO_ofOption _) fun _ => NPO_ok _
  refine NPO_ite (fun _ => sliceFrom_np (by omega) (NPO_bind (dt _) fun v => openEnd _ _)) fun _ => ?_
  refine NPO_bind (byteAt_np (by omega)) fun cl => ?_
  refine NPO_ite (fun _ => ?_) fun _ => ?_
  · rw [slice_bind _ (Nat.zero_le _) (by omega)]
    exact NPO_bind (dt _) fun v => openEnd _ _
  extract_lets dashes
  have at_np : ∀ i, i < dashes.length → NPO ((natAt dashes i).bind fun d => dtRangeAtG mk buf d) := fun i hi =>
    natAt_np hi fun d hd => dtRangeAtG_np mk buf d (by have := dashIndexesFrom_lt buf 0 d hd; omega)
  refine NPO_ite (fun _ => NPO_err) fun _ => NPO_ite (fun h1 => at_np 0 (by omega)) fun _ =>
    NPO_ite (fun h2 => ?_) fun _ => NPO_ite (fun h3 => at_np 1 (by omega)) fun _ => NPO_err
  refine natAt_np (by omega) fun d0 hd0 => ?_
  have hlt : d0 < buf.length := by have := dashIndexesFrom_lt buf 0 d0 hd0; omega
  rw [splitAt_bind _ (Nat.le_of_lt hlt)]
  refine sliceFrom_np (by simp only [List.length_drop]; omega) ?_
  have ha := dt (buf.take d0)
  have hb := dt ((buf.drop d0).drop 1)
  split
  · rename_i heq; exact absurd heq ha
  · rename_i heq _; exact absurd heq hb
  · refine NPO_bind (NPO_ofOption _) fun s => NPO_bind (NPO_ofOption _) fun e => ?_
    split
    · exact NPO_ok _
    · exact at_np 1 (by omega)
  · exact at_np 1 (by omega)

/-! ### `parse_selector` slices -/

open TagText in
/-- a position that holds a byte which is not a continuation byte is a char boundary -/
theorem boundary_at {s : Bytes} {i b : Nat} (h : s[i]? = some b) (hb : isContinuation b = false) :
    isCharBoundary s i = true := by
  unfold isCharBoundary
  split
  · rfl
  · rw [h]; simp [hb]

open TagText in
/-- the two slices of an intermediate selector part are in range and on char boundaries for every
part of a Rust string (`okAfterAscii`: the byte after an ASCII byte starts a character) -/
theorem selectorSlicesG_np (part : Bytes) (hok : okAfterAscii part = true) : NPO (selectorSlicesG part) := by
  unfold selectorSlicesG
  split
  · rename_i hlast
    split
    · exact NPO_ok _
    · rename_i i hf
      have hi := findByte_spec 0x5B part i hf
      have hl : part[part.length - 1]? = some 0x5D := by
        rw [← List.getLast?_eq_getElem?]; exact hlast
      have hil : i < part.length := (List.getElem?_eq_some_iff.mp hi).1
      have hne : i ≠ part.length - 1 := by
        intro e; rw [e, hl] at hi; cases hi
      have hlt : i + 1 < part.length := by omega
      have b0 : isCharBoundary part 0 = true := by simp [isCharBoundary]
      have bi := boundary_at hi (by decide)
      have bi1 := boundary_at (List.getElem?_eq_getElem hlt)
        (okAfterAscii_getElem part i 0x5B part[i + 1] hok hi (by decide) (List.getElem?_eq_getElem hlt))
      have bl := boundary_at hl (by decide)
      have e1 : strSlice part 0 i = .ok ((part.drop 0).take (i - 0)) := by
        unfold strSlice; simp [b0, bi]; omega
      have e2 : strSlice part (i + 1) (part.length - 1) =
          .ok ((part.drop (i + 1)).take (part.length - 1 - (i + 1))) := by
        unfold strSlice; simp [bi1, bl]; omega
      rw [e1, e2]
      exact NPO_ok _
  · exact NPO_ok _

/-! ### header decoders, value readers -/

/-- every constant range used by the header decoders lies inside its fixed-size array -/
theorem headerSliceSites_in_range :
    headerSliceSites.all (fun (n, a, b) => decide (a ≤ b ∧ b ≤ n)) = true := by decide

theorem remainderSlice_np {n : Nat} (h : n ≤ 8) : NPO (remainderSlice n) := by
  simp [remainderSlice, slice, h, NPO]

theorem trimTrailG_np : ∀ (f : Nat) (x : Bytes), x.length ≤ f → NPO (trimTrailG f x) := by
  intro f
  induction f with
  | zero =>
    intro x h
    have : x = [] := List.eq_nil_of_length_eq_zero (by omega)
    subst this; simp [trimTrailG, NPO]
  | succ f ih =>
    intro x h
    simp only [trimTrailG]
    split
    · rename_i hl
      have hpos : 0 < x.length := by
        cases x with
        | nil => simp at hl
        | cons _ _ => simp
      rw [slice_bind _ (Nat.zero_le _) (by omega)]
      apply ih
      simp only [List.drop_zero, List.length_take]; omega
    · exact NPO_ok _

theorem decodeExplicitWith_count {short : List VR} {be : Bool} {bs r : Bytes} {h : ElemHeader} {n : Nat}
    (hd : decodeExplicitWith short be bs = some (h, n, r)) : n = 8 ∨ n = 12 := by
  unfold decodeExplicitWith at hd
  split at hd
  · cases hd
  · split at hd
    · split at hd
      · cases hd; exact .inl rfl
      · cases hd
    · split at hd
      · dsimp only at hd
        split at hd
        · split at hd
          · cases hd; exact .inl rfl
          · cases hd
        · split at hd
          · split at hd
            · cases hd; exact .inr rfl
            · cases hd
          · cases hd
      · cases hd

theorem decodeHeader_count {ts : Syntax} {dict : Tag → Option VR} {bs r : Bytes} {h : ElemHeader} {n : Nat}
    (hd : decodeHeader ts dict bs = some (h, n, r)) : n = 8 ∨ n = 12 := by
  cases ts with
  | implicitLE =>
    simp only [decodeHeader] at hd
    split at hd
    · cases hd
    · split at hd
      · cases hd; exact .inl rfl
      · cases hd
  | explicitLE => exact decodeExplicitWith_count hd
  | explicitBE => exact decodeExplicitWith_count hd

end Dicom.Guard
