import DicomModel.Lemmas.RefReader6
/-
C02 (and, through ReadUntil / CollWhole2, C06): `build_object` / `build_sequence` / `build_encapsulated_data` on the token stream of a canonical
tree give the tree back (elements are inserted into a tag-sorted map; tags ascend).
-/
namespace Dicom.Ref

def toList : Elems → List Elem
  | .nil => []
  | .cons e r => e :: toList r
def itemsToList : Items → List (Nat × Elems)
  | .nil => []
  | .cons l es r => (l, es) :: itemsToList r

theorem elemsOfList_toList : ∀ es : Elems, elemsOfList (toList es) = es
  | .nil => rfl
  | .cons e r => by simp [toList, elemsOfList, elemsOfList_toList r]
theorem itemsOfList_toList : ∀ its : Items, itemsOfList (itemsToList its) = its
  | .nil => rfl
  | .cons l es r => by simp [itemsToList, itemsOfList, itemsOfList_toList r]

/-! ### tag order -/

theorem tagOf_eq (e : Elem) : tagOf e = e.tag := by cases e <;> rfl
theorem tagLt_eq (a b : Tag) : tagLt a b = Tag.lt a b := rfl

theorem lt_iff (a b : Tag) : Tag.lt a b = true ↔ (a.group < b.group ∨ (a.group = b.group ∧ a.elem < b.elem)) := by
  simp [Tag.lt]

theorem lt_trans {a b c : Tag} (h1 : Tag.lt a b = true) (h2 : Tag.lt b c = true) : Tag.lt a c = true := by
  rw [lt_iff] at *; omega
theorem lt_asymm {a b : Tag} (h1 : Tag.lt a b = true) : Tag.lt b a = false := by
  cases h : Tag.lt b a
  · rfl
  · rw [lt_iff] at *; omega
theorem lt_ne {a b : Tag} (h1 : Tag.lt a b = true) : a ≠ b := by
  intro e; subst e; rw [lt_iff] at h1; omega

/-- the relation "strictly smaller tag" on elements -/
def ELt (a b : Elem) : Prop := Tag.lt a.tag b.tag = true

theorem insert_last (e : Elem) : ∀ acc : List Elem, (∀ x ∈ acc, ELt x e) → insertElem e acc = acc ++ [e]
  | [], _ => rfl
  | x :: r, h => by
    have hx : ELt x e := h x (by simp)
    have ih := insert_last e r (fun y hy => h y (by simp [hy]))
    simp [insertElem, lt_asymm hx, lt_ne hx, ih]

theorem sortedFrom_pairwise : ∀ (es : Elems) (prev : Tag), sortedFrom prev es = true →
    (∀ x ∈ toList es, Tag.lt prev x.tag = true) ∧ (toList es).Pairwise ELt
  | .nil, _, _ => by simp [toList]
  | .cons e r, prev, h => by
    simp only [sortedFrom, Bool.and_eq_true, tagOf_eq, tagLt_eq] at h
    obtain ⟨ih1, ih2⟩ := sortedFrom_pairwise r e.tag h.2
    constructor
    · intro x hx
      simp only [toList, List.mem_cons] at hx
      rcases hx with rfl | hx
      · exact h.1
      · exact lt_trans h.1 (ih1 x hx)
    · simp only [toList, List.pairwise_cons]
      exact ⟨fun x hx => ih1 x hx, ih2⟩

theorem sorted_pairwise (es : Elems) (h : sortedElems es = true) : (toList es).Pairwise ELt := by
  cases es with
  | nil => simp [toList]
  | cons e r =>
    simp only [sortedElems] at h
    obtain ⟨h1, h2⟩ := sortedFrom_pairwise r (tagOf e) h
    simp only [toList, List.pairwise_cons]
    exact ⟨fun x hx => by simpa [ELt, tagOf_eq] using h1 x hx, h2⟩

/-! ### encapsulated pixel data -/

theorem build_frags (rest : List Token) (t : List Nat) : ∀ (frags : List Bytes) (fr : List Bytes),
    (∀ f ∈ frags, f.length % 2 = 0 ∧ f.length < 4294967295) →
    buildEncapsulated (frags.flatMap fragTokens ++ .sequenceEnd :: rest) (some t) fr false =
      .ok (t, fr ++ frags, rest)
  | [], fr, _ => by simp [buildEncapsulated]
  | f :: r, fr, hf => by
    have ih := fun fr' => build_frags rest t r fr' (fun g hg => hf g (by simp [hg]))
    simp only [List.flatMap_cons, List.append_assoc]
    cases f with
    | nil => simp [fragTokens, buildEncapsulated, ih]
    | cons a l => simp [fragTokens, buildEncapsulated, ih]

theorem build_pix {bot : List Nat} {frags : List Bytes} (ok : PixOk bot frags) (rest : List Token) :
    buildEncapsulated (botTokens bot ++ (frags.flatMap fragTokens ++ .sequenceEnd :: rest)) none [] false =
      .ok (bot, frags, rest) := by
  have hm : bot.length * 4 % 4294967296 = bot.length * 4 := Nat.mod_eq_of_lt (by have := ok.botLen; omega)
  unfold botTokens
  rw [hm]
  cases bot with
  | nil => simp [buildEncapsulated, build_frags rest [] frags [] ok.frags]
  | cons a r => simp [buildEncapsulated, build_frags rest (a :: r) frags [] ok.frags]

/-! ### data sets -/

/-- number of elements = rounds of `build_object` = fuel it uses up -/
def cnt : Elems → Nat
  | .nil => 0
  | .cons _ r => cnt r + 1

theorem tokens_pos {ts : Syntax} {dict : Tag → Option VR} {e : Elem} (h : canonElem ts dict e = true) :
    1 ≤ e.tokens.length := by
  cases e with
  | prim t vr len v => rw [prim_tokens (primOk_of_canon h)]; simp
  | seq t l its => simp [Elem.tokens]
  | pix b f => simp [Elem.tokens]

theorem cnt_le_tokens {ts : Syntax} {dict : Tag → Option VR} : ∀ es : Elems, canonElems ts dict es = true →
    cnt es ≤ es.tokens.length
  | .nil, _ => by simp [cnt]
  | .cons e r, h => by
    have ih := cnt_le_tokens r (canonElems_cons h).2
    have := tokens_pos (canonElems_cons h).1
    simp only [cnt, Elems.tokens, List.length_append]
    omega

abbrev BuildsOne (e : Elem) : Prop :=
  ∀ (fuel : Nat) (inItem : Bool) (rest : List Token) (acc : List Elem), e.tokens.length ≤ fuel →
    buildObject (fuel + 1) inItem (e.tokens ++ rest) acc = buildObject fuel inItem rest (insertElem e acc)

abbrev BuildsAll (es : Elems) : Prop :=
  ∀ (fuel : Nat) (inItem : Bool) (rest : List Token) (acc : List Elem), es.tokens.length < fuel →
    (acc ++ toList es).Pairwise ELt →
    buildObject fuel inItem (es.tokens ++ rest) acc = buildObject (fuel - cnt es) inItem rest (acc ++ toList es)

abbrev BuildsItems (its : Items) : Prop :=
  ∀ (fuel : Nat) (rest : List Token) (acc : List (Nat × Elems)), its.tokens.length < fuel →
    buildSequence fuel (its.tokens ++ .sequenceEnd :: rest) acc = .ok (acc ++ itemsToList its, rest)

theorem builds_prim {ts : Syntax} {dict : Tag → Option VR} {t : Tag} {vr : VR} {len : Nat} {v : PValue}
    (ok : PrimOk ts dict t vr len v) : BuildsOne (.prim t vr len v) := by
  intro fuel inItem rest acc _
  rw [prim_tokens ok]
  rfl

theorem builds_pix {bot : List Nat} {frags : List Bytes} (ok : PixOk bot frags) : BuildsOne (.pix bot frags) := by
  intro fuel inItem rest acc _
  simp only [Elem.tokens, List.cons_append, List.append_assoc, List.nil_append, buildObject, build_pix ok rest]

theorem builds_seq {tag : Tag} {len : Nat} {items : Items} (ih : BuildsItems items) :
    BuildsOne (.seq tag len items) := by
  intro fuel inItem rest acc hf
  have hf' : items.tokens.length < fuel := by
    simp only [Elem.tokens, List.length_cons, List.length_append, List.length_nil] at hf; omega
  simp only [Elem.tokens, List.cons_append, List.append_assoc, List.nil_append, buildObject, ih fuel rest [] hf',
    itemsOfList_toList]

/-- an element whose tag is above all tags met so far goes to the end of the map -/
theorem builds_cons {e : Elem} {more : Elems} (he : 1 ≤ e.tokens.length) (ih1 : BuildsOne e)
    (ih2 : BuildsAll more) : BuildsAll (.cons e more) := by
  intro fuel inItem rest acc hf hs
  simp only [Elems.tokens, List.length_append] at hf
  obtain ⟨f, rfl⟩ : ∃ f, fuel = f + 1 := ⟨fuel - 1, by omega⟩
  have hall : ∀ x ∈ acc, ELt x e := fun x hx =>
    (List.pairwise_append.mp hs).2.2 x hx _ (by simp [toList])
  have hs' : ((acc ++ [e]) ++ toList more).Pairwise ELt := by
    simpa [toList, List.append_assoc] using hs
  simp only [Elems.tokens, List.append_assoc]
  rw [ih1 f inItem _ acc (by omega), insert_last _ acc hall, ih2 f inItem rest _ (by omega) hs']
  simp [toList, cnt, List.append_assoc]

theorem builds_item {len : Nat} {es : Elems} {more : Items} (hs : sortedElems es = true)
    (hcnt : cnt es ≤ es.tokens.length) (ih1 : BuildsAll es) (ih2 : BuildsItems more) :
    BuildsItems (.cons len es more) := by
  intro fuel rest acc hf
  have hlen : (Items.tokens (.cons len es more)).length = es.tokens.length + 2 + more.tokens.length := by
    simp [Items.tokens]; omega
  rw [hlen] at hf
  obtain ⟨f, rfl⟩ : ∃ f, fuel = f + 1 := ⟨fuel - 1, by omega⟩
  have h1 := ih1 f true (.itemEnd :: (more.tokens ++ .sequenceEnd :: rest)) [] (by omega)
    (by simpa using sorted_pairwise es hs)
  have h2 : buildObject (f - cnt es) true (.itemEnd :: (more.tokens ++ .sequenceEnd :: rest)) ([] ++ toList es) =
      .ok (toList es, more.tokens ++ .sequenceEnd :: rest) := by
    obtain ⟨g, hg⟩ : ∃ g, f - cnt es = g + 1 := ⟨f - cnt es - 1, by omega⟩
    rw [hg]
    simp [buildObject]
  simp only [Items.tokens, List.cons_append, List.append_assoc, buildSequence]
  rw [h1, h2]
  simp only [elemsOfList_toList]
  rw [ih2 f rest (acc ++ [(len, es)]) (by omega)]
  simp [itemsToList, List.append_assoc]

mutual
theorem build_elem (ts : Syntax) (dict : Tag → Option VR) : ∀ (e : Elem), canonElem ts dict e = true → BuildsOne e
  | .prim _ _ _ _, hc => builds_prim (primOk_of_canon hc)
  | .pix _ _, hc => builds_pix (pixOk_of_canon hc)
  | .seq _ _ items, hc => builds_seq (build_items ts dict items (seqOk_of_canon hc).items)
theorem build_elems (ts : Syntax) (dict : Tag → Option VR) : ∀ (es : Elems), canonElems ts dict es = true →
    ∀ (fuel : Nat) (inItem : Bool) (rest : List Token) (acc : List Elem), es.tokens.length < fuel →
    (acc ++ toList es).Pairwise ELt →
    buildObject fuel inItem (es.tokens ++ rest) acc = buildObject (fuel - cnt es) inItem rest (acc ++ toList es)
  | .nil, _ => fun fuel inItem rest acc _ _ => by simp [Elems.tokens, toList, cnt]
  | .cons e more, hc =>
    builds_cons (tokens_pos (canonElems_cons hc).1) (build_elem ts dict e (canonElems_cons hc).1)
      (build_elems ts dict more (canonElems_cons hc).2)
theorem build_items (ts : Syntax) (dict : Tag → Option VR) : ∀ (its : Items), canonItems ts dict its = true →
    ∀ (fuel : Nat) (rest : List Token) (acc : List (Nat × Elems)), its.tokens.length < fuel →
    buildSequence fuel (its.tokens ++ .sequenceEnd :: rest) acc = .ok (acc ++ itemsToList its, rest)
  | .nil, _ => fun fuel rest acc hf => by
    obtain ⟨f, rfl⟩ : ∃ f, fuel = f + 1 := ⟨fuel - 1, by have := Nat.lt_of_le_of_lt (Nat.zero_le _) hf; omega⟩
    simp [Items.tokens, buildSequence, itemsToList]
  | .cons len es more, hc =>
    builds_item (itemOk_of_canon hc).1.sorted (cnt_le_tokens es (itemOk_of_canon hc).1.elems)
      (build_elems ts dict es (itemOk_of_canon hc).1.elems) (build_items ts dict more (itemOk_of_canon hc).2)
end

/-- `build_object` on the tokens of a canonical, tag-sorted data set returns its elements in order -/
theorem buildObject_ref (ts : Syntax) (dict : Tag → Option VR) (t : Elems) (hc : canonElems ts dict t = true)
    (hs : sortedElems t = true) (fuel : Nat) (hf : t.tokens.length < fuel) :
    buildObject fuel false t.tokens [] = .ok (toList t, []) := by
  have h := build_elems ts dict t hc fuel false [] [] hf (by simpa using sorted_pairwise t hs)
  rw [List.append_nil] at h
  rw [h]
  have hcnt := cnt_le_tokens t hc
  have : fuel - cnt t = (fuel - cnt t - 1) + 1 := by omega
  rw [this]
  simp [buildObject]

end Dicom.Ref
