/-
Lemmas for the tag / selector text syntax (C14, and the no-panic results of C05): the tag parser against
`specTagOfText` and its panic-freedom on UTF-8; selector texts built from keys; dictionary keywords
carried as numbers (`keywordOk`).
-/
import DicomModel.Model.TagText
import DicomModel.Lemmas.Digits
namespace Dicom.TagText

/-! ### hexadecimal digits -/

theorem hexVal_hexDigit (u : Bool) (n : Nat) (h : n < 16) : hexVal (hexDigit u n) = some n := by
  have table : ∀ u : Bool, ∀ n, n < 16 → hexVal (hexDigit u n) = some n := by decide
  exact table u n h

theorem isHexDigit_iff (b : Nat) : isHexDigit b = true ↔ (hexVal b).isSome = true := by
  unfold isHexDigit hexVal
  simp only [Bool.or_eq_true, Bool.and_eq_true, decide_eq_true_eq]
  split
  · simp; omega
  · split
    · simp; omega
    · split
      · simp; omega
      · simp; omega

theorem hexVal_lt {b v : Nat} (h : hexVal b = some v) : v < 16 ∧ b < 128 := by
  unfold hexVal at h
  split at h
  · simp at h; omega
  · split at h
    · simp at h; omega
    · split at h
      · simp at h; omega
      · simp at h

theorem not_cont_of_lt {b : Nat} (h : b < 128) : isContinuation b = false := by
  unfold isContinuation; simp; omega

theorem fromHex4_eq (a b c d : Nat) : fromHex4 [a, b, c, d] = specHex4 a b c d := by
  unfold fromHex4 specHex4
  cases ha : hexVal a <;> cases hb : hexVal b <;> cases hc : hexVal c <;> cases hd : hexVal d <;>
    simp [ha, hb, hc, hd]
  omega

theorem all_hex_iff (a b c d : Nat) :
    [a, b, c, d].all isHexDigit = true ↔ (specHex4 a b c d).isSome = true := by
  simp only [List.all_cons, List.all_nil, Bool.and_true, Bool.and_eq_true, isHexDigit_iff]
  unfold specHex4
  cases hexVal a <;> cases hexVal b <;> cases hexVal c <;> cases hexVal d <;> simp

theorem specHex4_hex4 (u : Bool) (n : Nat) (h : n < 65536) :
    specHex4 (hexDigit u (n / 4096 % 16)) (hexDigit u (n / 256 % 16)) (hexDigit u (n / 16 % 16))
      (hexDigit u (n % 16)) = some n := by
  unfold specHex4
  rw [hexVal_hexDigit u _ (by omega), hexVal_hexDigit u _ (by omega), hexVal_hexDigit u _ (by omega),
    hexVal_hexDigit u _ (by omega)]
  simp only [Option.some.injEq]
  omega

theorem specHex4_lt {a b c d n : Nat} (h : specHex4 a b c d = some n) : n < 65536 := by
  unfold specHex4 at h
  cases ha : hexVal a <;> cases hb : hexVal b <;> cases hc : hexVal c <;> cases hd : hexVal d <;>
    simp [ha, hb, hc, hd] at h
  have := (hexVal_lt ha).1; have := (hexVal_lt hb).1; have := (hexVal_lt hc).1
  have := (hexVal_lt hd).1
  omega

/-! ### `parse_tag_part` by the shape of its input -/

/-- empty, or the first byte starts a character: "index 4 is a char boundary" seen from the remainder -/
def startsChar : Bytes → Bool
  | [] => true
  | r :: _ => !isContinuation r

theorem boundary4 (a b c d : Nat) (rest : Bytes) :
    isCharBoundary (a :: b :: c :: d :: rest) 4 = startsChar rest := by
  unfold isCharBoundary startsChar
  cases rest <;> simp

theorem parseTagPart_cons4 (a b c d : Nat) (rest : Bytes) :
    parseTagPart (a :: b :: c :: d :: rest) =
      if startsChar rest = true then
        match specHex4 a b c d with
        | some n => .ok (n, rest)
        | none => .err .number
      else .err .number := by
  unfold parseTagPart
  rw [boundary4]
  by_cases hr : startsChar rest = true
  · simp only [hr, Bool.not_true, Bool.false_eq_true, if_false, if_true, List.take_succ_cons,
      List.take_zero, List.drop_succ_cons, List.drop_zero]
    cases hs : specHex4 a b c d with
    | none =>
      have : ¬ ([a, b, c, d].all isHexDigit = true) := by
        rw [all_hex_iff, hs]; simp
      simp [this]
    | some n =>
      have : [a, b, c, d].all isHexDigit = true := by rw [all_hex_iff, hs]; rfl
      simp only [this, Bool.not_true, Bool.false_eq_true, if_false, fromHex4_eq, hs]
  · simp [hr]

theorem parseTagPart_short {s : Bytes} (h : s.length < 4) : parseTagPart s = .err .number := by
  unfold parseTagPart isCharBoundary
  have : s[4]? = none := by simp; omega
  have h4 : (4 == s.length) = false := by simp; omega
  simp [this, h4]

/-- `parse_tag_part` never panics (the `expect` is unreachable, `split_at` is guarded) -/
theorem parseTagPart_ne_panic (s : Bytes) : parseTagPart s ≠ .panic := by
  match s with
  | [] | [_] | [_, _] | [_, _, _] => rw [parseTagPart_short (by simp)]; simp
  | a :: b :: c :: d :: rest =>
    rw [parseTagPart_cons4]
    split
    · split <;> simp
    · simp

/-! ### the tag parser by the shape of the text -/

theorem specHex4_none_of_cont {a b c d : Nat} (h : isContinuation a = true) : specHex4 a b c d = none := by
  have ha : hexVal a = none := by
    cases hv : hexVal a with
    | none => rfl
    | some v => rw [not_cont_of_lt (hexVal_lt hv).2] at h; cases h
  simp [specHex4, ha]

/-- Layout by layout: after `parseTagPart_cons4` parser and specification fail together, because a group
that starts with a continuation byte has no hex value (`specHex4_none_of_cont`). -/
theorem parseTag11 (p a b c d q e f g h r : Nat) (t : Tag) :
    parseTag [p, a, b, c, d, q, e, f, g, h, r] = .ok t ↔
      specTagOfText [p, a, b, c, d, q, e, f, g, h, r] = some t := by
  have hlen : [p, a, b, c, d, q, e, f, g, h, r].length = 11 := rfl
  unfold parseTag specTagOfText
  simp only [hlen, if_true, List.head?_cons]
  by_cases hp : p = 0x28
  · subst hp
    simp only [ne_eq, not_true_eq_false, if_false, sliceFrom, isCharBoundary, Nat.one_ne_zero,
      List.getElem?_cons_succ, List.getElem?_cons_zero, List.drop_succ_cons, List.drop_zero]
    by_cases ca : isContinuation a = true
    · simp [ca, Outcome.bind, specPair, specHex4_none_of_cont ca]
    · simp only [ca, Bool.not_false, if_true, Outcome.bind, parseTagPart_cons4, startsChar]
      by_cases hq : q = 0x2C
      · subst hq
        simp only [not_cont_of_lt (by omega : 0x2C < 128), Bool.not_false, if_true]
        cases hab : specHex4 a b c d with
        | none => simp [specPair]
        | some G =>
          simp only [List.head?_cons, not_true_eq_false, if_false,
            List.getElem?_cons_succ, List.getElem?_cons_zero, List.drop_succ_cons, List.drop_zero]
          by_cases ce : isContinuation e = true
          · simp [ce, specPair, specHex4_none_of_cont ce]
          · simp only [ce, Bool.not_false, if_true, parseTagPart_cons4, startsChar]
            by_cases hr : r = 0x29
            · subst hr
              simp only [not_cont_of_lt (by omega : 0x29 < 128), Bool.not_false, if_true]
              cases hef : specHex4 e f g h with
              | none => simp [specPair]
              | some E => simp [specPair]
            · by_cases cr : isContinuation r = true
              · simp [cr, hr]
              · simp only [cr, Bool.not_false, if_true]
                cases hef : specHex4 e f g h with
                | none => simp [hr]
                | some E => simp [hr]
      · by_cases cq : isContinuation q = true
        · simp [cq, hq]
        · simp only [cq, Bool.not_false, if_true]
          cases hab : specHex4 a b c d with
          | none => simp [hq]
          | some G => simp [hq]
  · simp [hp]

theorem parseTag9 (a b c d q e f g h : Nat) (t : Tag) :
    parseTag [a, b, c, d, q, e, f, g, h] = .ok t ↔
      specTagOfText [a, b, c, d, q, e, f, g, h] = some t := by
  have hlen : [a, b, c, d, q, e, f, g, h].length = 9 := rfl
  unfold parseTag specTagOfText
  simp only [hlen, if_true, (by decide : ¬ (9 = 11)), if_false, Outcome.bind, parseTagPart_cons4, startsChar]
  by_cases hq : q = 0x2C
  · subst hq
    simp only [not_cont_of_lt (by omega : 0x2C < 128), Bool.not_false, if_true]
    cases hab : specHex4 a b c d with
    | none => simp [specPair]
    | some G =>
      simp only [List.head?_cons, ne_eq, not_true_eq_false, if_false, sliceFrom, isCharBoundary,
        Nat.one_ne_zero, List.getElem?_cons_succ, List.getElem?_cons_zero, List.drop_succ_cons,
        List.drop_zero]
      by_cases ce : isContinuation e = true
      · simp [ce, specPair, specHex4_none_of_cont ce]
      · simp only [ce, Bool.not_false, if_true, parseTagPart_cons4, startsChar]
        cases hef : specHex4 e f g h with
        | none => simp [specPair]
        | some E => simp [specPair]
  · by_cases cq : isContinuation q = true
    · simp [cq, hq]
    · simp only [cq, Bool.not_false, if_true]
      cases hab : specHex4 a b c d with
      | none => simp [hq]
      | some G => simp [hq]

theorem parseTag8 (a b c d e f g h : Nat) (t : Tag) :
    parseTag [a, b, c, d, e, f, g, h] = .ok t ↔ specTagOfText [a, b, c, d, e, f, g, h] = some t := by
  have hlen : [a, b, c, d, e, f, g, h].length = 8 := rfl
  unfold parseTag specTagOfText
  simp only [hlen, if_true, (by decide : ¬ (8 = 11)), (by decide : ¬ (8 = 9)), if_false, Outcome.bind,
    parseTagPart_cons4, startsChar]
  by_cases ce : isContinuation e = true
  · simp [ce, specPair, specHex4_none_of_cont ce]
  · simp only [ce, Bool.not_false, if_true]
    cases hab : specHex4 a b c d with
    | none => simp [specPair]
    | some G =>
      simp only [parseTagPart_cons4, startsChar, if_true]
      cases hef : specHex4 e f g h with
      | none => simp [specPair]
      | some E => simp [specPair]

theorem parseTag_err_of_length {s : Bytes} (h : s.length ≠ 11 ∧ s.length ≠ 9 ∧ s.length ≠ 8) :
    parseTag s = .err .length := by
  simp [parseTag, h.1, h.2.1, h.2.2]

theorem tagShape (s : Bytes) :
    (∃ p a b c d q e f g h r, s = [p, a, b, c, d, q, e, f, g, h, r]) ∨
      (∃ a b c d q e f g h, s = [a, b, c, d, q, e, f, g, h]) ∨ (∃ a b c d e f g h, s = [a, b, c, d, e, f, g, h]) ∨
      (s.length ≠ 11 ∧ s.length ≠ 9 ∧ s.length ≠ 8) := by
  by_cases h11 : s.length = 11
  · match s, h11 with
    | [_, _, _, _, _, _, _, _, _, _, _], _ => exact .inl ⟨_, _, _, _, _, _, _, _, _, _, _, rfl⟩
  by_cases h9 : s.length = 9
  · match s, h9 with
    | [_, _, _, _, _, _, _, _, _], _ => exact .inr (.inl ⟨_, _, _, _, _, _, _, _, _, rfl⟩)
  by_cases h8 : s.length = 8
  · match s, h8 with
    | [_, _, _, _, _, _, _, _], _ => exact .inr (.inr (.inl ⟨_, _, _, _, _, _, _, _, rfl⟩))
  exact .inr (.inr (.inr ⟨h11, h9, h8⟩))

/-- **Parsing accepts exactly the three layouts with hexadecimal digits of either case**, for
arbitrary byte strings: `s.parse::<Tag>() = Ok(t)` iff `s` denotes `t`. -/
theorem parseTag_ok_iff (s : Bytes) (t : Tag) : parseTag s = .ok t ↔ specTagOfText s = some t := by
  rcases tagShape s with ⟨p, a, b, c, d, q, e, f, g, h, r, rfl⟩ | ⟨a, b, c, d, q, e, f, g, h, rfl⟩ |
    ⟨a, b, c, d, e, f, g, h, rfl⟩ | hlen
  · exact parseTag11 ..
  · exact parseTag9 ..
  · exact parseTag8 ..
  · have ⟨h11, h9, h8⟩ := hlen
    have hs : specTagOfText s = none := by
      unfold specTagOfText
      split
      · simp at h11
      · simp at h9
      · simp at h8
      · rfl
    rw [parseTag_err_of_length hlen, hs]; simp

/-- a text that denotes no tag is never accepted -/
theorem parseTag_not_ok {s : Bytes} (h : specTagOfText s = none) (t : Tag) : parseTag s ≠ .ok t := by
  intro hp
  rw [(parseTag_ok_iff s t).mp hp] at h
  cases h

/-! ### panic-freedom -/

/-- in valid UTF-8 a byte that follows an ASCII byte starts a new character -/
def okAfterAscii : Bytes → Bool
  | a :: b :: rest => (decide (a ≥ 128) || !isContinuation b) && okAfterAscii (b :: rest)
  | _ => true

theorem okAfterAscii_tail {a : Nat} {s : Bytes} (h : okAfterAscii (a :: s) = true) : okAfterAscii s = true := by
  cases s with
  | nil => rfl
  | cons b r => simp [okAfterAscii] at h; exact h.2

theorem okAfterAscii_head {a b : Nat} {s : Bytes} (h : okAfterAscii (a :: b :: s) = true) (ha : a < 128) :
    isContinuation b = false := by
  simp [okAfterAscii] at h
  rcases h.1 with h1 | h1
  · omega
  · exact h1

theorem okAfterAscii_drop : ∀ (n : Nat) {s : Bytes}, okAfterAscii s = true → okAfterAscii (s.drop n) = true
  | 0, _, h => h
  | _ + 1, [], _ => rfl
  | n + 1, _ :: _, h => okAfterAscii_drop n (okAfterAscii_tail h)

theorem okAfterAscii_take : ∀ (s : Bytes) (n : Nat), okAfterAscii s = true → okAfterAscii (s.take n) = true := by
  intro s
  induction s with
  | nil => intro n _; simp [okAfterAscii]
  | cons a r ih =>
    intro n h
    cases n with
    | zero => simp [okAfterAscii]
    | succ m =>
      cases r with
      | nil => simp [okAfterAscii]
      | cons b r' =>
        cases m with
        | zero => simp [okAfterAscii]
        | succ k =>
          have ht := ih (k + 1) (okAfterAscii_tail h)
          simp only [List.take_succ_cons] at ht ⊢
          simp only [okAfterAscii, Bool.and_eq_true] at h ⊢
          exact ⟨h.1, ht⟩

theorem okAfterAscii_getElem : ∀ (s : Bytes) (i a b : Nat), okAfterAscii s = true →
    s[i]? = some a → a < 128 → s[i + 1]? = some b → isContinuation b = false := by
  intro s
  induction s with
  | nil => intro i a b _ h; simp at h
  | cons x r ih =>
    intro i a b hok ha hlt hb
    cases i with
    | zero =>
      cases r with
      | nil => simp at hb
      | cons y r' =>
        simp at ha hb; subst ha; subst hb
        exact okAfterAscii_head hok hlt
    | succ j =>
      simp only [List.getElem?_cons_succ] at ha hb
      exact ih j a b (okAfterAscii_tail hok) ha hlt hb

theorem findByte_spec (c : Nat) : ∀ (s : Bytes) (i : Nat), findByte c s = some i → s[i]? = some c := by
  intro s
  induction s with
  | nil => intro i h; simp [findByte] at h
  | cons b r ih =>
    intro i h
    simp only [findByte] at h
    split at h
    · rename_i hb; cases h; simp [hb]
    · cases hr : findByte c r with
      | none => rw [hr] at h; simp at h
      | some k => rw [hr] at h; simp at h; subst h; simpa using ih k hr

theorem Outcome.bind_ne_panic {α β : Type} {x : Outcome α} {f : α → Outcome β} (hx : x ≠ .panic)
    (hf : ∀ a, x = .ok a → f a ≠ .panic) : x.bind f ≠ .panic := by
  cases x with
  | ok a => exact hf a rfl
  | err e => nofun
  | panic => exact absurd rfl hx

theorem sliceFrom_one {β : Type} {s : Bytes} {c : Nat} (ok : okAfterAscii s = true) (hc : c < 128)
    (hh : s.head? = some c) (k : Bytes → Outcome β) : (sliceFrom s 1).bind k = k (s.drop 1) := by
  match s, hh with
  | [_], _ => rfl
  | _ :: b :: _, hh =>
    cases hh
    simp [sliceFrom, isCharBoundary, okAfterAscii_head ok hc, Outcome.bind]

theorem parseTagPart_rest {s rest : Bytes} {n : Nat} (h : parseTagPart s = .ok (n, rest)) : rest = s.drop 4 := by
  unfold parseTagPart at h
  dsimp only at h
  split at h
  · cases h
  · split at h
    · cases h
    · split at h
      · cases h; rfl
      · cases h

theorem afterComma_ne_panic {rest : Bytes} (ok : okAfterAscii rest = true) {k : Nat × Bytes → Outcome Tag}
    (hk : ∀ p, k p ≠ .panic) :
    (if rest.head? ≠ some 0x2C then .err .separator
      else (sliceFrom rest 1).bind fun r1 => (parseTagPart r1).bind k) ≠ .panic := by
  split
  · nofun
  · rename_i hh
    rw [sliceFrom_one ok (by decide) (Decidable.not_not.mp hh)]
    exact Outcome.bind_ne_panic (parseTagPart_ne_panic _) fun p _ => hk p

/-- **No panic**: on a text in which no continuation byte follows an ASCII byte — in particular on
every valid UTF-8 string (`okAfterAscii_utf8`) — the tag parser returns `Ok` or `Err`. -/
theorem parseTag_ne_panic {s : Bytes} (ok : okAfterAscii s = true) : parseTag s ≠ .panic := by
  unfold parseTag
  split
  · split
    · nofun
    · rename_i hh
      rw [sliceFrom_one ok (by decide) (Decidable.not_not.mp hh)]
      refine Outcome.bind_ne_panic (parseTagPart_ne_panic _) fun ⟨g, rest⟩ hg => ?_
      rw [parseTagPart_rest hg]
      exact afterComma_ne_panic (okAfterAscii_drop 4 (okAfterAscii_drop 1 ok)) fun ⟨e, rest2⟩ => by
        dsimp only; split <;> nofun
  · split
    · refine Outcome.bind_ne_panic (parseTagPart_ne_panic _) fun ⟨g, rest⟩ hg => ?_
      rw [parseTagPart_rest hg]
      exact afterComma_ne_panic (okAfterAscii_drop 4 ok) fun _ => nofun
    · split
      · exact Outcome.bind_ne_panic (parseTagPart_ne_panic _) fun _ _ =>
          Outcome.bind_ne_panic (parseTagPart_ne_panic _) fun _ _ => nofun
      · nofun
/-! ### UTF-8 -/

theorem okAfterAscii_append_high {l E : Bytes} (hl : ∀ b ∈ l, b ≥ 128) (hE : okAfterAscii E = true) :
    okAfterAscii (l ++ E) = true := by
  induction l with
  | nil => simpa using hE
  | cons a r ih =>
    have ha : a ≥ 128 := hl a (by simp)
    have ih' := ih (fun b hb => hl b (by simp [hb]))
    cases hr : r ++ E with
    | nil => simp [hr, okAfterAscii]
    | cons b t =>
      rw [hr] at ih'
      simp only [List.cons_append, hr, okAfterAscii, Bool.and_eq_true, Bool.or_eq_true,
        decide_eq_true_eq]
      exact ⟨Or.inl ha, ih'⟩

theorem utf8EncodeChar_cases (c : Char) :
    (∃ n, n < 128 ∧ utf8EncodeChar c = [n]) ∨
      ((∀ b ∈ utf8EncodeChar c, b ≥ 128) ∧ ∃ x r, utf8EncodeChar c = x :: r ∧ x ≥ 192) := by
  unfold utf8EncodeChar
  simp only []
  split
  · exact Or.inl ⟨_, by assumption, rfl⟩
  · right
    split
    · refine ⟨?_, _, _, rfl, by omega⟩
      intro b hb; simp at hb; omega
    · split
      · refine ⟨?_, _, _, rfl, by omega⟩
        intro b hb; simp at hb; omega
      · refine ⟨?_, _, _, rfl, by omega⟩
        intro b hb; simp at hb; omega

/-- the UTF-8 encoding of any character sequence satisfies `okAfterAscii`, and does not start with
a continuation byte -/
theorem okAfterAscii_utf8_aux (cs : List Char) :
    okAfterAscii (utf8Encode cs) = true ∧ startsChar (utf8Encode cs) = true := by
  induction cs with
  | nil => exact ⟨rfl, rfl⟩
  | cons c cs ih =>
    have e : utf8Encode (c :: cs) = utf8EncodeChar c ++ utf8Encode cs := by
      simp [utf8Encode]
    rw [e]
    rcases utf8EncodeChar_cases c with ⟨n, hn, hc⟩ | ⟨hall, x, r, hc, hx⟩
    · rw [hc]
      refine ⟨?_, ?_⟩
      · cases hE : utf8Encode cs with
        | nil => rfl
        | cons b t =>
          have := ih.2; rw [hE] at this
          have h1 := ih.1; rw [hE] at h1
          simp only [List.cons_append, List.nil_append, okAfterAscii, Bool.and_eq_true, Bool.or_eq_true,
            decide_eq_true_eq]
          exact ⟨Or.inr (by simpa [startsChar] using this), h1⟩
      · simp [startsChar, isContinuation]; omega
    · refine ⟨okAfterAscii_append_high hall ih.1, ?_⟩
      rw [hc]; simp [startsChar, isContinuation]; omega

theorem okAfterAscii_utf8 (cs : List Char) : okAfterAscii (utf8Encode cs) = true :=
  (okAfterAscii_utf8_aux cs).1

/-! ### printed forms denote their tag -/

theorem specTagOfText_tagForm (f : Form) (u : Bool) (t : Tag) (hg : t.1 < 65536) (he : t.2 < 65536) :
    specTagOfText (tagForm f u t) = some t := by
  cases f <;>
    simp [tagForm, hex4, specTagOfText, specHex4_hex4 u _ hg, specHex4_hex4 u _ he, specPair]

/-! ### splitting on `.` -/

theorem splitOn_ne_nil (c : Nat) (s : Bytes) : splitOn c s ≠ [] := by
  induction s with
  | nil => simp [splitOn]
  | cons b bs ih =>
    unfold splitOn
    split
    · simp
    · split <;> simp

theorem splitOn_noSep {c : Nat} {p : Bytes} (h : c ∉ p) : splitOn c p = [p] := by
  induction p with
  | nil => rfl
  | cons b bs ih =>
    have hb : b ≠ c := fun e => h (by simp [e])
    have hbs : c ∉ bs := fun m => h (by simp [m])
    simp [splitOn, hb, ih hbs]

theorem splitOn_append_sep {c : Nat} {p : Bytes} (h : c ∉ p) (rest : Bytes) :
    splitOn c (p ++ c :: rest) = p :: splitOn c rest := by
  induction p with
  | nil => simp [splitOn]
  | cons b bs ih =>
    have hb : b ≠ c := fun e => h (by simp [e])
    have hbs : c ∉ bs := fun m => h (by simp [m])
    simp [splitOn, hb, ih hbs]

theorem splitOn_joinDots {ps : List Bytes} (hne : ps ≠ []) (h : ∀ p ∈ ps, 0x2E ∉ p) :
    splitOn 0x2E (joinDots ps) = ps := by
  induction ps with
  | nil => exact absurd rfl hne
  | cons p rest ih =>
    cases rest with
    | nil => simp [joinDots, splitOn_noSep (h p (by simp))]
    | cons q rest' =>
      simp only [joinDots]
      rw [splitOn_append_sep (h p (by simp)), ih (by simp) (fun x hx => h x (by simp [hx]))]

/-- (the second conjunct is the induction invariant) -/
theorem okAfterAscii_splitOn (c : Nat) : ∀ (bs : Bytes), okAfterAscii bs = true →
    (∀ q ∈ splitOn c bs, okAfterAscii q = true) ∧
    (∀ a, okAfterAscii (a :: bs) = true → okAfterAscii (a :: (splitOn c bs).headD []) = true) := by
  intro bs
  induction bs with
  | nil => intro _; simp [splitOn, okAfterAscii]
  | cons b r ih =>
    intro h
    have ihr := ih (okAfterAscii_tail h)
    simp only [splitOn]
    split
    · refine ⟨?_, ?_⟩
      · intro q hq
        rcases List.mem_cons.mp hq with rfl | hq
        · rfl
        · exact ihr.1 q hq
      · intro a _; simp [okAfterAscii]
    · cases hs : splitOn c r with
      | nil => exact absurd hs (splitOn_ne_nil c r)
      | cons p ps =>
        have hbp : okAfterAscii (b :: p) = true := by
          have := ihr.2 b h; rw [hs] at this; simpa using this
        refine ⟨?_, ?_⟩
        · intro q hq
          rcases List.mem_cons.mp hq with rfl | hq
          · exact hbp
          · exact ihr.1 q (by rw [hs]; exact List.mem_cons_of_mem _ hq)
        · intro a ha
          simp only [List.headD_cons]
          simp only [okAfterAscii, Bool.and_eq_true] at ha ⊢
          exact ⟨ha.1, hbp⟩

/-! ### decimal item indices -/

/-- `i.to_string().parse::<u32>() = Ok(i)` -/
theorem parseU32_toDec {n : Nat} (h : n < 4294967296) : parseU32 (Digits.toDec n) = some n := by
  unfold parseU32
  have hd := Digits.toDec_isDigit n
  have hne := Digits.toDec_ne_nil n
  have hplus : stripPlus (Digits.toDec n) = Digits.toDec n := by
    cases hh : Digits.toDec n with
    | nil => rfl
    | cons b r =>
      have : Digits.isDigit b = true := hd b (by simp [hh])
      have hb : b ≠ 0x2B := by intro e; subst e; simp [Digits.isDigit] at this
      unfold stripPlus
      split
      · rename_i heq; simp at heq; exact absurd heq.1 hb
      · rfl
  rw [hplus]
  have hany : (Digits.toDec n).any (fun b => !Digits.isDigit b) = false := by
    rw [List.any_eq_false]; intro b hb; simp [hd b hb]
  have hemp : (Digits.toDec n).isEmpty = false := by
    cases hh : Digits.toDec n with
    | nil => exact absurd hh hne
    | cons _ _ => rfl
  simp [hany, hemp, Digits.foldl_toDec, h]


/-! ### printed tags -/

theorem hexDigit_range (u : Bool) (n : Nat) (h : n < 16) :
    (48 ≤ hexDigit u n ∧ hexDigit u n ≤ 57) ∨ (65 ≤ hexDigit u n ∧ hexDigit u n ≤ 70) ∨
      (97 ≤ hexDigit u n ∧ hexDigit u n ≤ 102) := by
  unfold hexDigit
  cases u <;> simp <;> split <;> omega

theorem mem_hex4 {u : Bool} {n b : Nat} (h : b ∈ hex4 u n) :
    (48 ≤ b ∧ b ≤ 57) ∨ (65 ≤ b ∧ b ≤ 70) ∨ (97 ≤ b ∧ b ≤ 102) := by
  simp only [hex4, List.mem_cons, List.not_mem_nil, or_false] at h
  rcases h with h | h | h | h <;> subst h <;> exact hexDigit_range u _ (Nat.mod_lt _ (by omega))

theorem mem_printTag {t : Tag} {b : Nat} (h : b ∈ printTag t) :
    b = 0x28 ∨ b = 0x2C ∨ b = 0x29 ∨ (48 ≤ b ∧ b ≤ 57) ∨ (65 ≤ b ∧ b ≤ 70) ∨ (97 ≤ b ∧ b ≤ 102) := by
  simp only [printTag, tagForm, List.mem_cons, List.mem_append, List.not_mem_nil, or_false] at h
  rcases h with h | h | h | h | h
  · omega
  · have := mem_hex4 h; omega
  · omega
  · have := mem_hex4 h; omega
  · omega

theorem printTag_length (t : Tag) : (printTag t).length = 11 := by
  simp [printTag, tagForm, hex4]

theorem printTag_getLast (t : Tag) : (printTag t).getLast? = some 0x29 := by
  simp [printTag, tagForm, hex4]

/-! ### keys inside a selector text -/

/-- a text usable as a selector key for tag `t`: `parse_tag` resolves it to `t`, and it contains no
`.`, no `[`, and does not end in `]` -/
structure KeyText (byName : Bytes → Option Tag) (k : Bytes) (t : Tag) : Prop where
  resolves : dictParseTag byName k = .tag t
  noDot : 0x2E ∉ k
  noBracket : 0x5B ∉ k
  noClose : k.getLast? ≠ some 0x5D

theorem findByte_append {c : Nat} {p : Bytes} (h : c ∉ p) (r : Bytes) :
    findByte c (p ++ c :: r) = some p.length := by
  induction p with
  | nil => simp [findByte]
  | cons b bs ih =>
    have hb : b ≠ c := fun e => h (by simp [e])
    have hbs : c ∉ bs := fun m => h (by simp [m])
    simp [findByte, hb, ih hbs]

/-- `«key»[«item»]` -/
def nestedText (k : Bytes) (i : Nat) : Bytes := k ++ 0x5B :: (Digits.toDec i ++ [0x5D])

theorem parsePart_nested {byName : Bytes → Option Tag} {k : Bytes} {t : Tag} (hk : KeyText byName k t)
    {i : Nat} (hi : i < 4294967296) : parsePart byName (nestedText k i) = .ok (.nested t i) := by
  unfold parsePart nestedText
  have hlast : (k ++ 0x5B :: (Digits.toDec i ++ [0x5D])).getLast? = some 0x5D := by
    simp only [← List.cons_append, ← List.append_assoc, List.getLast?_concat]
  rw [if_pos hlast, findByte_append hk.noBracket]
  simp only []
  have htake : (k ++ 0x5B :: (Digits.toDec i ++ [0x5D])).take k.length = k := by simp
  have hitem : ((k ++ 0x5B :: (Digits.toDec i ++ [0x5D])).drop (k.length + 1)).take
      ((k ++ 0x5B :: (Digits.toDec i ++ [0x5D])).length - 1 - (k.length + 1)) = Digits.toDec i := by
    rw [← List.drop_drop, List.drop_left' rfl, List.drop_one, List.tail_cons]
    exact List.take_left' (by simp; omega)
  rw [htake, hitem, hk.resolves, parseU32_toDec hi]

theorem parsePart_key {byName : Bytes → Option Tag} {k : Bytes} {t : Tag} (hk : KeyText byName k t) :
    parsePart byName k = .ok (.tag t) := by
  unfold parsePart
  rw [if_neg hk.noClose, hk.resolves]

theorem nestedText_noDot {k : Bytes} (h : 0x2E ∉ k) (i : Nat) : 0x2E ∉ nestedText k i := by
  unfold nestedText
  intro hm
  simp only [List.mem_append, List.mem_cons, List.not_mem_nil, or_false] at hm
  rcases hm with hm | hm | hm | hm
  · exact h hm
  · omega
  · have := Digits.toDec_isDigit i _ hm; simp [Digits.isDigit] at this
  · omega


/-- one step of a selector text: a key, the tag it resolves to, the item index, and whether the
index is written (`key[item]`) or left out (`key`, item 0) -/
structure KeyStep where
  k : Bytes
  t : Tag
  item : Nat
  explicit : Bool

def KeyStep.text (s : KeyStep) : Bytes := if s.explicit then nestedText s.k s.item else s.k
def KeyStep.step (s : KeyStep) : Step := if s.explicit then .nested s.t s.item else .tag s.t

def KeyStep.Ok (byName : Bytes → Option Tag) (s : KeyStep) : Prop :=
  KeyText byName s.k s.t ∧ s.item < 4294967296 ∧ (s.explicit = false → s.item = 0)

theorem parsePart_keyStep {byName : Bytes → Option Tag} {s : KeyStep} (h : s.Ok byName) :
    parsePart byName s.text = .ok s.step := by
  unfold KeyStep.text KeyStep.step
  cases he : s.explicit
  · simp [parsePart_key h.1]
  · simp [parsePart_nested h.1 h.2.1]

theorem keyStep_noDot {byName : Bytes → Option Tag} {s : KeyStep} (h : s.Ok byName) : 0x2E ∉ s.text := by
  unfold KeyStep.text
  cases he : s.explicit
  · simpa using h.1.noDot
  · simpa using nestedText_noDot h.1.noDot s.item

theorem parseParts_keys {byName : Bytes → Option Tag} (path : List KeyStep) (leafK : Bytes) (leafT : Tag)
    (hp : ∀ s ∈ path, s.Ok byName) (hl : KeyText byName leafK leafT) :
    parseParts byName (path.map KeyStep.text ++ [leafK]) = .ok (path.map KeyStep.step ++ [.tag leafT]) := by
  induction path with
  | nil => simp [parseParts, parsePart_key hl]
  | cons s rest ih =>
    have := ih (fun x hx => hp x (by simp [hx]))
    simp only [List.map_cons, List.cons_append, parseParts, parsePart_keyStep (hp s (by simp)), this]

theorem Selector.new_keys (path : List KeyStep) (leafT : Tag)
    (hp : ∀ s ∈ path, s.explicit = false → s.item = 0) :
    Selector.new (path.map KeyStep.step ++ [.tag leafT]) = some ⟨path.map (fun s => (s.t, s.item)), leafT⟩ := by
  induction path with
  | nil => rfl
  | cons s rest ih =>
    have ih' := ih (fun x hx => hp x (by simp [hx]))
    have hne : rest.map KeyStep.step ++ [Step.tag leafT] ≠ [] := by simp
    cases hr : rest.map KeyStep.step ++ [Step.tag leafT] with
    | nil => exact absurd hr hne
    | cons x xs =>
      rw [hr] at ih'
      simp only [List.map_cons, List.cons_append, hr]
      unfold KeyStep.step
      cases he : s.explicit
      · have := hp s (by simp) he
        simp [Selector.new, ih', this]
      · simp [Selector.new, ih']

/-- **Selector texts**: keys that resolve (printed tags, other tag forms, dictionary keywords), with
written or omitted item indices, joined by `.`, parse to the selector of the resolved tags. -/
theorem parseSelector_keys {byName : Bytes → Option Tag} (path : List KeyStep) (leafK : Bytes) (leafT : Tag)
    (hp : ∀ s ∈ path, s.Ok byName) (hl : KeyText byName leafK leafT) :
    parseSelector byName (joinDots (path.map KeyStep.text ++ [leafK])) =
      .ok ⟨path.map (fun s => (s.t, s.item)), leafT⟩ := by
  unfold parseSelector
  rw [splitOn_joinDots (by simp)]
  · rw [parseParts_keys path leafK leafT hp hl]
    simp only []
    rw [Selector.new_keys path leafT (fun s hs => (hp s hs).2.2)]
  · intro p hpm
    simp only [List.mem_append, List.mem_map, List.mem_singleton] at hpm
    rcases hpm with ⟨s, hs, rfl⟩ | rfl
    · exact keyStep_noDot (hp s hs)
    · exact hl.noDot


/-! ### keywords carried as numbers -/

def isAlnum (b : Nat) : Bool :=
  (Nat.ble 48 b && Nat.ble b 57) || (Nat.ble 65 b && Nat.ble b 90) || (Nat.ble 97 b && Nat.ble b 122)

/-- bit `b` is set iff byte `b` is alphanumeric -/
def alnumMask : Nat := 0x7fffffe07fffffe03ff000000000000

def alnumBit (b : Nat) : Bool := Nat.beq (Nat.land (Nat.shiftRight alnumMask b) 1) 1

theorem alnumBit_eq : ∀ b, b < 256 → alnumBit b = isAlnum b := by decide +kernel

def kwScan : Nat → Nat → Bool
  | 0, n => Nat.beq n 0
  | f + 1, n => bif Nat.beq n 0 then true else alnumBit (n % 256) && kwScan f (n / 256)

theorem bytesOfAux_acc (f n : Nat) (acc : Bytes) : bytesOfAux f n acc = bytesOfAux f n [] ++ acc := by
  induction f generalizing n acc with
  | zero => simp [bytesOfAux]
  | succ f ih =>
    unfold bytesOfAux
    by_cases h : n = 0
    · simp [h]
    · simp only [h, if_false]
      rw [ih (n / 256) (n % 256 :: acc), ih (n / 256) [n % 256]]
      simp

theorem natOfBytes_append (l : Bytes) (x : Nat) : natOfBytes (l ++ [x]) = natOfBytes l * 256 + x := by
  simp [natOfBytes, List.foldl_append]

theorem natOfBytes_bytesOfAux (f n : Nat) (h : n < 256 ^ f) : natOfBytes (bytesOfAux f n []) = n := by
  induction f generalizing n with
  | zero => simp at h; subst h; rfl
  | succ f ih =>
    unfold bytesOfAux
    by_cases h0 : n = 0
    · simp [h0, natOfBytes]
    · simp only [h0, if_false]
      rw [bytesOfAux_acc, natOfBytes_append, ih (n / 256) (by rw [Nat.pow_succ] at h; omega)]
      omega

theorem kwScan_all (f n : Nat) (h : kwScan f n = true) : (bytesOfAux f n []).all isAlnum = true := by
  induction f generalizing n with
  | zero => simp [bytesOfAux]
  | succ f ih =>
    unfold kwScan at h
    unfold bytesOfAux
    by_cases h0 : n = 0
    · simp [h0]
    · have hb : Nat.beq n 0 = false := by
        cases hh : Nat.beq n 0
        · rfl
        · exact absurd (Nat.eq_of_beq_eq_true hh) h0
      rw [hb, cond_false, Bool.and_eq_true] at h
      simp only [h0, if_false]
      rw [bytesOfAux_acc]
      have hb' := alnumBit_eq (n % 256) (Nat.mod_lt _ (by omega))
      rw [hb'] at h
      simp [ih (n / 256) h.2, h.1]

theorem length_bytesOfAux_le_iff (f n k : Nat) (hf : n < 256 ^ f) :
    (bytesOfAux f n []).length ≤ k ↔ n < 256 ^ k := by
  induction f generalizing n k with
  | zero => simp at hf; subst hf; simp [bytesOfAux, Nat.pow_pos]
  | succ f ih =>
    unfold bytesOfAux
    by_cases h0 : n = 0
    · simp [h0, Nat.pow_pos]
    · simp only [h0, if_false]
      rw [bytesOfAux_acc]
      cases k with
      | zero => simp; omega
      | succ k =>
        have := ih (n / 256) k (by rw [Nat.pow_succ] at hf; omega)
        rw [Nat.pow_succ]
        simp; omega

def isErr : Outcome Tag → Bool
  | .err _ => true
  | _ => false

/-- what is needed of a keyword (given as a number) for it to work as a selector key: its text is
non-empty and alphanumeric, and is not itself a tag form. The byte string is only built for texts
of 8, 9 or 11 bytes. -/
def keywordOk (a : Nat) : Bool :=
  Nat.blt 0 a && Nat.blt a (256 ^ 64) && kwScan 256 a &&
    (Nat.blt a (256 ^ 7) || (Nat.ble (256 ^ 9) a && Nat.blt a (256 ^ 10)) || Nat.ble (256 ^ 11) a ||
      isErr (parseTag (bytesOf a)))

theorem keywordOk_spec {a : Nat} (h : keywordOk a = true) :
    (bytesOf a).all isAlnum = true ∧ bytesOf a ≠ [] ∧ natOfBytes (bytesOf a) = a ∧
      isErr (parseTag (bytesOf a)) = true := by
  unfold keywordOk at h
  simp only [Bool.and_eq_true, Bool.or_eq_true, Nat.blt_eq, Nat.ble_eq] at h
  obtain ⟨⟨⟨hpos, hlt⟩, hscan⟩, hcase⟩ := h
  have hlt256 : a < 256 ^ 256 := Nat.lt_of_lt_of_le hlt (Nat.pow_le_pow_right (by omega) (by omega))
  have hnat := natOfBytes_bytesOfAux 256 a hlt256
  refine ⟨kwScan_all 256 a hscan, ?_, hnat, ?_⟩
  · intro he
    have : natOfBytes (bytesOf a) = 0 := by rw [he]; rfl
    unfold bytesOf at this
    omega
  · rcases hcase with hlen | he
    · -- shorter than 8, exactly 10, or longer than 11 bytes: no tag layout
      have len := fun k => length_bytesOfAux_le_iff 256 a k hlt256
      have l7 := len 7
      have l9 := len 9
      have l10 := len 10
      have l11 := len 11
      rw [parseTag_err_of_length (by unfold bytesOf; omega)]; rfl
    · exact he

/-- (no leading NUL: what `Model/TagTextStd.stdByName` needs to recover the text from its number) -/
theorem alnum_facts {b : Bytes} (h : b.all isAlnum = true) :
    0x2E ∉ b ∧ 0x5B ∉ b ∧ b.getLast? ≠ some 0x5D ∧ b.head? ≠ some 0 := by
  have hall : ∀ x ∈ b, isAlnum x = true := by simpa using h
  have no : ∀ v, isAlnum v = false → v ∉ b := fun v hv hm => by rw [hall v hm] at hv; cases hv
  refine ⟨no _ (by decide), no _ (by decide), ?_, ?_⟩
  · intro hl
    exact no 0x5D (by decide) (List.mem_of_getLast? hl)
  · intro hh
    exact no 0 (by decide) (List.mem_of_head? hh)


end Dicom.TagText
