import DicomModel.Model.Header
import DicomModel.Lemmas.Bytes
/-
Lemmas about the header model: VR code tables, round trips in "append rest" form, and that the
decoders only look at the front of their input.
-/
namespace Dicom

/-- the generated VR tables, checked constructor by constructor by evaluation -/
theorem VR.table (v : VR) :
    v ∈ VR.all ∧ v.toBytes? = some v.toBytes ∧ (v.toBytes.1 < 256 ∧ v.toBytes.2 < 256) ∧
      VR.fromBinary v.toBytes.1 v.toBytes.2 = some v := by
  cases v <;> decide +kernel

theorem VR.mem_all (v : VR) : v ∈ VR.all := (VR.table v).1

theorem VR.toBytes?_eq (v : VR) : v.toBytes? = some v.toBytes := (VR.table v).2.1

theorem VR.toBytes_lt (v : VR) : v.toBytes.1 < 256 ∧ v.toBytes.2 < 256 := (VR.table v).2.2.1

theorem VR.fromBinary_toBytes (v : VR) : VR.fromBinary v.toBytes.1 v.toBytes.2 = some v :=
  (VR.table v).2.2.2

@[simp] theorem encodeTag_length (be : Bool) (t : Tag) : (encodeTag be t).length = 4 := by
  simp [encodeTag]

theorem decodeTag_encodeTag (be : Bool) (t : Tag) (ht : t.Valid) (r : Bytes) :
    decodeTag be (encodeTag be t ++ r) = some (t, r) := by
  simp only [decodeTag, encodeTag, List.append_assoc, rd16_enc16 _ _ ht.1, rd16_enc16 _ _ ht.2]

theorem decodeTag_short {be : Bool} {bs : Bytes} (h : bs.length < 4) : decodeTag be bs = none := by
  match bs, h with
  | [], _ | [_], _ | [_, _], _ | [_, _, _], _ => cases be <;> rfl
  | _ :: _ :: _ :: _ :: _, h => simp at h; omega

theorem decodeTag_append {be : Bool} {p r : Bytes} {t : Tag} (s : Bytes)
    (h : decodeTag be p = some (t, r)) : decodeTag be (p ++ s) = some (t, r ++ s) := by
  unfold decodeTag at h ⊢
  split at h
  · rename_i g r1 hg
    split at h
    · rename_i e r2 he
      simp only [rd16_append s hg, rd16_append s he]
      cases h
      rfl
    · cases h
  · cases h

theorem encodeExplicitWith_short {short : List VR} (be : Bool) {h : ElemHeader} (hs : h.vr ∈ short)
    (hl : h.len ≤ 0xFFFF) :
    encodeExplicitWith short be h
      = .ok (encodeTag be h.tag ++ [h.vr.toBytes.1, h.vr.toBytes.2] ++ enc16 be h.len, 8) := by
  simp only [encodeExplicitWith, List.contains_iff_mem.mpr hs, if_true, Nat.not_lt.mpr hl, if_false]

theorem encodeExplicitWith_overflow {short : List VR} (be : Bool) {h : ElemHeader} (hs : h.vr ∈ short)
    (hl : h.len > 0xFFFF) : encodeExplicitWith short be h = .error (.headerTooLong h.len) := by
  simp only [encodeExplicitWith, List.contains_iff_mem.mpr hs, if_true, hl]

theorem encodeExplicitWith_long {short : List VR} (be : Bool) {h : ElemHeader} (hs : h.vr ∉ short) :
    encodeExplicitWith short be h
      = .ok (encodeTag be h.tag ++ [h.vr.toBytes.1, h.vr.toBytes.2] ++ [0, 0] ++ enc32 be h.len, 12) := by
  have : short.contains h.vr = false := by simpa using hs
  simp only [encodeExplicitWith, this, Bool.false_eq_true, if_false]

theorem encodeExplicitWith_ok {short : List VR} {be : Bool} {h : ElemHeader} {bs : Bytes} {n : Nat}
    (henc : encodeExplicitWith short be h = .ok (bs, n)) :
    (h.vr ∈ short ∧ h.len ≤ 0xFFFF ∧ n = 8 ∧
        bs = encodeTag be h.tag ++ [h.vr.toBytes.1, h.vr.toBytes.2] ++ enc16 be h.len) ∨
    (h.vr ∉ short ∧ n = 12 ∧
        bs = encodeTag be h.tag ++ [h.vr.toBytes.1, h.vr.toBytes.2] ++ [0, 0] ++ enc32 be h.len) := by
  by_cases hs : h.vr ∈ short
  · by_cases hl : h.len ≤ 0xFFFF
    · rw [encodeExplicitWith_short be hs hl] at henc
      cases henc
      exact .inl ⟨hs, hl, rfl, rfl⟩
    · rw [encodeExplicitWith_overflow be hs (Nat.lt_of_not_le hl)] at henc
      cases henc
  · rw [encodeExplicitWith_long be hs] at henc
    cases henc
    exact .inr ⟨hs, rfl, rfl⟩

theorem encodeExplicitWith_count {short : List VR} {be : Bool} {h : ElemHeader} {bs : Bytes} {n : Nat}
    (henc : encodeExplicitWith short be h = .ok (bs, n)) : n = bs.length := by
  rcases encodeExplicitWith_ok henc with ⟨_, _, rfl, rfl⟩ | ⟨_, rfl, rfl⟩ <;> simp

theorem decodeExplicitWith_encode_mod (short : List VR) (be : Bool) (h : ElemHeader)
    (ht : h.tag.Valid) (hg : h.tag.group ≠ 0xFFFE) (r : Bytes)
    (bs : Bytes) (n : Nat) (henc : encodeExplicitWith short be h = .ok (bs, n)) :
    decodeExplicitWith short be (bs ++ r) = some (⟨h.tag, h.vr, h.len % 4294967296⟩, n, r) := by
  have hfb := VR.fromBinary_toBytes h.vr
  rcases encodeExplicitWith_ok henc with ⟨hs, hl, rfl, rfl⟩ | ⟨hs, rfl, rfl⟩
  · have h16 : h.len < 65536 := by omega
    have h32 : h.len % 4294967296 = h.len := Nat.mod_eq_of_lt (by omega)
    simp [decodeExplicitWith, List.append_assoc, decodeTag_encodeTag _ _ ht, hg, hfb, hs,
      rd16_enc16 _ _ h16, h32]
  · simp [decodeExplicitWith, List.append_assoc, decodeTag_encodeTag _ _ ht, hg, hfb, hs, rd32_mod]

/-- explicit VR header round trip over any short list (the same list on both sides) -/
theorem decodeExplicitWith_encode (short : List VR) (be : Bool) (h : ElemHeader)
    (ht : h.tag.Valid) (hg : h.tag.group ≠ 0xFFFE) (hl : h.len < 4294967296) (r : Bytes)
    (bs : Bytes) (n : Nat) (henc : encodeExplicitWith short be h = .ok (bs, n)) :
    decodeExplicitWith short be (bs ++ r) = some (h, n, r) ∧ n = bs.length := by
  have := decodeExplicitWith_encode_mod short be h ht hg r bs n henc
  rw [Nat.mod_eq_of_lt hl] at this
  exact ⟨this, encodeExplicitWith_count henc⟩

theorem decodeExplicitWith_append {short : List VR} {be : Bool} {p r : Bytes} {hd : ElemHeader} {n : Nat}
    (s : Bytes) (h : decodeExplicitWith short be p = some (hd, n, r)) :
    decodeExplicitWith short be (p ++ s) = some (hd, n, r ++ s) := by
  unfold decodeExplicitWith at h ⊢
  split at h
  · cases h
  · rename_i t r0 ht
    rw [decodeTag_append s ht]
    dsimp only
    split at h
    · rename_i hg
      rw [if_pos hg]
      split at h
      · rename_i len r' hl
        rw [rd32_append s hl]
        cases h
        rfl
      · cases h
    · rename_i hg
      rw [if_neg hg]
      split at h
      · rename_i a b r1
        dsimp only [List.cons_append] at h ⊢
        split at h
        · rename_i hshort
          rw [if_pos hshort]
          split at h
          · rename_i len r' hl
            rw [rd16_append s hl]
            cases h
            rfl
          · cases h
        · rename_i hshort
          rw [if_neg hshort]
          split at h
          · rename_i x y r2
            dsimp only [List.cons_append]
            split at h
            · rename_i len r' hl
              rw [rd32_append s hl]
              cases h
              rfl
            · cases h
          · cases h
      · cases h

/-- Were a strict prefix to decode, so would the whole, leaving the cut-off part unread; but the whole
decodes leaving nothing. -/
theorem decodeExplicitWith_prefix (short : List VR) (be : Bool) (h : ElemHeader)
    (ht : h.tag.Valid) (hg : h.tag.group ≠ 0xFFFE)
    (bs : Bytes) (n : Nat) (he : encodeExplicitWith short be h = .ok (bs, n)) (k : Nat) (hk : k < bs.length) :
    decodeExplicitWith short be (bs.take k) = none := by
  cases hp : decodeExplicitWith short be (bs.take k) with
  | none => rfl
  | some x =>
    obtain ⟨hd, m, r⟩ := x
    have whole := decodeExplicitWith_encode_mod short be h ht hg [] bs n he
    rw [List.append_nil, ← List.take_append_drop k bs, decodeExplicitWith_append _ hp] at whole
    injection whole with whole
    injection whole with _ whole
    injection whole with _ rest
    exact absurd (List.drop_eq_nil_iff.mp (List.append_eq_nil_iff.mp rest).2) (Nat.not_le.mpr hk)

@[simp] theorem encodeItemHeader_length (be : Bool) (n : Nat) : (encodeItemHeader be n).length = 8 := by
  simp [encodeItemHeader]
@[simp] theorem encodeItemDelimiter_length (be : Bool) : (encodeItemDelimiter be).length = 8 := by
  simp [encodeItemDelimiter]
@[simp] theorem encodeSeqDelimiter_length (be : Bool) : (encodeSeqDelimiter be).length = 8 := by
  simp [encodeSeqDelimiter]

theorem enc32_zero (be : Bool) : enc32 be 0 = [0, 0, 0, 0] := by cases be <;> rfl

theorem encodeItemDelimiter_eq (be : Bool) : encodeItemDelimiter be = encodeTag be Tag.itemDelim ++ enc32 be 0 := by
  rw [encodeItemDelimiter, enc32_zero]
theorem encodeSeqDelimiter_eq (be : Bool) : encodeSeqDelimiter be = encodeTag be Tag.seqDelim ++ enc32 be 0 := by
  rw [encodeSeqDelimiter, enc32_zero]

theorem decodeItemHeader_tag (be : Bool) (t : Tag) (ht : t.Valid) (len : Nat) (hl : len < 4294967296)
    (r : Bytes) :
    decodeItemHeader be (encodeTag be t ++ enc32 be len ++ r) =
      match ItemHeader.new t len with
      | .ok h => .ok (h, r)
      | .error e => .error e := by
  simp only [decodeItemHeader, List.append_assoc, decodeTag_encodeTag _ _ ht, rd32_enc32 _ _ hl]
  rfl

theorem decodeItemHeader_item (be : Bool) (len : Nat) (hl : len < 4294967296) (r : Bytes) :
    decodeItemHeader be (encodeItemHeader be len ++ r) = .ok (.item len, r) :=
  decodeItemHeader_tag be Tag.item (by decide) len hl r

theorem decodeItemHeader_itemDelim (be : Bool) (r : Bytes) :
    decodeItemHeader be (encodeItemDelimiter be ++ r) = .ok (.itemDelim, r) := by
  rw [encodeItemDelimiter_eq]
  exact decodeItemHeader_tag be Tag.itemDelim (by decide) 0 (by decide) r

theorem decodeItemHeader_seqDelim (be : Bool) (r : Bytes) :
    decodeItemHeader be (encodeSeqDelimiter be ++ r) = .ok (.seqDelim, r) := by
  rw [encodeSeqDelimiter_eq]
  exact decodeItemHeader_tag be Tag.seqDelim (by decide) 0 (by decide) r

end Dicom
