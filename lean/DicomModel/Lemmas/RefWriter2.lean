import DicomModel.Lemmas.RefWriter
/-
C02, writer side: whole trees (mutual induction over elements / items / data sets).
-/
namespace Dicom.Ref

/-! ### lengths -/

/-- PS3.5 Tables 7.1-1 to 7.1-3: 12 bytes with a 32-bit length field in explicit VR, 8 bytes otherwise -/
theorem header_length_eq (ts : Syntax) (t : Tag) (vr : VR) (len : Nat) :
    (header ts t vr len).length = if ts.explicit = true ∧ short16 vr = false then 12 else 8 := by
  cases ts <;> cases h : short16 vr <;> simp [header, tagBytes, h, Syntax.explicit]

theorem header_even (ts : Syntax) (t : Tag) (vr : VR) (len : Nat) :
    (header ts t vr len).length % 2 = 0 := by
  rw [header_length_eq]; split <;> rfl

theorem header_ge8 (ts : Syntax) (t : Tag) (vr : VR) (len : Nat) : 8 ≤ (header ts t vr len).length := by
  rw [header_length_eq]; split <;> decide

theorem itemHdr_length (be : Bool) (n : Nat) : (itemHdr be n).length = 8 := by simp [itemHdr, tagBytes]
theorem itemDelim_length (be : Bool) : (itemDelim be).length = 8 := by simp [itemDelim, tagBytes]
theorem seqDelim_length (be : Bool) : (seqDelim be).length = 8 := by simp [seqDelim, tagBytes]

/-- what follows the items of a sequence / the elements of an item -/
def seqTail (be : Bool) (len : Nat) : Bytes := if len = undefinedLen then seqDelim be else []
def itemTail (be : Bool) (len : Nat) : Bytes := if len = undefinedLen then itemDelim be else []

theorem encElem_prim_length (ts : Syntax) (t : Tag) (vr : VR) (len : Nat) (v : PValue) :
    (encElem ts (.prim t vr len v)).length = (header ts t vr len).length + (value ts.bigEndian v).length := by
  simp [encElem]

theorem encElem_seq_length (ts : Syntax) (tag : Tag) (len : Nat) (items : Items) :
    (encElem ts (.seq tag len items)).length =
      (header ts tag .SQ len).length + ((encItems ts items).length + (seqTail ts.bigEndian len).length) := by
  simp [encElem, seqTail]

theorem encElem_pix_length (ts : Syntax) (bot : List Nat) (frags : List Bytes) :
    (encElem ts (.pix bot frags)).length = (header ts Tag.pixelData .OB undefinedLen).length +
      (8 + (bot.length * 4 + ((frags.flatMap (fragment ts.bigEndian)).length + 8))) := by
  simp [encElem, itemHdr_length, seqDelim_length, flatMap_length_const (enc32 ts.bigEndian) 4]

theorem encItems_cons_length (ts : Syntax) (len : Nat) (es : Elems) (rest : Items) :
    (encItems ts (.cons len es rest)).length =
      8 + ((encElems ts es).length + ((itemTail ts.bigEndian len).length + (encItems ts rest).length)) := by
  simp [encItems, itemHdr_length, itemTail]

theorem encElems_cons_length (ts : Syntax) (e : Elem) (rest : Elems) :
    (encElems ts (.cons e rest)).length = (encElem ts e).length + (encElems ts rest).length := by
  simp [encElems]

theorem lenTrue_iff {len n : Nat} : lenTrue len n = true ↔ len = n ∧ len < 4294967295 := by
  simp [lenTrue]

/-! ### canonical sequence / item / pixel data element, unpacked -/

structure SeqOk (ts : Syntax) (dict : Tag → Option VR) (tag : Tag) (len : Nat) (items : Items) : Prop where
  tagok : tagOk tag = true
  notPix : tag ≠ Tag.pixelData
  len : len = undefinedLen ∨ (len = (encItems ts items).length ∧ len < 4294967295 ∧
      (ts.explicit = false → implicitVr dict tag = .SQ))
  items : canonItems ts dict items = true

theorem seqOk_of_canon {ts : Syntax} {dict : Tag → Option VR} {tag : Tag} {len : Nat} {items : Items}
    (h : canonElem ts dict (.seq tag len items) = true) : SeqOk ts dict tag len items := by
  simp only [canonElem, Bool.and_eq_true, Bool.or_eq_true, beq_iff_eq, bne_iff_ne, ne_eq, lenTrue_iff] at h
  obtain ⟨⟨⟨h1, h2⟩, h3⟩, h4⟩ := h
  refine ⟨h1, h2, ?_, h4⟩
  rcases h3 with h3 | ⟨⟨h3, h5⟩, h6⟩
  · exact Or.inl h3
  · refine Or.inr ⟨h3, h5, fun hx => ?_⟩
    rcases h6 with h6 | h6
    · simp [hx] at h6
    · exact h6

structure ItemOk (ts : Syntax) (dict : Tag → Option VR) (len : Nat) (es : Elems) : Prop where
  len : len = undefinedLen ∨ (len = (encElems ts es).length ∧ len < 4294967295)
  elems : canonElems ts dict es = true
  sorted : sortedElems es = true

theorem itemOk_of_canon {ts : Syntax} {dict : Tag → Option VR} {len : Nat} {es : Elems} {rest : Items}
    (h : canonItems ts dict (.cons len es rest) = true) :
    ItemOk ts dict len es ∧ canonItems ts dict rest = true := by
  simp only [canonItems, Bool.and_eq_true, Bool.or_eq_true, beq_iff_eq, lenTrue_iff] at h
  obtain ⟨⟨⟨h1, h2⟩, h3⟩, h4⟩ := h
  exact ⟨⟨h1, h2, h3⟩, h4⟩

structure PixOk (bot : List Nat) (frags : List Bytes) : Prop where
  botLen : 4 * bot.length < 4294967295
  bot : ∀ o ∈ bot, o < 4294967296
  frags : ∀ f ∈ frags, f.length % 2 = 0 ∧ f.length < 4294967295

theorem pixOk_of_canon {ts : Syntax} {dict : Tag → Option VR} {bot : List Nat} {frags : List Bytes}
    (h : canonElem ts dict (.pix bot frags) = true) : PixOk bot frags := by
  simp only [canonElem, Bool.and_eq_true, decide_eq_true_eq, List.all_eq_true, beq_iff_eq] at h
  obtain ⟨⟨h1, h2⟩, h3⟩ := h
  exact ⟨h1, h2, fun f hf => ⟨(h3 f hf).1.1, (h3 f hf).1.2⟩⟩

theorem canonElems_cons {ts : Syntax} {dict : Tag → Option VR} {e : Elem} {rest : Elems}
    (h : canonElems ts dict (.cons e rest) = true) : canonElem ts dict e = true ∧ canonElems ts dict rest = true := by
  simpa [canonElems] using h

/-! ### lengths are even -/

theorem even_add {a b : Nat} (ha : a % 2 = 0) (hb : b % 2 = 0) : (a + b) % 2 = 0 := by omega

theorem seqTail_even (be : Bool) (len : Nat) : (seqTail be len).length % 2 = 0 := by
  unfold seqTail; split <;> simp [seqDelim_length]
theorem itemTail_even (be : Bool) (len : Nat) : (itemTail be len).length % 2 = 0 := by
  unfold itemTail; split <;> simp [itemDelim_length]

theorem frags_even (be : Bool) : ∀ frags : List Bytes, (∀ f ∈ frags, f.length % 2 = 0 ∧ f.length < 4294967295) →
    (frags.flatMap (fragment be)).length % 2 = 0
  | [], _ => rfl
  | f :: r, h => by
    simp only [List.flatMap_cons, List.length_append, fragment, itemHdr_length]
    exact even_add (even_add rfl (h f List.mem_cons_self).1)
      (frags_even be r fun g hg => h g (List.mem_cons_of_mem _ hg))

mutual
theorem even_elem (ts : Syntax) (dict : Tag → Option VR) : ∀ e : Elem, canonElem ts dict e = true →
    (encElem ts e).length % 2 = 0
  | .prim t vr len v, h => by
    have p := primOk_of_canon h
    rw [encElem_prim_length, ← p.len_eq]
    exact even_add (header_even ts t vr len) p.even
  | .seq tag len items, h => by
    rw [encElem_seq_length]
    exact even_add (header_even ts tag .SQ len)
      (even_add (even_items ts dict items (seqOk_of_canon h).items) (seqTail_even _ _))
  | .pix bot frags, h => by
    rw [encElem_pix_length]
    exact even_add (header_even ts Tag.pixelData .OB undefinedLen) (even_add rfl (even_add (by omega)
      (even_add (frags_even ts.bigEndian frags (pixOk_of_canon h).frags) rfl)))
theorem even_items (ts : Syntax) (dict : Tag → Option VR) : ∀ its : Items, canonItems ts dict its = true →
    (encItems ts its).length % 2 = 0
  | .nil, _ => rfl
  | .cons len es rest, h => by
    rw [encItems_cons_length]
    exact even_add rfl (even_add (even_elems ts dict es (itemOk_of_canon h).1.elems)
      (even_add (itemTail_even _ _) (even_items ts dict rest (itemOk_of_canon h).2)))
theorem even_elems (ts : Syntax) (dict : Tag → Option VR) : ∀ es : Elems, canonElems ts dict es = true →
    (encElems ts es).length % 2 = 0
  | .nil, _ => rfl
  | .cons e rest, h => by
    rw [encElems_cons_length]
    exact even_add (even_elem ts dict e (canonElems_cons h).1) (even_elems ts dict rest (canonElems_cons h).2)
end

theorem SeqOk.lenOk {ts : Syntax} {dict : Tag → Option VR} {tag : Tag} {len : Nat} {items : Items}
    (h : SeqOk ts dict tag len items) : LenOk len := by
  rcases h.len with h1 | ⟨h1, h2, _⟩
  · exact Or.inl h1
  · exact Or.inr ⟨by rw [h1]; exact even_items ts dict items h.items, h2⟩

theorem ItemOk.lenOk {ts : Syntax} {dict : Tag → Option VR} {len : Nat} {es : Elems}
    (h : ItemOk ts dict len es) : LenOk len := by
  rcases h.len with h1 | ⟨h1, h2⟩
  · exact Or.inl h1
  · exact Or.inr ⟨by rw [h1]; exact even_elems ts dict es h.elems, h2⟩

/-! ### a primitive element -/

theorem prim_tokens {ts : Syntax} {dict : Tag → Option VR} {t : Tag} {vr : VR} {len : Nat} {v : PValue}
    (h : PrimOk ts dict t vr len v) :
    Elem.tokens (.prim t vr len v) = [.elementHeader ⟨t, vr, len⟩, .primitiveValue v] := by
  simp [Elem.tokens, len_ne_undef h.len_lt, h.notSq]

/-- the OW/U8 re-packing arm of `encode_primitive_element` (there since fix 457c39a of dicom-rs) is inert on canonical values: a `u8` list fits UN and OB only -/
theorem owWords_primOk {ts : Syntax} {dict : Tag → Option VR} {t : Tag} {vr : VR} {len : Nat} {v : PValue}
    (h : PrimOk ts dict t vr len v) : owWords vr v = v := by
  cases v with
  | u8 l =>
    have hf := h.fits
    split at hf
    · cases hf
    · rcases (valueFits_inv hf).1 with rfl | rfl <;> rfl
  | _ => rfl

theorem writes_prim {ts : Syntax} {dict : Tag → Option VR} {t : Tag} {vr : VR} {len : Nat} {v : PValue}
    (h : PrimOk ts dict t vr len v) (w : Writer) (hts : w.enc.ts = ts) :
    Writes w (Elem.tokens (.prim t vr len v)) (encElem ts (.prim t vr len v)) := by
  obtain ⟨e', he, ha⟩ := enc_primitive w.enc hts h
  rw [prim_tokens h]
  obtain ⟨enc, st, lde, strat⟩ := w
  -- writing the value clears `last_de`
  refine ⟨⟨e', st, none, strat⟩, ?_, ?_⟩
  · simp only [Writer.writeAll, Writer.write, Writer.writeImpl]
    simp only at he
    simp only [Enc.encodePrimitiveElement, owWords_primOk h, he]
  · exact ⟨by simpa [encElem] using ha.1, ha.2, rfl, rfl⟩

/-! ### encapsulated pixel data -/

/-- the writer remembers the Pixel Data header (`last_de`) -/
def PixW (w : Writer) : Prop := ∃ h, w.lastDe = some h ∧ h.isEncapsulatedPixeldata = true

theorem PixW.of_eq {w w' : Writer} (hp : PixW w) (h : w'.lastDe = w.lastDe) : PixW w' :=
  hp.imp fun _ hp => ⟨h.trans hp.1, hp.2⟩

theorem write_pixStart {ts : Syntax} (w : Writer) (hts : w.enc.ts = ts) :
    WritesTo PixW w [.pixelSequenceStart] (header ts Tag.pixelData .OB undefinedLen)
      (⟨false, undefinedLen⟩ :: w.seqTokens) := by
  subst hts
  obtain ⟨enc, st, lde, strat⟩ := w
  have hh := enc_elementHeader enc Tag.pixelData .OB undefinedLen (Or.inl rfl) (by simp [short16_OB])
  apply WritesTo.of_write
  simp only [Writer.write, Writer.writeImpl, hh]
  exact ⟨_, rfl, ⟨rfl, rfl, rfl, rfl⟩, ⟨_, rfl, by decide⟩⟩

theorem write_pixItemStart {ts : Syntax} (w : Writer) (hts : w.enc.ts = ts) (hp : PixW w) (n : Nat)
    (h1 : n % 2 = 0) (h2 : n < 4294967295) :
    WritesTo PixW w [.itemStart n] (itemHdr ts.bigEndian n) (⟨true, n⟩ :: w.seqTokens) := by
  subst hts
  obtain ⟨enc, st, lde, strat⟩ := w
  obtain ⟨h, hl, hpx⟩ := hp
  simp only at hl
  subst hl
  have hh := enc_itemHeader enc n (Or.inr ⟨h1, h2⟩)
  apply WritesTo.of_write
  cases strat
  · simp only [Writer.write, Writer.writeImpl, Option.map_some, Option.getD_some, hpx, if_true, hh]
    exact ⟨_, rfl, ⟨rfl, rfl, rfl, rfl⟩, ⟨h, rfl, hpx⟩⟩
  · simp only [Writer.write, Writer.writeImpl, hh]
    exact ⟨_, rfl, ⟨rfl, rfl, rfl, rfl⟩, ⟨h, rfl, hpx⟩⟩

theorem write_offsetTable {ts : Syntax} (w : Writer) (hts : w.enc.ts = ts) (hp : PixW w) (bot : List Nat) :
    WritesTo PixW w [.offsetTable bot] (bot.flatMap (enc32 ts.bigEndian)) w.seqTokens := by
  subst hts
  obtain ⟨enc, st, lde, strat⟩ := w
  apply WritesTo.of_write
  simp only [Writer.write, Writer.writeImpl]
  exact ⟨_, rfl, ⟨rfl, rfl, rfl, rfl⟩, hp⟩

theorem write_itemValue (w : Writer) (hp : PixW w) (f : Bytes) (h1 : f.length % 2 = 0) :
    WritesTo PixW w [.itemValue f] f w.seqTokens := by
  obtain ⟨enc, st, lde, strat⟩ := w
  have : ¬ (f.length % 2 ≠ 0) := by omega
  apply WritesTo.of_write
  simp only [Writer.write, Writer.writeImpl, Enc.writeBytes, this, if_false]
  exact ⟨_, rfl, ⟨rfl, rfl, rfl, rfl⟩, hp⟩

/-- header, at most one token of content, and an `ItemEnd` that writes nothing (the length is defined) -/
theorem writes_pixItem {ts : Syntax} (w : Writer) (hts : w.enc.ts = ts) (hp : PixW w) (n : Nat)
    (h1 : n % 2 = 0) (h2 : n < 4294967295) (mid : List Token) (bs : Bytes)
    (hmid : ∀ w1 : Writer, w1.enc.ts = ts → PixW w1 → WritesTo PixW w1 mid bs w1.seqTokens) :
    WritesTo PixW w (.itemStart n :: (mid ++ [.itemEnd])) (itemHdr ts.bigEndian n ++ bs) w.seqTokens := by
  have all := (write_pixItemStart w hts hp n h1 h2).append fun w1 s1 p1 =>
    ((hmid w1 (s1.ts.trans hts) p1).stack s1.stack).append fun w2 s2 p2 =>
      write_itemEnd w2 (s2.ts.trans (s1.ts.trans hts)) n w.seqTokens s2.stack fun _ => p2.of_eq
  simpa [len_ne_undef h2] using all

theorem writes_bot {ts : Syntax} (w : Writer) (hts : w.enc.ts = ts) (hp : PixW w) (bot : List Nat)
    (hb : 4 * bot.length < 4294967295) :
    WritesTo PixW w (botTokens bot) (itemHdr ts.bigEndian (4 * bot.length) ++ bot.flatMap (enc32 ts.bigEndian))
      w.seqTokens := by
  have hm : bot.length * 4 % 4294967296 = bot.length * 4 := Nat.mod_eq_of_lt (by omega)
  unfold botTokens
  rw [hm, Nat.mul_comm bot.length 4]
  cases bot with
  | nil => exact writes_pixItem w hts hp 0 rfl (by decide) [] [] fun _ _ => .nil
  | cons a r =>
    rw [if_neg (by simp)]
    exact writes_pixItem w hts hp _ (by omega) hb [.offsetTable (a :: r)] _ fun w1 t1 p1 =>
      write_offsetTable w1 t1 p1 _

theorem writes_frag {ts : Syntax} (w : Writer) (hts : w.enc.ts = ts) (hp : PixW w) (f : Bytes)
    (h1 : f.length % 2 = 0) (h2 : f.length < 4294967295) :
    WritesTo PixW w (fragTokens f) (fragment ts.bigEndian f) w.seqTokens := by
  unfold fragTokens fragment
  cases f with
  | nil => exact writes_pixItem w hts hp 0 rfl (by decide) [] [] fun _ _ => .nil
  | cons a r =>
    have hm : (a :: r).length % 4294967296 = (a :: r).length := Nat.mod_eq_of_lt (by omega)
    rw [if_neg (by simp), hm]
    exact writes_pixItem w hts hp _ h1 h2 [.itemValue (a :: r)] _ fun w1 _ p1 => write_itemValue w1 p1 _ h1

theorem writes_frags {ts : Syntax} : ∀ (frags : List Bytes) (w : Writer), w.enc.ts = ts → PixW w →
    (∀ f ∈ frags, f.length % 2 = 0 ∧ f.length < 4294967295) →
    WritesTo PixW w (frags.flatMap fragTokens) (frags.flatMap (fragment ts.bigEndian)) w.seqTokens
  | [], _, _, hp, _ => .nil hp
  | f :: r, w, hts, hp, hf => by
    have all := (writes_frag w hts hp f (hf f (by simp)).1 (hf f (by simp)).2).append fun w1 s1 p1 =>
      (writes_frags r w1 (s1.ts.trans hts) p1 fun g hg => hf g (by simp [hg])).stack s1.stack
    simpa [List.flatMap_cons] using all

theorem writes_pix {ts : Syntax} {bot : List Nat} {frags : List Bytes} (h : PixOk bot frags)
    (w : Writer) (hts : w.enc.ts = ts) :
    Writes w (Elem.tokens (.pix bot frags)) (encElem ts (.pix bot frags)) := by
  have all := (write_pixStart w hts).append fun w1 s1 p1 =>
    ((writes_bot w1 (s1.ts.trans hts) p1 bot h.botLen).stack s1.stack).append fun w2 s2 p2 =>
      ((writes_frags frags w2 (s2.ts.trans (s1.ts.trans hts)) p2 h.frags).stack s2.stack).append fun w3 s3 _ =>
        write_seqEnd w3 (s3.ts.trans (s2.ts.trans (s1.ts.trans hts))) undefinedLen w.seqTokens s3.stack
  exact WritesTo.writes (by simpa [Elem.tokens, encElem, List.append_assoc] using all)

/-! ### whole trees -/

theorem allUndef_seq {tag : Tag} {len : Nat} {items : Items} (h : allUndefElem (.seq tag len items) = true) :
    len = undefinedLen ∧ allUndefItems items = true := by
  simpa [allUndefElem] using h

theorem allUndef_item {len : Nat} {es : Elems} {rest : Items} (h : allUndefItems (.cons len es rest) = true) :
    len = undefinedLen ∧ allUndefElems es = true ∧ allUndefItems rest = true := by
  simp only [allUndefItems, Bool.and_eq_true, beq_iff_eq] at h
  exact ⟨h.1.1, h.1.2, h.2⟩

/-- `u`: every length in the subtree is undefined -/
abbrev WritesRef (ts : Syntax) (toks : List Token) (bs : Bytes) (u : Prop) : Prop :=
  ∀ (w : Writer), w.enc.ts = ts → (w.strat = .noChange ∨ u) → Writes w toks bs

theorem writes_seq {ts : Syntax} {dict : Tag → Option VR} {tag : Tag} {len : Nat} {items : Items}
    (ok : SeqOk ts dict tag len items)
    (ih : WritesRef ts items.tokens (encItems ts items) (allUndefItems items = true)) :
    WritesRef ts (Elem.tokens (.seq tag len items)) (encElem ts (.seq tag len items))
      (allUndefElem (.seq tag len items) = true) := by
  intro w hts hs
  have all := (write_seqStart w hts tag len (hs.imp id fun h => (allUndef_seq h).1) ok.lenOk).append fun w1 s1 _ =>
    ((ih w1 (s1.ts.trans hts) (hs.imp s1.strat.trans fun h => (allUndef_seq h).2)).to.stack s1.stack).append
      fun w2 s2 _ => write_seqEnd w2 (s2.ts.trans (s1.ts.trans hts)) len w.seqTokens s2.stack
  exact WritesTo.writes (by simpa [Elem.tokens, encElem] using all)

theorem writes_item {ts : Syntax} {dict : Tag → Option VR} {len : Nat} {es : Elems} {rest : Items}
    (ok : ItemOk ts dict len es)
    (ih1 : WritesRef ts es.tokens (encElems ts es) (allUndefElems es = true))
    (ih2 : WritesRef ts rest.tokens (encItems ts rest) (allUndefItems rest = true)) :
    WritesRef ts (Items.tokens (.cons len es rest)) (encItems ts (.cons len es rest))
      (allUndefItems (.cons len es rest) = true) := by
  intro w hts hs
  have all := (write_itemStart w hts len (hs.imp id fun h => (allUndef_item h).1) ok.lenOk).append fun w1 s1 _ =>
    ((ih1 w1 (s1.ts.trans hts) (hs.imp s1.strat.trans fun h => (allUndef_item h).2.1)).to.stack s1.stack).append
      fun w2 s2 _ =>
    (write_itemEnd w2 (s2.ts.trans (s1.ts.trans hts)) len w.seqTokens s2.stack fun _ _ => trivial).append
      fun w3 s3 _ =>
    (ih2 w3 (s3.ts.trans (s2.ts.trans (s1.ts.trans hts)))
      (hs.imp (s3.strat.trans (s2.strat.trans s1.strat)).trans fun h => (allUndef_item h).2.2)).to.stack s3.stack
  exact WritesTo.writes (by simpa [Items.tokens, encItems] using all)

theorem writes_cons {ts : Syntax} {e : Elem} {rest : Elems}
    (ih1 : WritesRef ts e.tokens (encElem ts e) (allUndefElem e = true))
    (ih2 : WritesRef ts rest.tokens (encElems ts rest) (allUndefElems rest = true)) :
    WritesRef ts (Elems.tokens (.cons e rest)) (encElems ts (.cons e rest)) (allUndefElems (.cons e rest) = true) := by
  intro w hts hs
  have hu : allUndefElems (.cons e rest) = true → allUndefElem e = true ∧ allUndefElems rest = true := fun h => by
    simpa [allUndefElems] using h
  have h1 := ih1 w hts (hs.imp id (fun h => (hu h).1))
  have h2 : ∀ w' : Writer, w'.enc.ts = w.enc.ts → w'.strat = w.strat → w'.seqTokens = w.seqTokens →
      Writes w' rest.tokens (encElems ts rest) := fun w' a b _ =>
    ih2 w' (a.trans hts) (hs.imp (fun h => b.trans h) (fun h => (hu h).2))
  simpa [Elems.tokens, encElems] using h1.append h2

mutual
/-- one element: its tokens make the writer append exactly its reference encoding -/
theorem writes_elem (ts : Syntax) (dict : Tag → Option VR) : ∀ (e : Elem), canonElem ts dict e = true →
    ∀ (w : Writer), w.enc.ts = ts → (w.strat = .noChange ∨ allUndefElem e = true) →
    Writes w e.tokens (encElem ts e)
  | .prim _ _ _ _, hc => fun w hts _ => writes_prim (primOk_of_canon hc) w hts
  | .pix _ _, hc => fun w hts _ => writes_pix (pixOk_of_canon hc) w hts
  | .seq _ _ items, hc => writes_seq (seqOk_of_canon hc) (writes_items ts dict items (seqOk_of_canon hc).items)
theorem writes_items (ts : Syntax) (dict : Tag → Option VR) : ∀ (its : Items), canonItems ts dict its = true →
    ∀ (w : Writer), w.enc.ts = ts → (w.strat = .noChange ∨ allUndefItems its = true) →
    Writes w its.tokens (encItems ts its)
  | .nil, _ => fun w _ _ => Writes.nil w
  | .cons _ es rest, hc =>
    writes_item (itemOk_of_canon hc).1 (writes_elems ts dict es (itemOk_of_canon hc).1.elems)
      (writes_items ts dict rest (itemOk_of_canon hc).2)
theorem writes_elems (ts : Syntax) (dict : Tag → Option VR) : ∀ (es : Elems), canonElems ts dict es = true →
    WritesRef ts es.tokens (encElems ts es) (allUndefElems es = true)
  | .nil, _ => fun w _ _ => Writes.nil w
  | .cons e rest, hc =>
    writes_cons (writes_elem ts dict e (canonElems_cons hc).1) (writes_elems ts dict rest (canonElems_cons hc).2)
end

/-- the writer model on a canonical tree -/
theorem writeDataset_ref (ts : Syntax) (dict : Tag → Option VR) (strat : Strategy) (t : Elems)
    (hc : canonElems ts dict t = true) (hs : strat = .noChange ∨ allUndefElems t = true) :
    writeDataset ts strat t = .ok (encElems ts t) := by
  obtain ⟨w', e, s⟩ := writes_elems ts dict t hc (Writer.new ts strat) rfl hs
  unfold writeDataset
  rw [e]
  have : w'.enc.out = encElems ts t := by simpa [Writer.new, Enc.new] using s.out
  simp [this]

end Dicom.Ref
