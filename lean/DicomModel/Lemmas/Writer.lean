import DicomModel.Model.Writer
/-
The data set writer state machine equals a structurally recursive writer, for trees of any depth
(default strategy `SetUndefined`).
-/
namespace Dicom

/-- `Except.bind` spelled out (core `Except` has no simp lemmas we rely on) -/
def exBind {ε α β : Type} (x : Except ε α) (f : α → Except ε β) : Except ε β :=
  match x with
  | .ok a => f a
  | .error e => .error e

theorem writeAll_append (a b : List Token) : ∀ (w : Writer),
    w.writeAll (a ++ b) = exBind (w.writeAll a) (fun w' => w'.writeAll b) := by
  induction a with
  | nil => intro w; rfl
  | cons t r ih =>
    intro w
    simp only [List.cons_append, Writer.writeAll]
    cases h : w.write t with
    | ok w1 => simp only [ih w1]
    | error e => rfl

/-- offset table item as written under `SetUndefined` (fragment items keep their defined length) -/
def recBot (e : Enc) (bot : List Nat) : Enc :=
  if bot.length * 4 % 4294967296 = 0 then e.itemHeader 0
  else (e.itemHeader (bot.length * 4 % 4294967296)).offsetTable bot

def recFrag (e : Enc) (f : Bytes) : Enc :=
  if f.isEmpty then e.itemHeader 0 else (e.itemHeader (f.length % 4294967296)).writeBytes f

def recFrags (e : Enc) : List Bytes → Enc
  | [] => e
  | f :: r => recFrags (recFrag e f) r

mutual
/-- the recursive writer: every sequence and item with undefined length and its delimiter -/
def recElem (e : Enc) : Elem → Except WErr Enc
  | .prim tag vr len v => e.encodePrimitiveElement ⟨tag, vr, len⟩ v
  | .seq tag _ items =>
    exBind (e.elementHeader ⟨tag, .SQ, undefinedLen⟩) fun e1 =>
    exBind (recItems e1 items) fun e2 => .ok e2.seqDelimiter
  | .pix bot frags =>
    exBind (e.elementHeader ⟨Tag.pixelData, .OB, undefinedLen⟩) fun e1 =>
    .ok (recFrags (recBot e1 bot) frags).seqDelimiter
def recItems (e : Enc) : Items → Except WErr Enc
  | .nil => .ok e
  | .cons _ elems rest =>
    exBind (recElems (e.itemHeader undefinedLen) elems) fun e1 => recItems e1.itemDelimiter rest
def recElems (e : Enc) : Elems → Except WErr Enc
  | .nil => .ok e
  | .cons el rest => exBind (recElem e el) fun e1 => recElems e1 rest
end

mutual
/-- well-formed for the token generator: a primitive element is neither of VR SQ nor an
undefined-length OB Pixel Data header (those need a sequence value); fragments are shorter than 4 GiB - 1 -/
def Elem.WF : Elem → Prop
  | .prim tag vr len _ => vr ≠ .SQ ∧ ¬ (vr = .OB ∧ tag = Tag.pixelData ∧ len = undefinedLen)
  | .seq _ _ items => items.WF
  | .pix _ frags => ∀ f ∈ frags, f.length < 4294967295
def Items.WF : Items → Prop
  | .nil => True
  | .cons _ elems rest => elems.WF ∧ rest.WF
def Elems.WF : Elems → Prop
  | .nil => True
  | .cons e rest => e.WF ∧ rest.WF
end

def pixHdr : ElemHeader := ⟨Tag.pixelData, .OB, undefinedLen⟩

/-- the fragment items of a pixel sequence under either strategy (`SetUndefined` needs the pixel header
in `last_de`, which is where the writer keeps it) -/
theorem frag_run (f : Bytes) (hf : f.length < 4294967295) (w : Writer)
    (hs : w.strat = .noChange ∨ w.lastDe = some pixHdr) :
    w.writeAll (fragTokens f) = .ok { w with enc := recFrag w.enc f } := by
  have hu : f.length % 4294967296 ≠ 4294967295 := by omega
  obtain ⟨enc, st, ld, sr⟩ := w
  unfold fragTokens recFrag
  rcases hs with hs | hs <;> simp only at hs <;> subst hs
  · split <;> simp [Writer.writeAll, Writer.write, Writer.writeImpl, undefinedLen, *]
  · cases sr <;> split <;>
      simp [Writer.writeAll, Writer.write, Writer.writeImpl, pixHdr, ElemHeader.isEncapsulatedPixeldata,
        undefinedLen, *]

theorem frags_run : ∀ (frags : List Bytes), (∀ f ∈ frags, f.length < 4294967295) → ∀ (w : Writer),
    (w.strat = .noChange ∨ w.lastDe = some pixHdr) →
    w.writeAll (frags.flatMap fragTokens) = .ok { w with enc := recFrags w.enc frags }
  | [], _, w, _ => rfl
  | f :: r, hf, w, hs => by
    rw [List.flatMap_cons, writeAll_append, frag_run f (hf f (by simp)) w hs]
    simp only [exBind]
    have := frags_run r (fun x hx => hf x (by simp [hx])) { w with enc := recFrag w.enc f } hs
    rw [this]
    rfl

theorem bot_run (bot : List Nat) (w : Writer) (hs : w.strat = .noChange ∨ w.lastDe = some pixHdr) :
    w.writeAll (botTokens bot) = .ok { w with enc := recBot w.enc bot } := by
  have hu : bot.length * 4 % 4294967296 ≠ 4294967295 := by omega
  obtain ⟨enc, st, ld, sr⟩ := w
  unfold botTokens recBot
  rcases hs with hs | hs <;> simp only at hs <;> subst hs
  · split <;> simp [Writer.writeAll, Writer.write, Writer.writeImpl, undefinedLen, *]
  · cases sr <;> split <;>
      simp [Writer.writeAll, Writer.write, Writer.writeImpl, pixHdr, ElemHeader.isEncapsulatedPixeldata,
        undefinedLen, *]

/-- the writer between two elements: no pending header, default strategy -/
abbrev idle (enc : Enc) (st : List SeqTok) : Writer := Writer.mk enc st none .setUndefined

mutual
/-- **the state machine writer = the recursive writer** -/
theorem writeAll_elem : ∀ (el : Elem), el.WF → ∀ (enc : Enc) (st : List SeqTok),
    (idle enc st).writeAll el.tokens = exBind (recElem enc el) (fun e' => .ok (idle e' st))
  | .prim tag vr len v, hwf, enc, st => by
    obtain ⟨h1, h2⟩ := hwf
    simp only [Elem.tokens, h1, h2, if_false, Writer.writeAll, Writer.write, Writer.writeImpl, recElem, idle]
    cases enc.encodePrimitiveElement ⟨tag, vr, len⟩ v <;> rfl
  | .seq tag len items, hwf, enc, st => by
    simp only [Elem.tokens, Writer.writeAll, Writer.write, Writer.writeImpl, recElem, idle]
    cases h : enc.elementHeader ⟨tag, .SQ, undefinedLen⟩ with
    | error x => rfl
    | ok e1 =>
      simp only [exBind]
      rw [writeAll_append]
      rw [writeAll_items items hwf e1 (⟨false, undefinedLen⟩ :: st)]
      cases h2 : recItems e1 items with
      | error x => rfl
      | ok e2 =>
        simp [exBind, Writer.writeAll, Writer.write, Writer.writeImpl]
  | .pix bot frags, hwf, enc, st => by
    simp only [Elem.tokens, Writer.writeAll, Writer.write, Writer.writeImpl, recElem, idle]
    cases h : enc.elementHeader ⟨Tag.pixelData, .OB, undefinedLen⟩ with
    | error x => rfl
    | ok e1 =>
      simp only [exBind]
      rw [List.append_assoc, writeAll_append]
      rw [bot_run bot _ (.inr rfl)]
      simp only [exBind]
      rw [writeAll_append, frags_run frags hwf _ (.inr rfl)]
      simp [exBind, Writer.writeAll, Writer.write, Writer.writeImpl]
theorem writeAll_items : ∀ (its : Items), its.WF → ∀ (enc : Enc) (st : List SeqTok),
    (idle enc st).writeAll its.tokens = exBind (recItems enc its) (fun e' => .ok (idle e' st))
  | .nil, _, enc, st => rfl
  | .cons len elems rest, hwf, enc, st => by
    simp only [Items.tokens, Writer.writeAll, Writer.write, Writer.writeImpl, recItems, idle,
      Option.map_none, Option.getD_none, Bool.false_eq_true, if_false]
    rw [writeAll_append]
    rw [writeAll_elems elems hwf.1 (enc.itemHeader undefinedLen) (⟨true, undefinedLen⟩ :: st)]
    cases h2 : recElems (enc.itemHeader undefinedLen) elems with
    | error x => rfl
    | ok e2 =>
      simp only [exBind, Writer.writeAll, Writer.write, Writer.writeImpl, true_and, if_true]
      rw [writeAll_items rest hwf.2 e2.itemDelimiter st]
      cases recItems e2.itemDelimiter rest <;> rfl
theorem writeAll_elems : ∀ (es : Elems), es.WF → ∀ (enc : Enc) (st : List SeqTok),
    (idle enc st).writeAll es.tokens = exBind (recElems enc es) (fun e' => .ok (idle e' st))
  | .nil, _, enc, st => rfl
  | .cons e rest, hwf, enc, st => by
    simp only [Elems.tokens, recElems]
    rw [writeAll_append, writeAll_elem e hwf.1 enc st]
    cases h : recElem enc e with
    | error x => rfl
    | ok e1 =>
      simp only [exBind]
      rw [writeAll_elems rest hwf.2 e1 st]
      cases recElems e1 rest <;> rfl
end

/-- **`write_dataset` = the recursive writer** for every well-formed tree of any depth (default strategy) -/
theorem writeDataset_eq_rec (ts : Syntax) (t : Elems) (hwf : t.WF) :
    writeDataset ts .setUndefined t = exBind (recElems (Enc.new ts) t) (fun e => .ok e.out) := by
  unfold writeDataset
  rw [show Writer.new ts .setUndefined = idle (Enc.new ts) [] from rfl, writeAll_elems t hwf]
  cases recElems (Enc.new ts) t <;> rfl

end Dicom
