import DicomModel.Lemmas.NormKeep
/-
With consistent recorded lengths the length-keeping normal form is canonical (any depth); `C01.tree_rt_nochange`
concludes from this that the NoChange writer emits its reference encoding and the reader returns it.
-/
namespace Dicom.Norm
open Dicom.C04 Dicom.Ref

theorem sortedElems_keep (ts : Syntax) (es : Elems) : sortedElems (keepElems ts es) = sortedElems es :=
  sortedElems_map rfl (fun _ _ => rfl) (fun e => by cases e <;> rfl) es

mutual
theorem canon_keep_elem (ts : Syntax) (dict : Tag → Option VR) : ∀ (e : Elem), WfElem ts dict e →
    LenOkElem ts dict e → canonElem ts dict (keepElem ts e) = true
  | .prim tag vr len v, h, _ => (canon_norm_elem ts dict (.prim tag vr len v) h).1
  | .pix bot frags, h, _ => (canon_norm_elem ts dict (.pix bot frags) h).1
  | .seq tag len items, h, hl => by
    obtain ⟨htag, hpx, hit⟩ := h
    obtain ⟨hlen, hli⟩ := hl
    have c := canon_keep_items ts dict items hit hli
    simp only [keepElem, canonElem, Bool.and_eq_true]
    refine ⟨⟨⟨htag, by simp [hpx]⟩, ?_⟩, c⟩
    rcases hlen with h1 | ⟨h1, h2, h3⟩
    · simp [h1]
    · have : lenTrue len (encItems ts (keepItems ts items)).length = true := by
        unfold lenTrue; simp [← h1, h2]
      rcases h3 with h3 | h3
      · simp [this, h3]
      · simp [this, h3]
theorem canon_keep_items (ts : Syntax) (dict : Tag → Option VR) : ∀ (its : Items), WfItems ts dict its →
    LenOkItems ts dict its → canonItems ts dict (keepItems ts its) = true
  | .nil, _, _ => rfl
  | .cons len es r, h, hl => by
    obtain ⟨hlen, hle, hlr⟩ := hl
    have c1 := canon_keep_elems ts dict es h.1 hle
    have c2 := canon_keep_items ts dict r h.2.2 hlr
    have hs : sortedElems (keepElems ts es) = true := by rw [sortedElems_keep]; exact h.2.1
    have hl' : (len == undefinedLen || lenTrue len (encElems ts (keepElems ts es)).length) = true := by
      rcases hlen with h1 | ⟨h1, h2⟩
      · simp [h1]
      · unfold lenTrue; simp [← h1, h2]
    simp only [keepItems, canonItems, Bool.and_eq_true]
    exact ⟨⟨⟨hl', c1⟩, hs⟩, c2⟩
theorem canon_keep_elems (ts : Syntax) (dict : Tag → Option VR) : ∀ (es : Elems), WfElems ts dict es →
    LenOkElems ts dict es → canonElems ts dict (keepElems ts es) = true
  | .nil, _, _ => rfl
  | .cons e r, h, hl => by
    have c1 := canon_keep_elem ts dict e h.1 hl.1
    have c2 := canon_keep_elems ts dict r h.2 hl.2
    simp [keepElems, canonElems, c1, c2]
end

end Dicom.Norm
