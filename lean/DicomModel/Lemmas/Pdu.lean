import DicomModel.Model.Pdu
import DicomModel.Lemmas.Bytes
/-
Lemmas about the PDU model (`Model/Pdu.lean`): what a successful write looks like, that each written
item, list and body reads back as its normal form, and the framing of `readPdu` around `readBody`.
-/
namespace Dicom.Pdu

@[simp] theorem Res.bind_eq {α β : Type} (x : Res α) (f : α → Res β) : x >>= f = Res.bind x f := rfl
@[simp] theorem Res.pure_eq {α : Type} (a : α) : (pure a : Res α) = Res.ok a := rfl
@[simp] theorem Res.bind_ok {α β : Type} (a : α) (f : α → Res β) : Res.bind (.ok a) f = f a := rfl
@[simp] theorem Res.bind_inc {α β : Type} (f : α → Res β) : Res.bind (.inc) f = .inc := rfl
@[simp] theorem Res.bind_err {α β : Type} (e : RErr) (f : α → Res β) : Res.bind (.err e) f = .err e := rfl

theorem be16_val (n : Nat) (h : n < 65536) : 256 * (n / 256 % 256) + n % 256 = n := by omega

theorem subHeader_item (t n : Nat) (h : n < 65536) (r : Bytes) :
    subHeader (t :: 0 :: (be16 n ++ r)) = .ok (t, n, r) := by
  simp [subHeader, u8I, u16I, be16, be16_val n h]

theorem takeI_append (a r : Bytes) : takeI a.length (a ++ r) = .ok (a, r) := by
  simp [takeI]

theorem takeP_append (a r : Bytes) : takeP a.length (a ++ r) = .ok (a, r) := by
  simp [takeP]

theorem u16I_be16 (n : Nat) (h : n < 65536) (r : Bytes) : u16I (be16 n ++ r) = .ok (n, r) := by
  simp [u16I, be16, be16_val n h]

theorem be32_val (n : Nat) (h : n < 4294967296) :
    16777216 * (n / 16777216 % 256) + 65536 * (n / 65536 % 256) + 256 * (n / 256 % 256) + n % 256 = n := by
  omega

theorem u32I_be32 (n : Nat) (h : n < 4294967296) (r : Bytes) : u32I (be32 n ++ r) = .ok (n, r) := by
  simp [u32I, be32, be32_val n h]

theorem u32P_be32 (n : Nat) (h : n < 4294967296) (r : Bytes) : u32P (be32 n ++ r) = .ok (n, r) := by
  simp [u32P, be32, be32_val n h]

theorem wcat_ok {a b : W} {z : Bytes} :
    wcat a b = .ok z ↔ ∃ x y, a = .ok x ∧ b = .ok y ∧ z = x ++ y := by
  cases a <;> cases b <;> simp [wcat, eq_comm]

theorem chunk16_ok {d : W} {z : Bytes} :
    chunk16 d = .ok z ↔ ∃ c, d = .ok c ∧ c.length ≤ 65535 ∧ z = be16 c.length ++ c := by
  cases d with
  | error e => simp [chunk16]
  | ok c => by_cases h : c.length ≤ 65535 <;> simp [chunk16, h, eq_comm]

abbrev item (t : Nat) (c : Bytes) : Bytes := t :: 0 :: (be16 c.length ++ c)

theorem item16_ok {t : Nat} {d : W} {z : Bytes} :
    item16 t d = .ok z ↔ ∃ c, d = .ok c ∧ c.length ≤ 65535 ∧ z = item t c := by
  cases d with
  | error e => simp [item16, chunk16]
  | ok c => by_cases h : c.length ≤ 65535 <;> simp [item16, chunk16, h, eq_comm]

theorem encodeText_ok {s : Str} {b : Bytes} :
    encodeText s = .ok b ↔ (∀ c ∈ s, c < 256) ∧ b = s := by
  unfold encodeText
  by_cases h : s.all (· < 256) = true
  · simp [h, eq_comm]; intro _; simpa using h
  · simp [h]; intro h'; exfalso; apply h; simpa using h'
/-- the shape of all the list writers of the model: each element with `f`, one after the other -/
structure WritesEach {α : Type} (f : α → W) (w : List α → W) : Prop where
  nil : w [] = .ok []
  cons : ∀ v r, w (v :: r) = wcat (f v) (w r)

theorem writeTsList_each :
    WritesEach (fun ts => item16 Gen.wSubProposed_TransferSyntax (encodeText ts)) writeTsList :=
  ⟨rfl, fun _ _ => rfl⟩

theorem writeUserVarList_each : WritesEach writeUserVar writeUserVarList := ⟨rfl, fun _ _ => rfl⟩

theorem writePcProposedList_each : WritesEach writePcProposed writePcProposedList := ⟨rfl, fun _ _ => rfl⟩

theorem writePcResultList_each : WritesEach writePcResult writePcResultList := ⟨rfl, fun _ _ => rfl⟩

theorem writePdvList_each : WritesEach writePdv writePdvList := ⟨rfl, fun _ _ => rfl⟩

namespace WritesEach
variable {α : Type} {f : α → W} {w : List α → W}


theorem ok_induction (h : WritesEach f w) {motive : List α → Bytes → Prop} (nil : motive [] [])
    (cons : ∀ v vs x y, f v = .ok x → w vs = .ok y → motive vs y → motive (v :: vs) (x ++ y)) :
    ∀ vs b, w vs = .ok b → motive vs b
  | [], b, hw => by
    rw [h.nil] at hw
    cases hw
    exact nil
  | v :: vs, b, hw => by
    rw [h.cons] at hw
    obtain ⟨x, y, hx, hy, rfl⟩ := wcat_ok.1 hw
    exact cons v vs x y hx hy (ok_induction h nil cons vs y hy)


theorem sizes_of_ok (h : WritesEach f w) {l : α → Nat} {L : List α → Nat} {P : α → Prop} (h0 : L [] = 0)
    (hc : ∀ v r, L (v :: r) = l v + L r) (hf : ∀ v x, f v = .ok x → x.length = l v ∧ P v) :
    ∀ vs b, w vs = .ok b → b.length = L vs ∧ ∀ v ∈ vs, P v :=
  h.ok_induction ⟨h0.symm, nofun⟩ fun v vs x y hx _ ⟨h3, h4⟩ =>
    have ⟨h1, h2⟩ := hf v x hx
    ⟨by rw [List.length_append, hc, h1, h3], List.forall_mem_cons.2 ⟨h2, h4⟩⟩


theorem ok_of_each (h : WritesEach f w) : ∀ vs, (∀ v ∈ vs, ∃ x, f v = .ok x) → ∃ b, w vs = .ok b
  | [], _ => ⟨[], h.nil⟩
  | v :: vs, hf => by
    obtain ⟨x, hx⟩ := hf v (by simp)
    obtain ⟨y, hy⟩ := ok_of_each h vs fun u hu => hf u (by simp [hu])
    exact ⟨x ++ y, by rw [h.cons]; exact wcat_ok.2 ⟨x, y, hx, hy, rfl⟩⟩

end WritesEach

theorem b2n_ne_zero (b : Bool) : (b2n b != 0) = b := by cases b <;> rfl

theorem b2n_beq_one (b : Bool) : (b2n b == 1) = b := by cases b <;> rfl

theorem IdType.ofCode_code (t : IdType) : IdType.ofCode t.code = some t := by cases t <;> rfl

/-! A user variable as the writer lays it out: one item of type `uvType v` with content `uvContent v`;
`uvText v` is the text the codec has to encode. -/

def uvType : UserVar → Nat
  | .maxLength _ => Gen.wUser_MaxLength
  | .implVersionName _ => Gen.wUser_ImplementationVersionName
  | .implClassUid _ => Gen.wUser_ImplementationClassUID
  | .roleSelection _ _ _ => Gen.wUser_ScuScpRoleSelectionSubItem
  | .sopClassExt _ _ => Gen.wUser_SopClassExtendedNegotiationSubItem
  | .userIdentity _ => Gen.wUser_UserIdentityItem
  | .unknown t _ => t

def uvText : UserVar → Str
  | .implClassUid s | .implVersionName s | .sopClassExt s _ | .roleSelection s _ _ => s
  | _ => []

def uvContent : UserVar → Bytes
  | .maxLength n => be32 n
  | .implVersionName s | .implClassUid s => s
  | .roleSelection uid scu scp => be16 uid.length ++ uid ++ [b2n scu, b2n scp]
  | .sopClassExt uid d => be16 uid.length ++ uid ++ d
  | .userIdentity u => [u.type.code, b2n u.positiveResponseRequested] ++
      (be16 u.primary.length ++ u.primary ++ (be16 u.secondary.length ++ u.secondary))
  | .unknown _ d => d


theorem writeUserVar_ok {v : UserVar} {b : Bytes} :
    writeUserVar v = .ok b ↔
      (∀ c ∈ uvText v, c < 256) ∧ (uvContent v).length ≤ 65535 ∧ b = item (uvType v) (uvContent v) := by
  cases v <;> simp only [writeUserVar, item16_ok, wcat_ok, chunk16_ok, encodeText_ok, uvText, uvContent, uvType]
  case unknown | maxLength =>
    exact ⟨fun ⟨_, hc, hl, hb⟩ => by cases hc; exact ⟨nofun, hl, hb⟩, fun ⟨_, hl, hb⟩ => ⟨_, rfl, hl, hb⟩⟩
  case implClassUid | implVersionName =>
    exact ⟨fun ⟨_, ⟨he, hc⟩, hl, hb⟩ => by cases hc; exact ⟨he, hl, hb⟩,
      fun ⟨he, hl, hb⟩ => ⟨_, ⟨he, rfl⟩, hl, hb⟩⟩
  case sopClassExt | roleSelection =>
    constructor
    · rintro ⟨_, ⟨_, _, ⟨_, ⟨he, rfl⟩, -, rfl⟩, ⟨⟩, rfl⟩, hl, hb⟩
      exact ⟨he, hl, hb⟩
    · rintro ⟨he, hl, hb⟩
      exact ⟨_, ⟨_, _, ⟨_, ⟨he, rfl⟩, by simp at hl; omega, rfl⟩, rfl, rfl⟩, hl, hb⟩
  case userIdentity =>
    constructor
    · rintro ⟨_, ⟨_, _, ⟨⟩, ⟨_, _, ⟨_, ⟨⟩, -, rfl⟩, ⟨_, ⟨⟩, -, rfl⟩, rfl⟩, rfl⟩, hl, hb⟩
      exact ⟨nofun, hl, hb⟩
    · rintro ⟨-, hl, hb⟩
      exact ⟨_, ⟨_, _, rfl, ⟨_, _, ⟨_, rfl, by simp at hl; omega, rfl⟩, ⟨_, rfl, by simp at hl; omega, rfl⟩, rfl⟩,
        rfl⟩, hl, hb⟩


theorem readUserVar_item (v : UserVar) (r : Bytes) (hl : (uvContent v).length ≤ 65535) (hwf : wfUserVar v = true) :
    readUserVar (item (uvType v) (uvContent v) ++ r) = .ok (some (normUserVar v), r) := by
  have hl' : (uvContent v).length < 65536 := Nat.lt_succ_of_le hl
  simp only [readUserVar, item, List.cons_append, List.append_assoc, subHeader_item _ _ hl', Res.bind_eq, Res.bind_ok]
  cases v <;> simp only [uvContent, uvType, wfUserVar] at hl hwf ⊢
  case unknown t d =>
    simp [knownUserVarCode] at hwf
    simp [readUserVarBody, takeI_append, normUserVar, hwf]
  case maxLength n => simp [readUserVarBody, u32I_be32 n (by simpa using hwf), normUserVar]
  case implClassUid | implVersionName => simp [readUserVarBody, takeI_append, normUserVar]
  case roleSelection uid scu scp =>
    have hu : uid.length < 65536 := by simp at hl; omega
    simp [readUserVarBody, u16I_be16 _ hu, takeI_append, u8I, normUserVar, b2n_ne_zero]
  case sopClassExt uid d =>
    simp only [List.length_append, be16_length] at hl
    have hu : uid.length < 65536 := by omega
    -- the reader's `(item_length - 2 - uid_length) as usize` in wrapping `u16` arithmetic; 131070 = 2 * 65536 - 2
    have e2 : (2 + (uid.length + d.length) + 131070 - uid.length) % 65536 = d.length := by omega
    have e3 : ¬ (uid.length + (d.length + r.length) < uid.length) := by omega
    simp [readUserVarBody, u16I_be16 _ hu, takeI_append, takeP_append, normUserVar, e2, e3]
    omega
  case userIdentity u =>
    have hp : u.primary.length < 65536 := by simp at hl; omega
    have hs : u.secondary.length < 65536 := by simp at hl; omega
    simp [readUserVarBody, u16I_be16 _ hp, u16I_be16 _ hs, takeI_append, u8I, normUserVar,
      IdType.ofCode_code, b2n_beq_one]

theorem readUserVarLoop_write : ∀ (vs : List UserVar) (b : Bytes), writeUserVarList vs = .ok b →
    (∀ v ∈ vs, wfUserVar v = true) → ∀ (f : Nat) (acc : List UserVar), b.length ≤ f →
      readUserVarLoop f b acc = .ok (acc ++ vs.map normUserVar) := by
  refine writeUserVarList_each.ok_induction ?_ ?_
  · intro _ f acc _
    cases f <;> simp [readUserVarLoop]
  · intro v vs x y hx _ ih hwf f acc hf
    obtain ⟨-, hl, rfl⟩ := writeUserVar_ok.1 hx
    obtain ⟨f, rfl⟩ : ∃ f', f = f' + 1 := ⟨f - 1, by simp at hf; omega⟩
    have h1 := readUserVar_item v y hl (hwf v (by simp))
    simp only [List.cons_append] at h1 ⊢
    simp only [readUserVarLoop, h1, Res.bind_eq, Res.bind_ok]
    rw [ih (fun w hw' => hwf w (by simp [hw'])) f _ (by simp at hf; omega)]
    simp

theorem readPduVariable_item (t : Nat) (c r : Bytes) (hl : c.length ≤ 65535) :
    readPduVariable (item t c ++ r) = readVarBody t c r := by
  have hl' : c.length < 65536 := by omega
  simp [readPduVariable, subHeader_item _ _ hl', takeI_append]

theorem writeAcn_ok {s : Str} {x : Bytes} :
    writeAcn s = .ok x ↔ (∀ c ∈ s, c < 256) ∧ s.length ≤ 65535 ∧
      x = item Gen.wItem_ApplicationContext s := by
  simp [writeAcn, item16_ok, encodeText_ok, and_assoc]

theorem readPduVariable_acn {s : Str} {b : Bytes} (hw : writeAcn s = .ok b) (r : Bytes) :
    readPduVariable (b ++ r) = .ok (.acn s, r) := by
  obtain ⟨-, hl, rfl⟩ := writeAcn_ok.1 hw
  rw [readPduVariable_item _ _ _ hl]
  simp [readVarBody]

theorem readPcProposedSubs_ts : ∀ (tss : List Str) (b : Bytes), writeTsList tss = .ok b →
    ∀ (f : Nat) (a : Option Str) (acc : List Str), b.length ≤ f →
      readPcProposedSubs f b a acc = .ok (a, acc ++ tss.map trimWs) := by
  refine writeTsList_each.ok_induction ?_ ?_
  · intro f a acc _
    cases f <;> simp [readPcProposedSubs]
  · intro ts tss x y hx _ ih f a acc hf
    obtain ⟨c, hc, hl, rfl⟩ := item16_ok.1 hx
    obtain ⟨-, rfl⟩ := encodeText_ok.1 hc
    obtain ⟨f, rfl⟩ : ∃ f', f = f' + 1 := ⟨f - 1, by simp at hf; omega⟩
    simp only [List.cons_append, List.append_assoc, readPcProposedSubs, subHeader_item _ _ (Nat.lt_succ_of_le hl),
      Res.bind_eq, Res.bind_ok, takeI_append]
    simp only [show ¬ ((0x40 : Nat) = 0x30) by decide, if_false, if_true]
    rw [ih f a _ (by simp at hf; omega)]
    simp

theorem writePcProposed_ok {pc : PcProposed} {b : Bytes} :
    writePcProposed pc = .ok b ↔ ∃ q, (∀ c ∈ pc.abstractSyntax, c < 256) ∧ pc.abstractSyntax.length ≤ 65535 ∧
      writeTsList pc.transferSyntaxes = .ok q ∧
      ([pc.id, 0, 0, 0] ++ (item Gen.wSubProposed_AbstractSyntax pc.abstractSyntax ++ q)).length ≤ 65535 ∧
      b = item Gen.wItem_PresentationContextProposed
        ([pc.id, 0, 0, 0] ++ (item Gen.wSubProposed_AbstractSyntax pc.abstractSyntax ++ q)) := by
  simp only [writePcProposed, item16_ok, wcat_ok, encodeText_ok]
  constructor
  · rintro ⟨_, ⟨_, _, ⟨⟩, ⟨_, q, ⟨_, ⟨he, rfl⟩, hal, rfl⟩, hq, rfl⟩, rfl⟩, hl, rfl⟩
    exact ⟨q, he, hal, hq, hl, rfl⟩
  · rintro ⟨q, he, hal, hq, hl, rfl⟩
    exact ⟨_, ⟨_, _, rfl, ⟨_, q, ⟨_, ⟨he, rfl⟩, hal, rfl⟩, hq, rfl⟩, rfl⟩, hl, rfl⟩

theorem readPduVariable_pcProposed {pc : PcProposed} {b : Bytes} (hw : writePcProposed pc = .ok b)
    (r : Bytes) : readPduVariable (b ++ r) = .ok (.pcProposed (normPcProposed pc), r) := by
  obtain ⟨id, a', tss⟩ := pc
  obtain ⟨q, -, hal, hq, hl, rfl⟩ := writePcProposed_ok.1 hw
  rw [readPduVariable_item _ _ _ hl]
  have hal' : a'.length < 65536 := Nat.lt_succ_of_le hal
  have h2 := readPcProposedSubs_ts tss q hq (2 + (a'.length + q.length) + 1) (some (trimWs a')) [] (by omega)
  simp [readVarBody, u8I, readPcProposedSubs, subHeader_item _ _ hal', takeI_append, normPcProposed]
  simp [h2]

theorem takeI_self (a : Bytes) : takeI a.length a = .ok (a, []) := by
  simp [takeI]

theorem PcReason.ofCode_code (t : PcReason) : PcReason.ofCode t.code = some t := by cases t <;> rfl

theorem writePcResult_ok {pc : PcResult} {b : Bytes} :
    writePcResult pc = .ok b ↔ (∀ c ∈ pc.transferSyntax, c < 256) ∧ pc.transferSyntax.length ≤ 65535 ∧
      ([pc.id, 0, pc.reason.code, 0] ++ item Gen.wSubResult_TransferSyntax pc.transferSyntax).length ≤ 65535 ∧
      b = item Gen.wItem_PresentationContextResult
        ([pc.id, 0, pc.reason.code, 0] ++ item Gen.wSubResult_TransferSyntax pc.transferSyntax) := by
  simp [writePcResult, item16_ok, wcat_ok, encodeText_ok, and_assoc]

theorem readPduVariable_pcResult {pc : PcResult} {b : Bytes} (hw : writePcResult pc = .ok b)
    (r : Bytes) : readPduVariable (b ++ r) = .ok (.pcResult (normPcResult pc), r) := by
  obtain ⟨id, reason, a'⟩ := pc
  obtain ⟨-, hal, hl, rfl⟩ := writePcResult_ok.1 hw
  rw [readPduVariable_item _ _ _ hl]
  have hal' : a'.length < 65536 := Nat.lt_succ_of_le hal
  simp [readVarBody, u8I, readPcResultSubs, subHeader_item _ _ hal', takeI_self, normPcResult,
    PcReason.ofCode_code]

theorem readPduVariable_userVars {vs : List UserVar} {b : Bytes} (hw : writeUserVars vs = .ok b)
    (hne : vs ≠ []) (hwf : ∀ v ∈ vs, wfUserVar v = true) (r : Bytes) :
    readPduVariable (b ++ r) = .ok (.userVars (vs.map normUserVar), r) := by
  have : vs.isEmpty = false := by cases vs <;> simp_all
  simp only [writeUserVars, this] at hw
  obtain ⟨c, hc, hl, rfl⟩ := item16_ok.1 hw
  rw [readPduVariable_item _ _ _ hl]
  simp [readVarBody, readUserVarLoop_write vs c hc hwf c.length [] (Nat.le_refl _)]

theorem readPduVariable_ok_ne_nil {bs : Bytes} {x : VarItem × Bytes} (h : readPduVariable bs = .ok x) :
    bs ≠ [] := by
  rintro rfl
  cases h

theorem takeP_append' {a : Bytes} {n : Nat} (h : a.length = n) (r : Bytes) :
    takeP n (a ++ r) = .ok (a, r) := by
  subst h; exact takeP_append a r

theorem writeAe_ok {s : Str} {b : Bytes} :
    writeAe s = .ok b ↔ (∀ c ∈ s, c < 256) ∧ b = (s ++ List.replicate 16 32).take 16 := by
  unfold writeAe
  cases he : encodeText s with
  | error e => simpa using fun h _ => by cases he.symm.trans (encodeText_ok.2 ⟨h, rfl⟩)
  | ok c =>
    obtain ⟨h, rfl⟩ := encodeText_ok.1 he
    simpa [eq_comm] using fun _ => h

theorem writeAe_length {s : Str} {b : Bytes} (h : writeAe s = .ok b) : b.length = 16 := by
  rw [(writeAe_ok.1 h).2]
  simp

theorem u16P_be16 (n : Nat) (h : n < 65536) (r : Bytes) : u16P (be16 n ++ r) = .ok (n, r) := by
  simp [u16P, be16, be16_val n h]

theorem readAssocFixed_write (pv : Nat) (hpv : pv < 65536) (ae1 ae2 rest : Bytes)
    (h1 : ae1.length = 16) (h2 : ae2.length = 16) :
    readAssocFixed (be16 pv ++ [0, 0] ++ (ae1 ++ (ae2 ++ (List.replicate 32 0 ++ rest)))) =
      .ok (pv, trimWs ae1, trimWs ae2, rest) := by
  have hlen : ¬ ((be16 pv ++ [0, 0] ++ (ae1 ++ (ae2 ++ (List.replicate 32 0 ++ rest)))).length
      < 2 + 2 + 16 + 16 + 32) := by simp [h1, h2]; omega
  unfold readAssocFixed
  rw [if_neg hlen]
  simp only [List.append_assoc, u16P_be16 pv hpv, Res.bind_eq, Res.bind_ok]
  simp only [List.cons_append, List.nil_append, u16P, Res.bind_ok, takeP_append' h1, takeP_append' h2,
    takeP_append' (List.length_replicate (n := 32) (a := 0)), Res.pure_eq]

theorem writeAssocBody_ok {γ : Type} {writePcs : List γ → W} {a : Assoc γ} {body : Bytes} :
    writeAssocBody writePcs a = .ok body ↔
      ∃ ae1 ae2 x y z, writeAe a.calledAe = .ok ae1 ∧ writeAe a.callingAe = .ok ae2 ∧
        writeAcn a.acn = .ok x ∧ writePcs a.pcs = .ok y ∧ writeUserVars a.uvs = .ok z ∧
        body = be16 a.protocolVersion ++ [0, 0] ++ (ae1 ++ (ae2 ++ (List.replicate 32 0 ++ (x ++ (y ++ z))))) := by
  simp only [writeAssocBody, wcat_ok]
  constructor
  · rintro ⟨_, _, ⟨⟩, ⟨ae1, _, h1, ⟨ae2, _, h2, ⟨_, _, ⟨⟩, ⟨x, _, hx, ⟨y, z, hy, hz, rfl⟩, rfl⟩, rfl⟩, rfl⟩, rfl⟩, rfl⟩
    exact ⟨ae1, ae2, x, y, z, h1, h2, hx, hy, hz, rfl⟩
  · rintro ⟨ae1, ae2, x, y, z, h1, h2, hx, hy, hz, rfl⟩
    exact ⟨_, _, rfl, ⟨_, _, h1, ⟨_, _, h2, ⟨_, _, rfl, ⟨_, _, hx, ⟨_, _, hy, hz, rfl⟩, rfl⟩, rfl⟩, rfl⟩, rfl⟩, rfl⟩

theorem wfAssoc_version_uvs {γ : Type} {wfPc : γ → Bool} {a : Assoc γ} (h : wfAssoc wfPc a = true) :
    a.protocolVersion < 65536 ∧ ∀ v ∈ a.uvs, wfUserVar v = true := by
  simp [wfAssoc] at h
  exact ⟨h.1.1, h.2⟩

/-- The variable-item loops of A-ASSOCIATE-RQ and -AC (`readRqVars`, `readAcVars`) differ only in
the presentation-context item `inj pc` they accept: `loop` stops at the end of the buffer and
otherwise files the next item as application context, presentation context or user variables. -/
structure VarLoop {γ : Type} (inj : γ → VarItem)
    (loop : Nat → Bytes → Option Str → List γ → List UserVar → Res (Option Str × List γ × List UserVar)) :
    Prop where
  done : ∀ f acn pcs uvs, loop f [] acn pcs uvs = .ok (acn, pcs, uvs)
  acn : ∀ {bs s rest}, readPduVariable bs = .ok (.acn s, rest) → ∀ f acn pcs uvs,
    loop (f + 1) bs acn pcs uvs = loop f rest (some s) pcs uvs
  pc : ∀ {bs pc rest}, readPduVariable bs = .ok (inj pc, rest) → ∀ f acn pcs uvs,
    loop (f + 1) bs acn pcs uvs = loop f rest acn (pcs ++ [pc]) uvs
  uvs : ∀ {bs vs rest}, readPduVariable bs = .ok (.userVars vs, rest) → ∀ f acn pcs uvs,
    loop (f + 1) bs acn pcs uvs = loop f rest acn pcs vs

theorem readRqVars_loop : VarLoop .pcProposed readRqVars := by
  refine ⟨fun f _ _ _ => by cases f <;> rfl, ?_, ?_, ?_⟩
  all_goals
    intro bs _ _ h _ _ _ _
    obtain ⟨_, _, rfl⟩ := List.exists_cons_of_ne_nil (readPduVariable_ok_ne_nil h)
    simp [readRqVars, readPduVariable', h]

theorem readAcVars_loop : VarLoop .pcResult readAcVars := by
  refine ⟨fun f _ _ _ => by cases f <;> rfl, ?_, ?_, ?_⟩
  all_goals
    intro bs _ _ h _ _ _ _
    obtain ⟨_, _, rfl⟩ := List.exists_cons_of_ne_nil (readPduVariable_ok_ne_nil h)
    simp [readAcVars, readPduVariable', h]

namespace VarLoop
variable {γ : Type} {inj : γ → VarItem}
  {loop : Nat → Bytes → Option Str → List γ → List UserVar → Res (Option Str × List γ × List UserVar)}
  {writePc : γ → W} {writePcs : List γ → W} {norm : γ → γ}


theorem uvs_end (hl : VarLoop inj loop) {vs : List UserVar} {b : Bytes} (hw : writeUserVars vs = .ok b)
    (hwf : ∀ v ∈ vs, wfUserVar v = true) (f : Nat) (hf : b.length ≤ f) (acn : Option Str) (pcs : List γ) :
    loop f b acn pcs [] = .ok (acn, pcs, vs.map normUserVar) := by
  by_cases hne : vs = []
  · subst hne
    cases hw
    exact hl.done f acn pcs []
  · have h1 := readPduVariable_userVars hw hne hwf []
    rw [List.append_nil] at h1
    have hb := List.length_pos_iff.2 (readPduVariable_ok_ne_nil h1)
    obtain ⟨f, rfl⟩ : ∃ f', f = f' + 1 := ⟨f - 1, by omega⟩
    rw [hl.uvs h1, hl.done]


theorem pcs_then (hl : VarLoop inj loop) (he : WritesEach writePc writePcs)
    (hread : ∀ pc x r, writePc pc = .ok x → readPduVariable (x ++ r) = .ok (inj (norm pc), r)) :
    ∀ (pcs : List γ) (b : Bytes), writePcs pcs = .ok b →
      ∀ (f : Nat) (t : Bytes) (acn : Option Str) (acc : List γ) (res : List UserVar), (b ++ t).length ≤ f →
      (∀ f', t.length ≤ f' → ∀ acc', loop f' t acn acc' [] = .ok (acn, acc', res)) →
      loop f (b ++ t) acn acc [] = .ok (acn, acc ++ pcs.map norm, res) := by
  refine he.ok_induction ?_ ?_
  · intro f t acn acc res hf ht
    simpa using ht f (by simpa using hf) acc
  · intro pc pcs x y hx _ ih f t acn acc res hf ht
    have hx0 := hread pc x [] hx
    rw [List.append_nil] at hx0
    have hxl := List.length_pos_iff.2 (readPduVariable_ok_ne_nil hx0)
    simp only [List.length_append] at hf
    obtain ⟨f, rfl⟩ : ∃ f', f = f' + 1 := ⟨f - 1, by omega⟩
    rw [List.append_assoc, hl.pc (hread pc x (y ++ t) hx),
      ih f t acn _ res (by simp only [List.length_append]; omega) ht]
    simp


theorem write (hl : VarLoop inj loop) (he : WritesEach writePc writePcs)
    (hread : ∀ pc x r, writePc pc = .ok x → readPduVariable (x ++ r) = .ok (inj (norm pc), r))
    {a : Assoc γ} {x y z : Bytes} (hx : writeAcn a.acn = .ok x)
    (hy : writePcs a.pcs = .ok y) (hz : writeUserVars a.uvs = .ok z)
    (hwf : ∀ v ∈ a.uvs, wfUserVar v = true) :
    loop (x ++ (y ++ z)).length (x ++ (y ++ z)) none [] [] =
      .ok (some a.acn, a.pcs.map norm, a.uvs.map normUserVar) := by
  have h1 := readPduVariable_acn hx (y ++ z)
  have hxl : 0 < x.length :=
    List.length_pos_iff.2 fun h => readPduVariable_ok_ne_nil (readPduVariable_acn hx []) (by simp [h])
  obtain ⟨f, hf⟩ : ∃ f', (x ++ (y ++ z)).length = f' + 1 :=
    ⟨(x ++ (y ++ z)).length - 1, by simp only [List.length_append]; omega⟩
  rw [hf, hl.acn h1, hl.pcs_then he hread a.pcs y hy f z (some a.acn) [] (a.uvs.map normUserVar)
    (by simp only [List.length_append] at hf ⊢; omega)
    (fun f' hf' acc' => hl.uvs_end hz hwf f' hf' (some a.acn) acc')]
  simp


theorem body (hl : VarLoop inj loop) (he : WritesEach writePc writePcs)
    (hread : ∀ pc x r, writePc pc = .ok x → readPduVariable (x ++ r) = .ok (inj (norm pc), r))
    {wfPc : γ → Bool} {a : Assoc γ} {body : Bytes} (hw : writeAssocBody writePcs a = .ok body)
    (hwf : wfAssoc wfPc a = true) :
    ∃ b, readAssocFixed body = .ok (a.protocolVersion, normAe a.calledAe, normAe a.callingAe, b) ∧
      loop b.length b none [] [] = .ok (some a.acn, a.pcs.map norm, a.uvs.map normUserVar) := by
  obtain ⟨hpv, huv⟩ := wfAssoc_version_uvs hwf
  obtain ⟨ae1, ae2, x, y, z, h1, h2, hx, hy, hz, rfl⟩ := writeAssocBody_ok.1 hw
  have l1 := writeAe_length h1
  have l2 := writeAe_length h2
  obtain ⟨-, rfl⟩ := writeAe_ok.1 h1
  obtain ⟨-, rfl⟩ := writeAe_ok.1 h2
  exact ⟨_, readAssocFixed_write _ hpv _ _ _ l1 l2, hl.write he hread hx hy hz huv⟩

end VarLoop

theorem readBody_rq {a : Assoc PcProposed} {body : Bytes}
    (hw : writeAssocBody writePcProposedList a = .ok body)
    (hwf : wfAssoc (fun pc : PcProposed => decide (pc.id < 256)) a = true) :
    readBody 0x01 body = .ok (.associationRQ (normAssoc normPcProposed a)) := by
  obtain ⟨b, h1, h2⟩ := readRqVars_loop.body writePcProposedList_each
    (fun _ _ r h => readPduVariable_pcProposed h r) hw hwf
  simp [readBody, h1, h2, normAssoc]

theorem readBody_ac {a : Assoc PcResult} {body : Bytes}
    (hw : writeAssocBody writePcResultList a = .ok body)
    (hwf : wfAssoc (fun pc : PcResult => decide (pc.id < 256)) a = true) :
    readBody 0x02 body = .ok (.associationAC (normAssoc normPcResult a)) := by
  obtain ⟨b, h1, h2⟩ := readAcVars_loop.body writePcResultList_each
    (fun _ _ r h => readPduVariable_pcResult h r) hw hwf
  simp [readBody, h1, h2, normAssoc]

theorem chunk32_ok {d : W} {z : Bytes} :
    chunk32 d = .ok z ↔ ∃ c, d = .ok c ∧ c.length ≤ 4294967295 ∧ z = be32 c.length ++ c := by
  cases d with
  | error e => simp [chunk32]
  | ok c => by_cases h : c.length ≤ 4294967295 <;> simp [chunk32, h, eq_comm]

theorem pdvHeader_type (v : Pdv) :
    (if pdvHeader v % 2 = 1 then PdvType.command else PdvType.data) = v.type := by
  cases v with | mk p t l d => cases t <;> cases l <;> simp [pdvHeader]

theorem pdvHeader_last (v : Pdv) : decide (pdvHeader v / 2 % 2 = 1) = v.isLast := by
  cases v with | mk p t l d => cases t <;> cases l <;> simp [pdvHeader]


theorem readPdvs_item (f : Nat) (v : Pdv) (y : Bytes) (acc : List Pdv) (hl : v.data.length + 2 < 4294967296) :
    readPdvs (f + 1) (be32 (v.data.length + 2) ++ v.pcid :: pdvHeader v :: v.data ++ y) acc =
      readPdvs f y (acc ++ [v]) := by
  simp [readPdvs, be32, u32P, u8P, takeP, be32_val _ hl, pdvHeader_type, pdvHeader_last]
  rw [if_neg (by omega), if_neg (by omega), if_neg (by omega), if_neg (by omega)]
  rfl

theorem readPdvs_write : ∀ (vs : List Pdv) (b : Bytes), writePdvList vs = .ok b →
    ∀ (f : Nat) (acc : List Pdv), b.length ≤ f → readPdvs f b acc = .ok (acc ++ vs) := by
  refine writePdvList_each.ok_induction ?_ ?_
  · intro f acc _
    cases f <;> simp [readPdvs]
  · intro v vs x y hx _ ih f acc hf
    obtain ⟨c, hc, hl, rfl⟩ := chunk32_ok.1 hx
    cases hc
    obtain ⟨f, rfl⟩ : ∃ f', f = f' + 1 := ⟨f - 1, by simp at hf; omega⟩
    refine (readPdvs_item f v y acc (by simpa using Nat.lt_succ_of_le hl)).trans ?_
    rw [ih f _ (by simp at hf; omega)]
    simp

theorem RjResult.ofCode_code (t : RjResult) : RjResult.ofCode t.code = some t := by cases t <;> rfl

theorem RjSource.ofCodes_codes (s : RjSource) (h : wfRjSource s = true) :
    RjSource.ofCodes s.codes.1 s.codes.2 = some s := by
  cases s with
  | serviceUser r =>
    cases r with
    | reserved x =>
      simp [wfRjSource] at h
      have h' : x = 4 ∨ x = 5 ∨ x = 6 ∨ x = 8 ∨ x = 9 ∨ x = 10 := by omega
      rcases h' with h | h | h | h | h | h <;> subst h <;> rfl
    | _ => rfl
  | asce r => cases r <;> rfl
  | presentation r =>
    cases r with
    | reserved x =>
      simp [wfRjSource] at h
      have h' : x = 0 ∨ x = 3 ∨ x = 4 ∨ x = 5 ∨ x = 6 ∨ x = 7 := by omega
      rcases h' with h | h | h | h | h | h <;> subst h <;> rfl
    | _ => rfl

theorem AbortSource.ofCodes_codes (s : AbortSource) : AbortSource.ofCodes s.codes.1 s.codes.2 = some s := by
  cases s with
  | serviceProvider r => cases r <;> rfl
  | _ => rfl

theorem pdu32_ok {t : Nat} {d : W} {z : Bytes} :
    pdu32 t d = .ok z ↔ ∃ c, d = .ok c ∧ c.length ≤ 4294967295 ∧ z = t :: 0 :: (be32 c.length ++ c) := by
  cases d with
  | error e => simp [pdu32, chunk32]
  | ok c => by_cases h : c.length ≤ 4294967295 <;> simp [pdu32, chunk32, h, eq_comm]

/-- the `max_pdu_length` values `read_pdu` accepts: `MINIMUM_PDU_SIZE ..= MAXIMUM_PDU_SIZE` -/
def validMax (mx : Nat) : Prop := minimumPduSize ≤ mx ∧ mx ≤ maximumPduSize

theorem readPdu_short {mx : Nat} {strict : Bool} (hmx : validMax mx) {bs : Bytes} (h : bs.length < 6) :
    readPdu mx strict bs = .inc := by
  have h1 : ¬ ¬ (minimumPduSize ≤ mx ∧ mx ≤ maximumPduSize) := not_not_intro hmx
  unfold readPdu
  rw [if_neg h1]
  by_cases h2 : bs.length < 2
  · rw [if_pos h2]
  · simp only [if_neg h2, takeP, Res.bind_eq, Res.bind_ok]
    rw [if_pos (by simp only [List.length_drop]; omega)]

theorem readPdu_header (mx : Nat) (strict : Bool) (hmx : validMax mx) (t z a b c d : Nat) (body : Bytes) :
    readPdu mx strict (t :: z :: a :: b :: c :: d :: body) =
      (if strict = true ∧ mx < 16777216 * a + 65536 * b + 256 * c + d then .err .pduTooLarge
       else if body.length < 16777216 * a + 65536 * b + 256 * c + d then .inc
       else (readBody t (body.take (16777216 * a + 65536 * b + 256 * c + d))).bind
          (fun p => .ok (p, body.drop (16777216 * a + 65536 * b + 256 * c + d)))) := by
  have h2 : ¬ (List.length body + 1 + 1 + 1 + 1 + 1 + 1 < 2) := by omega
  have h3 : ¬ (List.length body + 1 + 1 + 1 + 1 < 4) := by omega
  have h1 : ¬ ¬ (minimumPduSize ≤ mx ∧ mx ≤ maximumPduSize) := not_not_intro hmx
  unfold readPdu
  rw [if_neg h1]
  simp only [List.length_cons, if_neg h2, takeP, List.take_succ_cons, List.take_zero, List.drop_succ_cons,
    List.drop_zero, Res.bind_eq, Res.bind_ok, if_neg h3, u32P, List.headD]
  split
  · rfl
  · split <;> rfl


theorem readPdu_frame (mx : Nat) (strict : Bool) (t : Nat) (body r : Bytes) (hmx : validMax mx)
    (hL : body.length ≤ 4294967295) (hs : strict = true → body.length ≤ mx) :
    readPdu mx strict (t :: 0 :: (be32 body.length ++ body) ++ r) =
      (readBody t body).bind (fun p => .ok (p, r)) := by
  have h3 : ¬ (strict = true ∧ mx < body.length) := fun ⟨a, b⟩ => Nat.not_le_of_lt b (hs a)
  simp only [be32, List.cons_append, List.nil_append]
  rw [readPdu_header mx strict hmx, be32_val _ (by omega), if_neg h3, if_neg (by simp),
    List.take_left' rfl, List.drop_left' rfl]
end Dicom.Pdu
