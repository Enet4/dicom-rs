import DicomModel.Model.StoreScp
import DicomModel.Lemmas.Bytes
/-
Helper lemmas for C32: splitting on a separator, the directory walk, what trimming and sanitising
leave of a text.
-/
namespace Dicom.StoreScp

theorem splitOn_ne_nil (c : Char) (s : Str) : splitOn c s ≠ [] := by
  cases s with
  | nil => simp [splitOn]
  | cons x xs =>
    unfold splitOn
    split
    · simp
    · cases splitOn c xs <;> simp [consHead]

/-- splitting at a separator splits the list of pieces -/
theorem splitOn_append_sep (c : Char) (a b : Str) :
    splitOn c (a ++ c :: b) = splitOn c a ++ splitOn c b := by
  induction a with
  | nil => simp [splitOn]
  | cons x xs ih =>
    by_cases hx : x = c
    · simp [splitOn, hx, ih]
    · simp only [List.cons_append, splitOn, hx, if_false, ih]
      cases h : splitOn c xs with
      | nil => exact absurd h (splitOn_ne_nil c xs)
      | cons p ps => simp [consHead]

theorem splitOn_of_not_mem {c : Char} {s : Str} (h : c ∉ s) : splitOn c s = [s] := by
  induction s with
  | nil => rfl
  | cons x xs ih =>
    have hx : x ≠ c := fun e => h (by simp [e])
    have hxs : c ∉ xs := fun m => h (by simp [m])
    simp [splitOn, hx, ih hxs, consHead]

theorem walk_append (dirs : List Comps) (cur : Comps) (xs ys : List Str) :
    walk dirs cur (xs ++ ys) = (walk dirs cur xs).bind fun d => walk dirs d ys := by
  induction xs generalizing cur with
  | nil => simp [walk]
  | cons x xs ih =>
    simp only [List.cons_append, walk]
    split
    · exact ih cur
    · split
      · exact ih _
      · split
        · exact ih _
        · simp

theorem mem_trimEndBy {p : Char → Bool} {s : Str} {c : Char} (h : c ∈ trimEndBy p s) : c ∈ s := by
  unfold trimEndBy at h
  have h1 : c ∈ s.reverse.dropWhile p := List.mem_reverse.mp h
  exact List.mem_reverse.mp ((List.dropWhile_sublist p).subset h1)

theorem mem_sanitise {s : Str} {c : Char} (h : c ∈ sanitise s) : c ≠ '/' ∧ c ≠ nul := by
  unfold sanitise at h
  obtain ⟨d, _, hd⟩ := List.mem_map.mp h
  by_cases hc : d = '/' ∨ d = nul
  · simp only [hc, if_true] at hd
    subst hd
    exact ⟨by decide, by decide⟩
  · simp only [hc, if_false] at hd
    subst hd
    exact ⟨fun e => hc (Or.inl e), fun e => hc (Or.inr e)⟩

end Dicom.StoreScp
