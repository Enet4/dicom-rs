/-
Lemmas for the dictionary model (C15; also used by C14 and C23): soundness of the translator's
"value ↦ position" certificate (`nodup_of_checkIdx`), association lists as `HashMap`s under distinct
keys, what `init_dictionary` builds, the mask `& 0xFF00` as arithmetic.
-/
import DicomModel.Model.DictCore
namespace Dicom.Dict

/-! ### certificate check: a column has no duplicates -/

/-- every element of the list is mapped by `h` to its own position (counted from `i`) -/
def checkIdx (h : Nat → Option Nat) : List Nat → Nat → Bool
  | [], _ => true
  | x :: xs, i => (match h x with | some j => Nat.beq j i | none => false) && checkIdx h xs (i + 1)

theorem checkIdx_cons {h : Nat → Option Nat} {a : Nat} {as : List Nat} {i : Nat} :
    checkIdx h (a :: as) i = true ↔ h a = some i ∧ checkIdx h as (i + 1) = true := by
  cases hh : h a <;> simp [checkIdx, hh]

theorem checkIdx_bound {h : Nat → Option Nat} {l : List Nat} {i : Nat} (hc : checkIdx h l i = true) :
    ∀ x ∈ l, ∃ j, i ≤ j ∧ h x = some j := by
  induction l generalizing i with
  | nil => intro x hx; cases hx
  | cons a as ih =>
    obtain ⟨ha, hc⟩ := checkIdx_cons.mp hc
    intro x hx
    rcases List.mem_cons.mp hx with rfl | hm
    · exact ⟨i, Nat.le_refl i, ha⟩
    · obtain ⟨j, hj, hx'⟩ := ih hc x hm
      exact ⟨j, by omega, hx'⟩

/-- If some function sends every element of `l` to its position, `l` has no duplicates. -/
theorem nodup_of_checkIdx {h : Nat → Option Nat} {l : List Nat} {i : Nat}
    (hc : checkIdx h l i = true) : l.Nodup := by
  induction l generalizing i with
  | nil => exact List.nodup_nil
  | cons a as ih =>
    obtain ⟨ha, hc⟩ := checkIdx_cons.mp hc
    refine List.nodup_cons.mpr ⟨fun hm => ?_, ih hc⟩
    -- `a` sits at position `i`, and every element of the tail at a later one
    obtain ⟨j, hj, hx⟩ := checkIdx_bound hc a hm
    rw [ha] at hx
    cases hx
    omega

theorem not_mem_of_checkIdx {h : Nat → Option Nat} {l : List Nat} {i a : Nat}
    (hc : checkIdx h l i = true) (ha : h a = none) : a ∉ l := by
  intro hm
  obtain ⟨j, _, hj⟩ := checkIdx_bound hc a hm
  rw [ha] at hj
  cases hj

theorem checkIdx_append {h : Nat → Option Nat} {l₁ l₂ : List Nat} {i : Nat}
    (h₁ : checkIdx h l₁ i = true) (h₂ : checkIdx h l₂ (i + l₁.length) = true) :
    checkIdx h (l₁ ++ l₂) i = true := by
  induction l₁ generalizing i with
  | nil => exact h₂
  | cons a as ih =>
    obtain ⟨ha, hc⟩ := checkIdx_cons.mp h₁
    have e : i + (a :: as).length = i + 1 + as.length := by rw [List.length_cons]; omega
    exact checkIdx_cons.mpr ⟨ha, ih hc (e ▸ h₂)⟩

theorem flatten_drop {α : Type} (cs : List (List α)) (a n : Nat) :
    (cs.drop a).flatten = ((cs.drop a).take n).flatten ++ (cs.drop (a + n)).flatten := by
  rw [← List.flatten_append, ← List.drop_drop, List.take_append_drop]

theorem checkIdx_drop {α : Type} {h : Nat → Option Nat} {f : α → Nat} {cs : List (List α)} (a n : Nat)
    {i j : Nat} (h₁ : checkIdx h (((cs.drop a).take n).flatten.map f) i = true)
    (hj : i + ((cs.drop a).take n).flatten.length = j)
    (h₂ : checkIdx h ((cs.drop (a + n)).flatten.map f) j = true) :
    checkIdx h ((cs.drop a).flatten.map f) i = true := by
  rw [flatten_drop cs a n, List.map_append]
  exact checkIdx_append h₁ (by rw [List.length_map, hj]; exact h₂)

/-! ### lists as finite maps -/

theorem eq_of_key_eq {α : Type} {f : α → Nat} {l : List α} (hn : (l.map f).Nodup) {x y : α}
    (hx : x ∈ l) (hy : y ∈ l) (h : f x = f y) : x = y := by
  induction l with
  | nil => cases hx
  | cons a as ih =>
    simp only [List.map_cons, List.nodup_cons] at hn
    rcases List.mem_cons.mp hx with rfl | hx' <;> rcases List.mem_cons.mp hy with rfl | hy'
    · rfl
    · exact absurd (h ▸ List.mem_map_of_mem hy') hn.1
    · exact absurd (h ▸ List.mem_map_of_mem hx') hn.1
    · exact ih hn.2 hx' hy'

theorem find?_eq_some_of_unique {α : Type} {p : α → Bool} {l : List α} {r : α}
    (hr : r ∈ l) (hp : p r = true) (hu : ∀ x ∈ l, p x = true → x = r) : l.find? p = some r := by
  cases hf : l.find? p with
  | none => exact absurd hp (List.find?_eq_none.mp hf r hr)
  | some x => rw [hu x (List.mem_of_find?_eq_some hf) (List.find?_some hf)]

theorem mapGet_cons {β : Type} (k' : Nat) (v : β) (m : List (Nat × β)) (k : Nat) :
    mapGet ((k', v) :: m) k = if k' = k then some v else mapGet m k := by
  unfold mapGet
  rw [List.find?_cons]
  by_cases h : k' = k
  · rw [if_pos h, beq_iff_eq.mpr h]
  · rw [if_neg h, beq_false_of_ne h]

theorem mapGet_append {β : Type} (l₁ l₂ : List (Nat × β)) (k : Nat) :
    mapGet (l₁ ++ l₂) k = (mapGet l₁ k).or (mapGet l₂ k) := by
  unfold mapGet
  rw [List.find?_append]
  cases List.find? (fun p => p.1 == k) l₁ <;> simp

theorem mapGet_map {α β : Type} (f : α → Nat) (g : α → β) (l : List α) (k : Nat) :
    mapGet (l.map fun x => (f x, g x)) k = (l.find? fun x => f x == k).map g := by
  unfold mapGet
  rw [List.find?_map]
  cases h : l.find? ((fun p : Nat × β => p.1 == k) ∘ fun x => (f x, g x)) <;>
    rw [show (l.find? fun x => f x == k) = _ from h] <;> rfl

theorem mapGet_reverse_of_nodup {α β : Type} {f : α → Nat} {g : α → β} {l : List α}
    (hn : (l.map f).Nodup) {r : α} (hr : r ∈ l) :
    mapGet (l.reverse.map fun x => (f x, g x)) (f r) = some (g r) := by
  rw [mapGet_map, find?_eq_some_of_unique (List.mem_reverse.mpr hr) (beq_self_eq_true (f r))]
  · rfl
  · exact fun x hx hpx => eq_of_key_eq hn (List.mem_reverse.mp hx) hr (eq_of_beq hpx)

theorem mapGet_reverse_eq_none {α β : Type} {f : α → Nat} {g : α → β} {l : List α} {k : Nat}
    (h : ∀ x ∈ l, f x ≠ k) : mapGet (l.reverse.map fun x => (f x, g x)) k = none := by
  rw [mapGet_map, List.find?_eq_none.mpr]
  · rfl
  · exact fun x hx hpx => h x (List.mem_reverse.mp hx) (eq_of_beq hpx)

theorem find?_filter_of_imp {α : Type} {p q : α → Bool} {l : List α}
    (h : ∀ x ∈ l, p x = true → q x = true) : (l.filter q).find? p = l.find? p := by
  induction l with
  | nil => rfl
  | cons a as ih =>
    have ih' := ih (fun x hx => h x (List.mem_cons_of_mem _ hx))
    by_cases hq : q a = true
    · rw [List.filter_cons_of_pos hq, List.find?_cons, List.find?_cons, ih']
    · have hp : p a = false := by
        cases hpa : p a
        · rfl
        · exact absurd (h a (List.mem_cons_self ..) hpa) hq
      rw [List.filter_cons_of_neg hq, List.find?_cons, hp, ih']

theorem foldl_cons_pairs {α : Type} (f : α → Nat) (l : List α) (m : List (Nat × α)) :
    l.foldl (fun m e => (f e, e) :: m) m = l.reverse.map (fun e => (f e, e)) ++ m := by
  induction l generalizing m with
  | nil => rfl
  | cons a as ih => rw [List.foldl_cons, ih]; simp

/-- a map filled by `extend` from a table with distinct keys returns each row under its key -/
theorem mapGet_foldl_of_nodup {α : Type} (f : α → Nat) (l : List α) (hn : (l.map f).Nodup)
    {r : α} (hr : r ∈ l) : mapGet (l.foldl (fun m e => (f e, e) :: m) []) (f r) = some r := by
  rw [foldl_cons_pairs, List.append_nil]
  exact mapGet_reverse_of_nodup (g := id) hn hr

theorem setContains_iff (s : List Nat) (k : Nat) : setContains s k = true ↔ k ∈ s := by
  unfold setContains
  simp [List.any_eq_true]

/-! ### what `init_dictionary` builds -/

theorem foldl_index (es : List Row) (d : Registry) :
    es.foldl Registry.index d =
      { byName := es.reverse.map (fun r => (r.alias, Ans.entry r)) ++ d.byName
        byTag := es.reverse.map (fun r => (r.key, r)) ++ d.byTag
        ggxx := (es.reverse.filter (fun r => r.kind = 1)).map Row.key ++ d.ggxx
        eexx := (es.reverse.filter (fun r => r.kind = 2)).map Row.key ++ d.eexx } := by
  induction es generalizing d with
  | nil => simp
  | cons a as ih =>
    rw [List.foldl_cons, ih]
    simp only [Registry.index, List.reverse_cons, List.map_append, List.filter_append, List.append_assoc]
    by_cases h1 : a.kind = 1 <;> by_cases h2 : a.kind = 2 <;> simp [h1, h2]

theorem initDictionary_eq (es : List Row) :
    initDictionary es =
      { byName := (glAlias, Ans.groupLength) :: es.reverse.map (fun r => (r.alias, Ans.entry r))
        byTag := es.reverse.map (fun r => (r.key, r))
        ggxx := (es.reverse.filter (fun r => r.kind = 1)).map Row.key
        eexx := (es.reverse.filter (fun r => r.kind = 2)).map Row.key } := by
  simp [initDictionary, foldl_index, Registry.new]

/-- `by_tag.get(k)` of the built registry, as a scan of the table (latest entry first) -/
theorem byTag_get (es : List Row) (k : Nat) :
    mapGet (initDictionary es).byTag k = es.reverse.find? (fun r => r.key == k) := by
  rw [initDictionary_eq]
  exact (mapGet_map Row.key id es.reverse k).trans (congrFun Option.map_id _)

theorem byTag_get_of_mem {es : List Row} (hn : (es.map Row.key).Nodup) {r : Row} (hr : r ∈ es) :
    mapGet (initDictionary es).byTag r.key = some r := by
  rw [initDictionary_eq]
  exact mapGet_reverse_of_nodup (g := id) hn hr

theorem byTag_get_none {es : List Row} {k : Nat} (h : ∀ r ∈ es, r.key ≠ k) :
    mapGet (initDictionary es).byTag k = none := by
  rw [initDictionary_eq]
  exact mapGet_reverse_eq_none (g := id) h

/-- membership in `repeating_ggxx` (`n = 1`) and `repeating_eexx` (`n = 2`) -/
theorem mem_rangeKeys (es : List Row) (n k : Nat) :
    k ∈ (es.reverse.filter (fun r => r.kind = n)).map Row.key ↔ ∃ r ∈ es, r.kind = n ∧ r.key = k := by
  simp only [List.mem_map, List.mem_filter, List.mem_reverse, decide_eq_true_eq, and_assoc]

theorem ggxx_contains (es : List Row) (k : Nat) :
    setContains (initDictionary es).ggxx k = true ↔ ∃ r ∈ es, r.kind = 1 ∧ r.key = k := by
  rw [setContains_iff, initDictionary_eq]
  exact mem_rangeKeys es 1 k

theorem eexx_contains (es : List Row) (k : Nat) :
    setContains (initDictionary es).eexx k = true ↔ ∃ r ∈ es, r.kind = 2 ∧ r.key = k := by
  rw [setContains_iff, initDictionary_eq]
  exact mem_rangeKeys es 2 k

/-! ### masks -/

theorem and_ff00_hi : ∀ h, h < 256 → (256 * h) &&& 0xFF00 = 256 * h := by decide +kernel
theorem and_ff00_lo : ∀ l, l < 256 → l &&& 0xFF00 = 0 := by decide +kernel

/-- `x & 0xFF00` on a 16-bit value clears the low byte -/
theorem and_ff00 (g : Nat) (hg : g < 65536) : g &&& 0xFF00 = g / 256 * 256 := by
  -- `g = 256 * h + l = 256 * h ||| l`, and the mask acts on the two bytes separately
  have split := Nat.two_pow_add_eq_or_of_lt (i := 8) (Nat.mod_lt g (by omega)) (g / 256)
  simp only [Nat.reducePow] at split
  calc g &&& 0xFF00 = (256 * (g / 256) ||| g % 256) &&& 0xFF00 := by rw [← split, Nat.div_add_mod]
    _ = g / 256 * 256 := by
      rw [Nat.and_or_distrib_right, and_ff00_hi _ (by omega), and_ff00_lo _ (by omega), Nat.or_zero,
        Nat.mul_comm]

theorem tagKey_inj {g e g' e' : Nat} (he : e < 65536) (he' : e' < 65536)
    (h : tagKey g e = tagKey g' e') : g = g' ∧ e = e' := by
  unfold tagKey at h; omega

end Dicom.Dict
