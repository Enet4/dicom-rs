import DicomModel.Model.Bytes
/-
Round-trip, length and byte-range lemmas for the integer codecs.
-/
namespace Dicom

@[simp] theorem le16_length (n : Nat) : (le16 n).length = 2 := rfl
@[simp] theorem be16_length (n : Nat) : (be16 n).length = 2 := rfl
@[simp] theorem le32_length (n : Nat) : (le32 n).length = 4 := rfl
@[simp] theorem be32_length (n : Nat) : (be32 n).length = 4 := rfl
@[simp] theorem le64_length (n : Nat) : (le64 n).length = 8 := rfl
@[simp] theorem be64_length (n : Nat) : (be64 n).length = 8 := rfl
@[simp] theorem enc16_length (be : Bool) (n : Nat) : (enc16 be n).length = 2 := by cases be <;> rfl
@[simp] theorem enc32_length (be : Bool) (n : Nat) : (enc32 be n).length = 4 := by cases be <;> rfl
@[simp] theorem enc64_length (be : Bool) (n : Nat) : (enc64 be n).length = 8 := by cases be <;> rfl

/-! `Nat.mod_mul` is `x % (a * b) = x % a + a * (x / a % b)`. -/

theorem digits16 (n : Nat) : n % 256 + 256 * (n / 256 % 256) = n % 65536 :=
  (Nat.mod_mul (a := 256) (b := 256)).symm

theorem digits32 (n : Nat) :
    n % 256 + 256 * (n / 256 % 256) + 65536 * (n / 65536 % 256) + 16777216 * (n / 16777216 % 256)
      = n % 4294967296 :=
  calc _ = n % 65536 + 65536 * (n / 65536 % 65536) := by
        rw [← digits16 n, ← digits16 (n / 65536), Nat.div_div_eq_div_mul, Nat.mul_add, ← Nat.mul_assoc,
          Nat.add_assoc]
    _ = _ := (Nat.mod_mul (a := 65536) (b := 65536)).symm

theorem rd16_enc16 (be : Bool) (n : Nat) (h : n < 65536) (r : Bytes) :
    rd16 be (enc16 be n ++ r) = some (n, r) := by
  have digits := (digits16 n).trans (Nat.mod_eq_of_lt h)
  cases be
  · exact congrArg (fun x => some (x, r)) digits
  · exact congrArg (fun x => some (x, r)) ((Nat.add_comm _ _).trans digits)

theorem rd32_mod (be : Bool) (n : Nat) (r : Bytes) :
    rd32 be (enc32 be n ++ r) = some (n % 4294967296, r) := by
  have rev (a b c d : Nat) : a + b + c + d = d + c + b + a := by omega
  cases be
  · exact congrArg (fun x => some (x, r)) (digits32 n)
  · exact congrArg (fun x => some (x, r)) ((rev _ _ _ _).trans (digits32 n))

theorem rd32_enc32 (be : Bool) (n : Nat) (h : n < 4294967296) (r : Bytes) :
    rd32 be (enc32 be n ++ r) = some (n, r) := by
  rw [rd32_mod, Nat.mod_eq_of_lt h]

theorem rdLe16_le16 (n : Nat) (h : n < 65536) (r : Bytes) : rdLe16 (le16 n ++ r) = some (n, r) :=
  rd16_enc16 false n h r
theorem rdBe16_be16 (n : Nat) (h : n < 65536) (r : Bytes) : rdBe16 (be16 n ++ r) = some (n, r) :=
  rd16_enc16 true n h r
theorem rdLe32_le32 (n : Nat) (h : n < 4294967296) (r : Bytes) : rdLe32 (le32 n ++ r) = some (n, r) :=
  rd32_enc32 false n h r
theorem rdBe32_be32 (n : Nat) (h : n < 4294967296) (r : Bytes) : rdBe32 (be32 n ++ r) = some (n, r) :=
  rd32_enc32 true n h r

theorem halves64 {n : Nat} (h : n < 18446744073709551616) :
    n % 4294967296 < 4294967296 ∧ n / 4294967296 < 4294967296 :=
  ⟨Nat.mod_lt _ (by decide), Nat.div_lt_of_lt_mul h⟩

theorem rdLe64_le64 (n : Nat) (h : n < 18446744073709551616) (r : Bytes) :
    rdLe64 (le64 n ++ r) = some (n, r) := by
  obtain ⟨h1, h2⟩ := halves64 h
  simp only [rdLe64, le64, List.append_assoc, rdLe32_le32 _ h1, rdLe32_le32 _ h2, Nat.mod_add_div]
theorem rdBe64_be64 (n : Nat) (h : n < 18446744073709551616) (r : Bytes) :
    rdBe64 (be64 n ++ r) = some (n, r) := by
  obtain ⟨h1, h2⟩ := halves64 h
  simp only [rdBe64, be64, List.append_assoc, rdBe32_be32 _ h1, rdBe32_be32 _ h2, Nat.mod_add_div]

theorem rd64_enc64 (be : Bool) (n : Nat) (h : n < 18446744073709551616) (r : Bytes) :
    rd64 be (enc64 be n ++ r) = some (n, r) := by
  cases be
  · exact rdLe64_le64 n h r
  · exact rdBe64_be64 n h r

theorem rd16_append {be : Bool} {p r : Bytes} {n : Nat} (s : Bytes) (h : rd16 be p = some (n, r)) :
    rd16 be (p ++ s) = some (n, r ++ s) := by
  match p, h with
  | _ :: _ :: _, h => cases be <;> cases h <;> rfl
  | [], h | [_], h => cases be <;> cases h

theorem rd32_append {be : Bool} {p r : Bytes} {n : Nat} (s : Bytes) (h : rd32 be p = some (n, r)) :
    rd32 be (p ++ s) = some (n, r ++ s) := by
  match p, h with
  | _ :: _ :: _ :: _ :: _, h => cases be <;> cases h <;> rfl
  | [], h | [_], h | [_, _], h | [_, _, _], h => cases be <;> cases h

theorem IsBytes.mods (l : List Nat) : IsBytes (l.map (· % 256)) := by
  intro b hb
  obtain ⟨x, _, rfl⟩ := List.mem_map.mp hb
  exact Nat.mod_lt x (by decide)

theorem le16_isBytes (n : Nat) : IsBytes (le16 n) := IsBytes.mods [n, n / 256]
theorem be16_isBytes (n : Nat) : IsBytes (be16 n) := IsBytes.mods [n / 256, n]
theorem le32_isBytes (n : Nat) : IsBytes (le32 n) := IsBytes.mods [n, n / 256, n / 65536, n / 16777216]
theorem be32_isBytes (n : Nat) : IsBytes (be32 n) := IsBytes.mods [n / 16777216, n / 65536, n / 256, n]

theorem IsBytes.append {a b : Bytes} (ha : IsBytes a) (hb : IsBytes b) : IsBytes (a ++ b) := by
  intro x hx; rcases List.mem_append.mp hx with h | h
  · exact ha x h
  · exact hb x h

theorem digit_step {a : Nat} (ha : a < 256) (m : Nat) :
    (a + 256 * m) % 256 = a ∧ (a + 256 * m) / 256 = m := by
  rw [Nat.add_mul_mod_self_left, Nat.add_mul_div_left _ _ (by decide : 0 < 256),
    Nat.mod_eq_of_lt ha, Nat.div_eq_of_lt ha, Nat.zero_add]
  exact ⟨rfl, rfl⟩

/-- decoding is the inverse on byte lists: the decoded number re-encodes to the same bytes -/
theorem le16_rdLe16 (a b : Nat) (ha : a < 256) (hb : b < 256) : le16 (a + 256 * b) = [a, b] := by
  obtain ⟨h0, h1⟩ := digit_step ha b
  rw [le16, h0, h1, Nat.mod_eq_of_lt hb]
theorem le32_rdLe32 (a b c d : Nat) (ha : a < 256) (hb : b < 256) (hc : c < 256) (hd : d < 256) :
    le32 (a + 256 * b + 65536 * c + 16777216 * d) = [a, b, c, d] := by
  have horner : a + 256 * b + 65536 * c + 16777216 * d = a + 256 * (b + 256 * (c + 256 * d)) := by
    simp only [Nat.mul_add, ← Nat.mul_assoc, Nat.add_assoc]
  obtain ⟨a0, a1⟩ := digit_step ha (b + 256 * (c + 256 * d))
  obtain ⟨b0, b1⟩ := digit_step hb (c + 256 * d)
  obtain ⟨c0, c1⟩ := digit_step hc d
  have shifts (n : Nat) : le32 n = [n % 256, n / 256 % 256, n / 256 / 256 % 256, n / 256 / 256 / 256 % 256] := by
    simp only [le32, Nat.div_div_eq_div_mul]
  rw [shifts, horner, a0, a1, b0, b1, c0, c1, Nat.mod_eq_of_lt hd]

theorem flatMap_length_const {α : Type} (f : α → Bytes) (k : Nat) (h : ∀ a, (f a).length = k) (l : List α) :
    (l.flatMap f).length = l.length * k := by
  induction l with
  | nil => simp
  | cons a r ih => simp [List.flatMap_cons, ih, h, Nat.add_mul]; omega

theorem takeN_append (a r : Bytes) : takeN a.length (a ++ r) = some (a, r) := by
  simp [takeN]

theorem takeN_short {n : Nat} {bs : Bytes} (h : bs.length < n) : takeN n bs = none := by
  simp [takeN]; omega

end Dicom
